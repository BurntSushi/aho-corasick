import AcVerif.Proofs.VecFind
import AcVerif.Theorems.C06
/-!
# C06 (vector level) – Teddy run on byte vectors through the intrinsics' semantics
equals the lane model, hence returns THE leftmost answer

`AcVerif/Packed/Vector.lean` transcribes `teddy/generic.rs` on 16/32-byte
vectors, every `Vector`/`FatVector` method being the documented semantics of
the x86 intrinsic it wraps.  Here:

* `C06_vector_candidate_slim/_fat` – `candidate` (mask-table shuffles, nybble
  extraction via `srli_epi16`, `alignr`/`permute2x128` shifts, ANDs) computes
  the lane model's candidate lanes and carries, under the encodings
  `laneOfSlim` (lane = byte) / `laneOfFat` (lane = low-half byte + 256 * high-half byte);
* `C06_vector_verify_slim/_fat` – `verify` / `verify64` (64-bit lanes,
  `unpacklo/hi` against the swapped halves for fat) is the lane model's `verify`;
* `C06_vector_find` – the whole search is the lane model's search, for haystack
  slices of at least one window (`hlen`; always true where `find_in` calls it –
  without it the statement is FALSE for fat, see the counterexample below);
* `C06_packed_vector` – `Searcher::find_in` run at the vector level equals the
  lane-level one for every variant, and so (`C06_packed_vector_isFind`) returns
  the leftmost-first / leftmost-longest occurrence.

No assumption on the buckets' contents is needed (both models read a missing
pattern byte as 0); only `nBuckets ∈ {8,16}` and `1 ≤ maskLen ≤ 4`.
-/
namespace AcVerif
open AcVerif.PackedP AcVerif.VecP

/-- slim `candidate` on 16- or 32-byte vectors -/
theorem C06_vector_candidate_slim (t : Teddy) (hB : t.nBuckets = 8)
    (hN : 1 ≤ t.maskLen ∧ t.maskLen ≤ 4) (w : Nat) (hw : w = 16 ∨ w = 32) (chunk : Vec8)
    (hc : chunk.length = w) (prevs : List Vec8)
    (hp : prevs.length = t.maskLen - 1 ∧ ∀ p ∈ prevs, p.length = w) :
    laneOfSlim (candidateV t false w chunk prevs).1 = (t.candidate chunk (prevs.map laneOfSlim)).1 ∧
    (candidateV t false w chunk prevs).2.map laneOfSlim =
      (t.candidate chunk (prevs.map laneOfSlim)).2 := by
  obtain ⟨h1, h2, _⟩ := candidateV_enc (encOK_slim t hB w hw) hN.2 chunk hc prevs hp.1 hp.2
  exact ⟨h1, h2⟩

/-- fat `candidate`: the 16-byte chunk is broadcast to both halves of a 32-byte vector -/
theorem C06_vector_candidate_fat (t : Teddy) (hB : t.nBuckets = 16)
    (hN : 1 ≤ t.maskLen ∧ t.maskLen ≤ 4) (chunk : Vec8) (hc : chunk.length = 16)
    (prevs : List Vec8) (hp : prevs.length = t.maskLen - 1 ∧ ∀ p ∈ prevs, p.length = 32) :
    laneOfFat (candidateV t true 32 (V.loadHalf chunk) prevs).1 =
      (t.candidate chunk (prevs.map laneOfFat)).1 ∧
    (candidateV t true 32 (V.loadHalf chunk) prevs).2.map laneOfFat =
      (t.candidate chunk (prevs.map laneOfFat)).2 := by
  obtain ⟨h1, h2, _⟩ := candidateV_enc (encOK_fat t hB) hN.2 chunk hc prevs hp.1 hp.2
  exact ⟨h1, h2⟩

/-- slim `verify`: `w / 8` 64-bit lanes, 8 positions × 8 buckets each -/
theorem C06_vector_verify_slim (t : Teddy) (hB : t.nBuckets = 8) (w : Nat) (hw : w = 16 ∨ w = 32)
    (hay : PBytes) (base : Nat) (cand : Vec8) (hc : cand.length = w) :
    verifyV t false w hay base cand = t.verify hay base (laneOfSlim cand) :=
  verifyV_slim t hB w hw hay base cand hc

/-- fat `verify`: `unpacklo/hi(cand, swap_halves cand)`, 4 positions × 16 buckets per lane -/
theorem C06_vector_verify_fat (t : Teddy) (hB : t.nBuckets = 16) (hay : PBytes) (base : Nat)
    (cand : Vec8) (hc : cand.length = 32) :
    verifyV t true 32 hay base cand = t.verify hay base (laneOfFat cand) :=
  verifyV_fat t hB hay base cand hc

/-- the mask tables, entry by entry (slim: both halves; fat: bits 0–7 / 8–15) -/
theorem C06_vector_masks_slim (t : Teddy) (hB : t.nBuckets = 8) (i : Nat) (nyb : UInt8)
    (hn : nyb.toNat < 16) (h : Nat) (hh : h = 0 ∨ h = 16) :
    (((maskTables t false i).1.getD (nyb.toNat + h) 0).toNat = t.maskLo i nyb) ∧
    (((maskTables t false i).2.getD (nyb.toNat + h) 0).toNat = t.maskHi i nyb) := by
  rw [maskTables_eq, maskLo_eq, maskHi_eq]
  exact ⟨tbl_slim t hB i _ lo_nyb_lt nyb hn h hh, tbl_slim t hB i _ hi_nyb_lt nyb hn h hh⟩

theorem C06_vector_masks_fat (t : Teddy) (hB : t.nBuckets = 16) (i : Nat) (nyb : UInt8)
    (hn : nyb.toNat < 16) :
    ((maskTables t true i).1.getD nyb.toNat 0).toNat +
        256 * ((maskTables t true i).1.getD (16 + nyb.toNat) 0).toNat = t.maskLo i nyb ∧
    ((maskTables t true i).2.getD nyb.toNat 0).toNat +
        256 * ((maskTables t true i).2.getD (16 + nyb.toNat) 0).toNat = t.maskHi i nyb := by
  rw [maskTables_eq, maskLo_eq, maskHi_eq]
  simp only
  rw [(tbl_fat t hB i _ lo_nyb_lt nyb hn).1, (tbl_fat t hB i _ lo_nyb_lt nyb hn).2,
    (tbl_fat t hB i _ hi_nyb_lt nyb hn).1, (tbl_fat t hB i _ hi_nyb_lt nyb hn).2]
  exact ⟨split256 _, split256 _⟩

/-- the vector-level search equals the lane-level search, on haystack slices holding at least
one window (`find_in` only calls it then) -/
theorem C06_vector_find (t : Teddy) (fat : Bool) (hB : t.nBuckets = if fat then 16 else 8)
    (hN : 1 ≤ t.maskLen ∧ t.maskLen ≤ 4) (w : Nat)
    (hw : if fat then w = 32 else (w = 16 ∨ w = 32)) (hay : PBytes) (start : Nat)
    (hlen : (if fat then 16 else w) ≤ hay.length) :
    findV t fat w hay start = t.find hay start (if fat then 16 else w) := by
  cases fat with
  | false =>
    exact findV_enc (encOK_slim t hB w hw) hN.2 rfl hay start hlen
  | true =>
    have hw' : w = 32 := hw
    subst hw'
    exact findV_enc (encOK_fat t hB) hN.2 rfl hay start hlen

/-- Without `hlen` the statement is false for fat: a 1-byte haystack slice is broadcast to a
2-byte "vector" whose high half is not at offset 16, the candidate is zero, while the lane model
(which has no halves) finds the match.  (`find_in` never does this: it falls back to Rabin-Karp
below `minimum_len`.) -/
example : findV (Teddy.new (PPatterns.new .lf [[1]]) 16) true 32 [1] 0 = none ∧
    (Teddy.new (PPatterns.new .lf [[1]]) 16).find [1] 0 16 = some ⟨0, 0, 1⟩ := by decide +kernel

/-- every variant of the public searcher, run at the vector level, is the lane-level searcher -/
theorem C06_packed_vector (kind : PKind) (pats : List PBytes) (_hne : pats ≠ [])
    (hnz : ∀ p ∈ pats, p ≠ []) (v : Option TeddyVariant) (hay : PBytes) (st en : Nat)
    (hspan : st ≤ en ∧ en ≤ hay.length) :
    (PackedSearcher.new kind pats v).findInV hay st en =
      (PackedSearcher.new kind pats v).findIn hay st en := by
  cases v with
  | none => rfl
  | some v =>
    have hN : ∀ nB, 1 ≤ (Teddy.new (PPatterns.new kind pats) nB).maskLen ∧
        (Teddy.new (PPatterns.new kind pats) nB).maskLen ≤ 4 := fun _ =>
      ⟨Nat.lt_min.2 ⟨by decide, minLen_pos kind pats hnz⟩, Nat.min_le_left _ _⟩
    -- a span of at least `w + (maskLen - 1)` bytes leaves at least `w` bytes of haystack
    have hlen : ∀ w k, ¬ en - st < w + k → w ≤ (hay.take en).length := by
      intro w k h
      rw [List.length_take, Nat.min_eq_left hspan.2]
      exact Nat.le_trans (Nat.le_trans (Nat.le_add_right _ _) (Nat.le_of_not_lt h)) (Nat.sub_le _ _)
    rw [findInV_new, findIn_new]
    split
    · rfl
    · rename_i h16
      cases v with
      | slim128 => exact C06_vector_find _ false rfl (hN 8) 16 (Or.inl rfl) _ st (hlen _ _ h16)
      | slim256 =>
        dsimp only
        split
        · exact C06_vector_find _ false rfl (hN 8) 16 (Or.inl rfl) _ st (hlen _ _ h16)
        · rename_i h32
          exact C06_vector_find _ false rfl (hN 8) 32 (Or.inr rfl) _ st (hlen _ _ h32)
      | fat256 => exact C06_vector_find _ true rfl (hN 16) 32 rfl _ st (hlen _ _ h16)

/-- hence the vector-level searcher returns the leftmost-first / leftmost-longest occurrence -/
theorem C06_packed_vector_isFind (kind : PKind) (pats : List PBytes) (hne : pats ≠ [])
    (hnz : ∀ p ∈ pats, p ≠ []) (v : Option TeddyVariant) (hay : PBytes) (st en : Nat)
    (hspan : st ≤ en ∧ en ≤ hay.length) :
    IsFind kind.toMatchKind pats hay st en false
      ((PackedSearcher.new kind pats v).findInV hay st en) := by
  rw [C06_packed_vector kind pats hne hnz v hay st en hspan]
  exact C06_packed kind pats hne hnz v hay st en hspan

/-! ## non-vacuity: concrete evaluations at the vector level -/

private def hay20 : PBytes := [0, 0, 0, 1, 2, 3, 4, 0, 0, 0, 0, 0, 0, 0, 0, 0, 0, 1, 2, 0]
private def hay40 : PBytes := List.replicate 35 0 ++ [1, 2, 3, 4, 0]

/-- slim 128-bit -/
example : findV (Teddy.new (PPatterns.new .ll [[1, 2], [1, 2, 3]]) 8) false 16 hay20 0 =
    some ⟨1, 3, 6⟩ := by decide +kernel
/-- slim 256-bit, with the overlapped final window -/
example : findV (Teddy.new (PPatterns.new .ll [[1, 2], [1, 2, 3]]) 8) false 32 hay40 0 =
    some ⟨1, 35, 38⟩ := by decide +kernel
/-- fat 256-bit, 16 buckets -/
example : findV (Teddy.new (PPatterns.new .lf [[1, 2], [1, 2, 3]]) 16) true 32 hay20 0 =
    some ⟨0, 3, 5⟩ := by decide +kernel
example : (PackedSearcher.new .ll [[1, 2], [1, 2, 3]] (some .fat256)).findInV hay20 0 20 =
    some ⟨1, 3, 6⟩ := by decide +kernel
example : (PackedSearcher.new .lf [[1, 2], [1, 2, 3]] (some .slim256)).findInV hay40 0 40 =
    some ⟨0, 35, 37⟩ := by decide +kernel
/-- the hypotheses of `C06_vector_find` are satisfiable, and the theorem applies -/
example : findV (Teddy.new (PPatterns.new .ll [[1, 2], [1, 2, 3]]) 16) true 32 hay20 0 =
    (Teddy.new (PPatterns.new .ll [[1, 2], [1, 2, 3]]) 16).find hay20 0 16 :=
  C06_vector_find _ true rfl (by decide) 32 rfl hay20 0 (by decide)
/-- a mask table entry: pattern 0 = `[0x31, 2]` sits in bucket 7 (slim) -/
example : (maskTables (Teddy.new (PPatterns.new .lf [[0x31, 2]]) 8) false 0).1.getD 1 0 = 0x80 ∧
    (maskTables (Teddy.new (PPatterns.new .lf [[0x31, 2]]) 8) false 0).2.getD (3 + 16) 0 = 0x80 := by
  decide +kernel

end AcVerif
