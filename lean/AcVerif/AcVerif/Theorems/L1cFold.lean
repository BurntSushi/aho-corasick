import AcVerif.Theorems.L1c
import AcVerif.Theorems.C11
import AcVerif.Theorems.C11Leftmost
/-!
# L1c (fold) – the noncontiguous-NFA compiler with `ascii_case_insensitive(true)`

`CNfa.compile k true P` inserts the patterns AS GIVEN, doubling every new trie edge on `b` by an
edge on `oppositeAsciiCase b` to the same node, and runs the failure phase with its `seen` set.
For **every** pattern list `P`, match kind `k` and both anchoring modes the result, run by
`CNfa.nextState` on the RAW input bytes, is observationally equivalent to the specification of the
case-insensitive searcher (C11): the ideal automaton of the FOLDED patterns fed FOLDED bytes,
`(ideal k (P.map (·.map foldByte)) .both hasPre).comap foldByte` – equal flags and equal *ordered*
match lists after every byte string (`L1cFold_obsEquiv`, `L1cFold_startEquiv`), and `next_state`
follows exactly `Ideal.hops` failure links (`L1cFold_hops`, `L1cFold_next`).  Hence every engine
result transfers (`L1cFold_find`, `L1cFold_iter`, `L1cFold_overlap`, `L1cFold_overlap_iter`) and
the compiled automaton meets the specification read on folded patterns and folded haystack
(`L1cFold_find_std`, `L1cFold_find_ll`, `L1cFold_find_lf`, `L1cFold_overlap_calls`).

Structure of the proof (`AcVerif/Proofs/Compiler*.lean`, the instance `fold = true`): the nodes are
named by the folded strings; `buildTrie_specG` (trie invariant `TIg`: the edge to
`u ++ [foldByte b]` is taken on `b`, match list of a node = ids of the kept patterns whose FOLD is
the node's string, leftmost-first skipping = `keepLF` of the folded patterns), `PBg_startPhase`,
`fillFailure_specG` (the `seen` set is characterised by `SeenI`: it holds exactly the ids of the
nodes already enqueued, so the second edge to a child is skipped – the queue ORDER may differ from
the one of the folded trie, the specification-level invariants `FI`, `QI`, `QI'` do not depend on
it), `compile_specG` (final specification `NfaSpec foldByte`, written out as `FSf`).  Run time
(`Proofs/CompilerRun.lean`): `NfaSpec.run_step`/`NfaSpec.Rel_step`/`NfaSpec.Rel_mats` (simulation,
relation `L1cP.Rel`).
-/
namespace AcVerif
open AcVerif.L1cP AcVerif.L1cFoldP AcVerif.CNfa

/-- the automaton compiled with `fold = true` and the case-insensitive ideal automaton are
observationally equivalent from their start states: equal flags and equal ORDERED match lists
after every byte string, for both anchoring modes -/
theorem L1cFold_obsEquiv (k : MatchKind) (P : List (List UInt8)) (hasPre : Bool) (anch : Bool) :
    ObsEquiv ((CNfa.compile k true P).toAut k P hasPre)
      ((ideal k (P.map (·.map foldByte)) .both hasPre).comap foldByte) false anch
      (if anch then CNfa.SA else CNfa.SU) (.at []) :=
  L1cG_obsEquiv k true P hasPre anch

theorem L1cFold_searchEquiv (k : MatchKind) (P : List (List UInt8)) (hasPre : Bool) :
    SearchEquiv ((CNfa.compile k true P).toAut k P hasPre)
      ((ideal k (P.map (·.map foldByte)) .both hasPre).comap foldByte) :=
  L1cG_searchEquiv k true P hasPre

/-- hence `StartEquiv`, so every engine result transfers -/
theorem L1cFold_startEquiv (k : MatchKind) (P : List (List UInt8)) (hasPre : Bool) (anch : Bool) :
    StartEquiv ((CNfa.compile k true P).toAut k P hasPre)
      ((ideal k (P.map (·.map foldByte)) .both hasPre).comap foldByte) false anch :=
  (L1cFold_searchEquiv k P hasPre).start anch

/-- the number of failure links followed by `next_state` on the raw byte `c` equals the ideal
chain length on `foldByte c`, at every reachable state -/
theorem L1cFold_hops (k : MatchKind) (P : List (List UInt8)) (hasPre : Bool) (w : List UInt8)
    (c : UInt8) :
    (CNfa.nextState (CNfa.compile k true P) false ((CNfa.compile k true P).size + 1)
        (((CNfa.compile k true P).toAut k P hasPre).runFrom false CNfa.SU w) c 0).2 =
      Ideal.hops k (patSet k (P.map (·.map foldByte))) false
        (((ideal k (P.map (·.map foldByte)) .both hasPre).comap foldByte).runFrom false
          (.at []) w) (foldByte c) := by
  obtain ⟨L, _, h⟩ := L1cG_nextState_run k true P hasPre w c
  exact congrArg Prod.snd h

/-- … and the state it returns is the model's next state -/
theorem L1cFold_next (k : MatchKind) (P : List (List UInt8)) (hasPre : Bool) (w : List UInt8)
    (c : UInt8) :
    ∃ L, FSf k (patSet k (P.map (·.map foldByte))) L (CNfa.compile k true P) ∧
      (CNfa.nextState (CNfa.compile k true P) false ((CNfa.compile k true P).size + 1)
        (((CNfa.compile k true P).toAut k P hasPre).runFrom false CNfa.SU w) c 0).1 =
      sidOf L (Ideal.next k (patSet k (P.map (·.map foldByte))) false
        (((ideal k (P.map (·.map foldByte)) .both hasPre).comap foldByte).runFrom false
          (.at []) w) (foldByte c)) := by
  obtain ⟨L, hS, h⟩ := L1cG_nextState_run k true P hasPre w c
  exact ⟨L, hS.toFSf, congrArg Prod.fst h⟩

/-! ## corollaries: every search result transfers -/

theorem L1cFold_find (k : MatchKind) (P : List (List UInt8)) (hasPre : Bool)
    (pre : Option (Prefilter UInt8)) (i : Input UInt8) :
    tryFindFwd ((CNfa.compile k true P).toAut k P hasPre) pre i =
      tryFindFwd ((ideal k (P.map (·.map foldByte)) .both hasPre).comap foldByte) pre i :=
  (L1cFold_searchEquiv k P hasPre).find pre i

theorem L1cFold_iter (k : MatchKind) (P : List (List UInt8)) (hasPre : Bool)
    (pre : Option (Prefilter UInt8)) (i : Input UInt8) :
    findIter ((CNfa.compile k true P).toAut k P hasPre) pre i =
      findIter ((ideal k (P.map (·.map foldByte)) .both hasPre).comap foldByte) pre i :=
  (L1cFold_searchEquiv k P hasPre).iter pre i

theorem L1cFold_overlap (k : MatchKind) (P : List (List UInt8)) (hasPre : Bool)
    (pre : Option (Prefilter UInt8)) (i : Input UInt8) (n : Nat) :
    ovlCalls ((CNfa.compile k true P).toAut k P hasPre) pre i n OState.start =
      ovlCalls ((ideal k (P.map (·.map foldByte)) .both hasPre).comap foldByte) pre i n
        OState.start :=
  (L1cFold_searchEquiv k P hasPre).overlap pre i n

theorem L1cFold_overlap_iter (k : MatchKind) (P : List (List UInt8)) (hasPre : Bool)
    (pre : Option (Prefilter UInt8)) (i : Input UInt8) (fuel : Nat) :
    ovlIterAux ((CNfa.compile k true P).toAut k P hasPre) pre i fuel OState.start =
      ovlIterAux ((ideal k (P.map (·.map foldByte)) .both hasPre).comap foldByte) pre i fuel
        OState.start :=
  (L1cFold_searchEquiv k P hasPre).overlap_iter pre i fuel

/-! ## … and the compiled case-insensitive automaton meets the specification (C11): occurrences are
read on the folded patterns and the folded haystack -/

/-- standard semantics (C02 through C11) -/
theorem L1cFold_find_std (P : List (List UInt8)) (i : Input UInt8) :
    ∃ r, tryFindFwd ((CNfa.compile .std true P).toAut .std P false) none i = .ok r ∧
      IsFind .std (P.map (·.map foldByte)) (i.hay.map foldByte) i.s i.e i.anch r := by
  rw [L1cFold_find]
  exact C11_find_std P .both i (Or.inl rfl)

/-- leftmost-longest (C01 through C11), both anchoring modes -/
theorem L1cFold_find_ll (P : List (List UInt8)) (i : Input UInt8) (he : i.earliest = false) :
    ∃ r, tryFindFwd ((CNfa.compile .ll true P).toAut .ll P false) none i = .ok r ∧
      IsFind .ll (P.map (·.map foldByte)) (i.hay.map foldByte) i.s i.e i.anch r := by
  rw [L1cFold_find]
  exact C11_find_ll P .both i he (Or.inl rfl)

/-- leftmost-first (C01 through C11), both anchoring modes -/
theorem L1cFold_find_lf (P : List (List UInt8)) (i : Input UInt8) (he : i.earliest = false) :
    ∃ r, tryFindFwd ((CNfa.compile .lf true P).toAut .lf P false) none i = .ok r ∧
      IsFind .lf (P.map (·.map foldByte)) (i.hay.map foldByte) i.s i.e i.anch r := by
  rw [L1cFold_find]
  exact C11_find_lf P .both i he (Or.inl rfl)

/-- overlapping search (C03 through C11) -/
theorem L1cFold_overlap_calls (P : List (List UInt8)) (i : Input UInt8) :
    ∃ l, IsOverlapList (P.map (·.map foldByte)) (i.hay.map foldByte) i.s i.e i.anch l ∧
      ∀ n, ovlCalls ((CNfa.compile .std true P).toAut .std P false) none i n OState.start =
        (l.take n).map (fun m => Except.ok (some m)) ++
          List.replicate (n - l.length) (Except.ok none) := by
  obtain ⟨l, h1, h2⟩ := C11_overlap_std P .both i (Or.inl rfl)
  exact ⟨l, h1, fun n => by rw [L1cFold_overlap]; exact h2 n⟩

/-! ## non-vacuity: patterns `"aB"`, `"Ab"` – one shared leaf listing both ids, two edges per level
(`A`/`a` from the start state, `B`/`b` from the node `a`) -/

/-- six states: 4 = `a`, 5 = `ab` (names = folded strings) -/
example : (CNfa.compile .std true [[0x61, 0x42], [0x41, 0x62]]).size = 6 := by decide +kernel

/-- the start state leaves itself on `A` and `a` only, both to state 4; state 4 has exactly the
edges `B`, `b`, both to state 5; state 5 has none -/
example :
    (((CNfa.compile .std true [[0x61, 0x42], [0x41, 0x62]]).getD 2 {}).trans.filter
        (fun x => x.2 != 2)) = [(0x41, 4), (0x61, 4)] ∧
      ((CNfa.compile .std true [[0x61, 0x42], [0x41, 0x62]]).getD 4 {}).trans =
        [(0x42, 5), (0x62, 5)] ∧
      ((CNfa.compile .std true [[0x61, 0x42], [0x41, 0x62]]).getD 5 {}).trans = [] := by
  decide +kernel

/-- failure links and match lists: the shared leaf lists BOTH pattern ids -/
example : ((CNfa.compile .std true [[0x61, 0x42], [0x41, 0x62]]).toList.map
    fun s => (s.fail, s.matches_)) =
    [(2, []), (2, []), (2, []), (0, []), (2, []), (2, [0, 1])] := by decide +kernel

/-- leftmost-first with folding: `"A"` shadows `"ab"` (skipped: its fold `a` is a proper prefix),
`"Ba"` is kept -/
example : ((CNfa.compile .lf true [[0x41], [0x61, 0x62], [0x42, 0x61]]).toList.map
    fun s => (s.fail, s.matches_)) =
    [(2, []), (2, []), (2, []), (0, []), (0, [0]), (2, []), (0, [2])] := by decide +kernel

/-- run time: `"xAB"` read raw ends in the leaf; so does `"ab"` -/
example :
    ((CNfa.compile .std true [[0x61, 0x42], [0x41, 0x62]]).toAut .std
        [[0x61, 0x42], [0x41, 0x62]] false).runFrom false CNfa.SU [0x78, 0x41, 0x42] = 5 ∧
    ((CNfa.compile .std true [[0x61, 0x42], [0x41, 0x62]]).toAut .std
        [[0x61, 0x42], [0x41, 0x62]] false).runFrom false CNfa.SU [0x61, 0x62] = 5 := by decide +kernel

end AcVerif
