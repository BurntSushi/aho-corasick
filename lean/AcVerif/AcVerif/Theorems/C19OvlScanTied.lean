import AcVerif.Theorems.C19OvlScan
import AcVerif.Theorems.L1dIds
import AcVerif.Theorems.L1cDense
import AcVerif.Theorems.L1d
import AcVerif.Theorems.L1e
/-!
# C19, overlapping search: the per-call prefilter bound on the transcribed automata

`C19_builder_ovl_prescan_tied` (Theorems/C19OvlScan.lean) needs an automaton record
observationally equivalent to the ideal standard automaton of the patterns (only when the
builder chose `memmem`).  The L1 theorems provide that for every transcribed automaton, so for
each of them, whatever the (case-sensitive or not) builder chose under standard semantics, every
call of the stepwise overlapping search does at most `i.e - i.s` prefilter work:
`C19_ovl_prescan_L1c` (the compiled noncontiguous NFA, sparse transitions), `…_L1cDense` (the
same reading its dense rows), `…_L1d` (the DFA), `…_L1dIds` (the id-level DFA), `…_L1e` (the
contiguous NFA).
-/
namespace AcVerif

theorem C19_ovl_prescan_L1c (K : Consts) (fold : Bool) (freq : UInt8 → Nat)
    (pats : List (List UInt8)) (avx2 ssse3 : Bool) (ch : PreChoice)
    (hb : buildPrefilter K .std fold freq pats avx2 ssse3 = some ch)
    (hasPre : Bool) (i : Input UInt8) (n : Nat) :
    ∀ x ∈ ovlCallsScan ((CNfa.compile .std false pats).toAut .std pats hasPre) (some ch.findIn) i n
      OState.start, x ≤ i.e - i.s :=
  C19_builder_ovl_prescan_tied K fold freq pats avx2 ssse3 ch hb .both hasPre
    ((CNfa.compile .std false pats).toAut .std pats hasPre) i rfl
    (fun _ => rfl) (L1c_startEquiv .std pats hasPre i.anch) n

theorem C19_ovl_prescan_L1cDense (K : Consts) (fold : Bool) (freq : UInt8 → Nat)
    (pats : List (List UInt8)) (avx2 ssse3 : Bool) (ch : PreChoice)
    (hb : buildPrefilter K .std fold freq pats avx2 ssse3 = some ch)
    (dd : Nat) (hasPre : Bool) (i : Input UInt8) (n : Nat) :
    ∀ x ∈ ovlCallsScan ((CNfa.compile .std false pats).toAutD
        (denseRows (CNfa.compile .std false pats) dd) .std pats hasPre) (some ch.findIn) i n
      OState.start, x ≤ i.e - i.s :=
  C19_builder_ovl_prescan_tied K fold freq pats avx2 ssse3 ch hb .both hasPre
    ((CNfa.compile .std false pats).toAutD (denseRows (CNfa.compile .std false pats) dd) .std pats
      hasPre) i rfl
    (fun _ => rfl) (L1cDense_startEquiv .std pats dd hasPre i.anch) n

theorem C19_ovl_prescan_L1d (K : Consts) (fold : Bool) (freq : UInt8 → Nat)
    (pats : List (List UInt8)) (avx2 ssse3 : Bool) (ch : PreChoice)
    (hb : buildPrefilter K .std fold freq pats avx2 ssse3 = some ch)
    (hasPre bc : Bool) (sk : StartKind) (i : Input UInt8) (n : Nat) :
    ∀ x ∈ ovlCallsScan ((buildDfa (CNfa.compile .std false pats) sk bc).toAut .std pats hasPre)
      (some ch.findIn) i n OState.start, x ≤ i.e - i.s :=
  C19_builder_ovl_prescan_tied K fold freq pats avx2 ssse3 ch hb sk hasPre
    ((buildDfa (CNfa.compile .std false pats) sk bc).toAut .std pats hasPre) i rfl
    (fun _ => rfl) (L1d_startEquiv .std pats hasPre bc sk i.anch) n

theorem C19_ovl_prescan_L1dIds (K : Consts) (fold : Bool) (freq : UInt8 → Nat)
    (pats : List (List UInt8)) (avx2 ssse3 : Bool) (ch : PreChoice)
    (hb : buildPrefilter K .std fold freq pats avx2 ssse3 = some ch)
    (sk : StartKind) (bc hasPre : Bool) (i : Input UInt8) (n : Nat) :
    ∀ x ∈ ovlCallsScan ((buildDfaIds (CNfa.compile .std false pats) sk bc hasPre).toAut .std pats
      hasPre) (some ch.findIn) i n OState.start, x ≤ i.e - i.s :=
  C19_builder_ovl_prescan_tied K fold freq pats avx2 ssse3 ch hb sk hasPre
    ((buildDfaIds (CNfa.compile .std false pats) sk bc hasPre).toAut .std pats hasPre) i rfl
    (fun _ => rfl) (L1dIds_startEquiv .std pats sk bc hasPre i.anch) n

theorem C19_ovl_prescan_L1e (K : Consts) (fold : Bool) (freq : UInt8 → Nat)
    (pats : List (List UInt8)) (avx2 ssse3 : Bool) (ch : PreChoice)
    (hb : buildPrefilter K .std fold freq pats avx2 ssse3 = some ch)
    (hasPre bc : Bool) (dd : Nat) (hPl : pats.length < 2147483648) (i : Input UInt8) (n : Nat) :
    ∀ x ∈ ovlCallsScan ((buildContig (CNfa.compile .std false pats) dd bc hasPre).toAut .std pats
      hasPre) (some ch.findIn) i n OState.start, x ≤ i.e - i.s :=
  C19_builder_ovl_prescan_tied K fold freq pats avx2 ssse3 ch hb .both hasPre
    ((buildContig (CNfa.compile .std false pats) dd bc hasPre).toAut .std pats hasPre) i rfl
    (fun _ => rfl) (L1e_ideal .std pats hasPre bc dd hPl i.anch) n

end AcVerif
