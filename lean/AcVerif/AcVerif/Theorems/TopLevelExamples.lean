import AcVerif.Theorems.TopLevel
import AcVerif.Theorems.TopLevelPre
import AcVerif.Proofs.TopLevelEval
import AcVerif.Proofs.TableEval
/-!
# The capstone, non-vacuity: concrete configurations, built and searched

For three configurations – an explicitly requested contiguous NFA (leftmost-first, both start
kinds), the automatic choice (a DFA; standard semantics, `ascii_case_insensitive`), and an explicitly
requested noncontiguous NFA with dense rows (leftmost-longest, anchored start kind) –

* `Top_find` is instantiated (its hypotheses are satisfiable: the build succeeds, `Top_build`), and
* the top-level function itself is evaluated by the kernel on the searcher the build returns
  (`topFind_eq_S`: the well-founded search loop in its structural form; `decide +kernel`), and the
  value agrees with the specification.

A fourth configuration carries the builder's prefilter (`TopB_spec`).
-/
namespace AcVerif
open AcVerif.TopP AcVerif.BuildP

deriving instance DecidableEq for Except

/-- the searcher an `acBuild … none` returns for a collection within the bounds, by `Top_build`'s
argument: the unchecked transcription of the chosen kind -/
theorem acBuild_small (cfg : BuildCfg) (P : List (List UInt8)) (hP : P.length ≤ 1000)
    (hT : totalLen P ≤ 1000000) :
    acBuild {} cfg none P =
      .ok (Searcher.mk { cfg with hasPre := (none : Option (Prefilter UInt8)).isSome } P
        (buildUnchecked { cfg with hasPre := (none : Option (Prefilter UInt8)).isSome } P
          (chosenKind cfg P.length)) none) :=
  acBuild_eq_of (pre := none)
    (C20_build_ok_default { cfg with hasPre := (none : Option (Prefilter UInt8)).isSome } P hP hT)

/-! ## 1. `"ab"`, `"b"`, `"a"`; leftmost-first; `StartKind::Both`; `kind(Some(ContiguousNFA))` -/

def ex1Cfg : BuildCfg := { matchKind := .lf, startKind := .both, kind := some .contiguous }
def ex1Pats : List (List UInt8) := [[97, 98], [98], [97]]
/-- haystack `"xab"`, whole span, unanchored -/
def ex1I : Input UInt8 := ⟨[120, 97, 98], 0, 3, false, false, by decide⟩
/-- the same, anchored at offset 2 -/
def ex1A : Input UInt8 := ⟨[120, 97, 98], 2, 3, true, false, by decide⟩

/-- `Top_find` instantiated: the build succeeds and `try_find` returns THE leftmost-first answer -/
example : ∃ s, acBuild {} ex1Cfg none ex1Pats = .ok s ∧ s.kind = .contiguous ∧
    ∃ r, topFind s ex1I = .ok r ∧ IsFind .lf ex1Pats [120, 97, 98] 0 3 false r := by
  obtain ⟨s, hs, hk, _⟩ := Top_build ex1Cfg ex1Pats (by decide) (by decide)
  exact ⟨s, hs, hk, (Top_find ex1Cfg ex1Pats hs ex1I).1 (Or.inl rfl) (Or.inr rfl)⟩

/-- … and the top-level function evaluated: `"ab"` (pattern 0) at `[1, 3)`; anchored at 2: `"b"` -/
example (s : Searcher) (hs : acBuild {} ex1Cfg none ex1Pats = .ok s) :
    topFind s ex1I = .ok (some ⟨0, 1, 3⟩) ∧ topFind s ex1A = .ok (some ⟨1, 2, 3⟩) := by
  rw [acBuild_small ex1Cfg ex1Pats (by decide) (by decide)] at hs
  cases hs
  rw [topFind_eq_S _ rfl, topFind_eq_S _ rfl]
  unfold buildUnchecked buildContig
  rw [classOfMarks_eq_classLt, writeState_eq_denseSkip]
  decide +kernel

/-! ## 2. `"aB"`, `"b"`; standard; `ascii_case_insensitive(true)`; automatic choice (a DFA) -/

def ex2Cfg : BuildCfg := { fold := true }
def ex2Pats : List (List UInt8) := [[97, 66], [98]]
/-- haystack `"xAb"` -/
def ex2I : Input UInt8 := ⟨[120, 65, 98], 0, 3, false, false, by decide⟩
def ex2A : Input UInt8 := ⟨[120, 65, 98], 0, 3, true, false, by decide⟩

/-- `Top_find` instantiated: occurrences are read on the lower-cased patterns and haystack -/
example : ∃ s, acBuild {} ex2Cfg none ex2Pats = .ok s ∧ s.kind = .dfa ∧
    ∃ r, topFind s ex2I = .ok r ∧
      IsFind .std ([[97, 98], [98]] : List (List UInt8)) [120, 97, 98] 0 3 false r := by
  obtain ⟨s, hs, hk, _⟩ := Top_build ex2Cfg ex2Pats (by decide) (by decide)
  refine ⟨s, hs, hk, ?_⟩
  have e1 : specPats true ex2Pats = [[97, 98], [98]] := by decide +kernel
  have e2 : specHay true [120, 65, 98] = [120, 97, 98] := by decide +kernel
  have := (Top_find ex2Cfg ex2Pats hs ex2I).1 (Or.inr (Or.inl ⟨rfl, rfl⟩)) (Or.inl rfl)
  rw [show specPats ex2Cfg.fold ex2Pats = [[97, 98], [98]] from e1,
    show specHay ex2Cfg.fold ex2I.hay = [120, 97, 98] from e2] at this
  exact this

/-- … evaluated: at end 3 both patterns match; the longer one (`"aB"`, pattern 0) is reported.  The
start kind is `Unanchored`: the anchored request is rejected with the error naming it. -/
example (s : Searcher) (hs : acBuild {} ex2Cfg none ex2Pats = .ok s) :
    topFind s ex2I = .ok (some ⟨0, 1, 3⟩) ∧ topFind s ex2A = .error .invalidInputAnchored := by
  rw [acBuild_small ex2Cfg ex2Pats (by decide) (by decide)] at hs
  cases hs
  rw [topFind_eq_S _ rfl, topFind_eq_S _ rfl]
  unfold buildUnchecked buildDfaIds idsOne dfaRow
  rw [classOfMarks_eq_classLt, sparseIter_eq_sparseIterReps]
  decide +kernel

/-- the same rejection from the theorem -/
example (s : Searcher) (hs : acBuild {} ex2Cfg none ex2Pats = .ok s) :
    topFind s ex2A = .error .invalidInputAnchored :=
  (Top_find ex2Cfg ex2Pats hs ex2A).2 (by simp [supportsAnch, ex2Cfg, ex2A])

/-! ## 3. `"a"`, `"ab"`, `"abc"`, `""`; leftmost-longest; `StartKind::Anchored`;
`kind(Some(NoncontiguousNFA))`, dense depth 2 -/

def ex3Cfg : BuildCfg :=
  { matchKind := .ll, startKind := .anchored, kind := some .noncontiguous, nncDenseDepth := 2 }
def ex3Pats : List (List UInt8) := [[97], [97, 98], [97, 98, 99], []]
/-- haystack `"zabx"`, anchored at offset 1 -/
def ex3I : Input UInt8 := ⟨[122, 97, 98, 120], 1, 4, true, false, by decide⟩
/-- … and at offset 0, where only the empty pattern matches -/
def ex3E : Input UInt8 := ⟨[122, 97, 98, 120], 0, 4, true, false, by decide⟩
def ex3U : Input UInt8 := ⟨[122, 97, 98, 120], 0, 4, false, false, by decide⟩

example : ∃ s, acBuild {} ex3Cfg none ex3Pats = .ok s ∧ s.kind = .noncontiguous ∧
    ∃ r, topFind s ex3I = .ok r ∧ IsFind .ll ex3Pats [122, 97, 98, 120] 1 4 true r := by
  obtain ⟨s, hs, hk, _⟩ := Top_build ex3Cfg ex3Pats (by decide) (by decide)
  exact ⟨s, hs, hk, (Top_find ex3Cfg ex3Pats hs ex3I).1 (Or.inr (Or.inr ⟨rfl, rfl⟩)) (Or.inr rfl)⟩

/-- evaluated (the searcher reads its transitions through the stored dense rows): the longest
pattern starting at 1 is `"ab"`; at 0 only `""`; an unanchored request is rejected -/
example (s : Searcher) (hs : acBuild {} ex3Cfg none ex3Pats = .ok s) :
    topFind s ex3I = .ok (some ⟨1, 1, 3⟩) ∧ topFind s ex3E = .ok (some ⟨3, 0, 0⟩) ∧
      topFind s ex3U = .error .invalidInputUnanchored := by
  rw [acBuild_small ex3Cfg ex3Pats (by decide) (by decide)] at hs
  cases hs
  rw [topFind_eq_S _ rfl, topFind_eq_S _ rfl, topFind_eq_S _ rfl]
  unfold topFindS Searcher.aut Built.toAut buildUnchecked builtNnc buildDenseIds denseRows nncClasses
  rw [classOfMarks_eq_classLt]
  decide +kernel

/-! ## the capstone's hypotheses are satisfiable -/

example : ∃ s, acBuild {} ex1Cfg none ex1Pats = .ok s ∧ s.kind = chosenKind ex1Cfg ex1Pats.length ∧
    TopSpec ex1Cfg ex1Pats s :=
  Top_capstone ex1Cfg ex1Pats (by decide) (by decide)

/-! ## 4. with the builder's prefilter: `"ab"`, `"ac"`; leftmost-first; contiguous NFA

`prefilter::Builder` chooses the start-byte prefilter for `a` (all byte ranks equal, no vector
unit).  The search loop with a prefilter has no structural form to evaluate; the value of the
top-level function is obtained from the theorems: it is THE answer (`TopB_spec`), the prefilter-free
searcher returns THE answer (`Top_find`) and evaluates to `"ac"` at `[2, 4)`, and THE answer is
unique (`IsFind_unique`). -/

def ex4Cfg : BuildCfg := { matchKind := .lf, kind := some .contiguous }
def ex4Pats : List (List UInt8) := [[97, 98], [97, 99]]
/-- haystack `"xbac"` -/
def ex4I : Input UInt8 := ⟨[120, 98, 97, 99], 0, 4, false, false, by decide⟩

/-- the searcher built for the same configuration without prefilter -/
def ex4S0 : Searcher :=
  Searcher.mk { ex4Cfg with hasPre := (none : Option (Prefilter UInt8)).isSome } ex4Pats
    (buildUnchecked { ex4Cfg with hasPre := (none : Option (Prefilter UInt8)).isSome } ex4Pats
      (chosenKind ex4Cfg ex4Pats.length)) none

example (s : Searcher)
    (hs : acBuildP {} {} ex4Cfg (fun _ => 0) false false ex4Pats = .ok s) :
    s.pre.isSome = true ∧ topFind s ex4I = .ok (some ⟨1, 2, 4⟩) := by
  have hpre : s.pre = (buildPrefilter {} ex4Cfg.matchKind ex4Cfg.fold (fun _ => 0) ex4Pats false
      false).map PreChoice.findIn := (acBuild_good (Nat.le_refl _) hs).2.2.2
  refine ⟨?_, ?_⟩
  · rw [hpre, Option.isSome_map]
    decide +kernel
  · -- the searcher with prefilter returns THE answer …
    obtain ⟨r, h1, h2⟩ := ((TopB_spec {} ex4Cfg (fun _ => 0) false false ex4Pats hs).find ex4I).1
      (Or.inr (Or.inl ⟨rfl, rfl⟩)) (Or.inr rfl)
    -- … so does the searcher without, whose value the kernel computes
    have h0 : acBuild {} ex4Cfg none ex4Pats = .ok ex4S0 :=
      acBuild_small ex4Cfg ex4Pats (by decide) (by decide)
    obtain ⟨r0, h3, h4⟩ := (Top_find ex4Cfg ex4Pats h0 ex4I).1 (Or.inr (Or.inl ⟨rfl, rfl⟩))
      (Or.inr rfl)
    have h5 : topFind ex4S0 ex4I = .ok (some ⟨1, 2, 4⟩) :=
      (topFind_eq_S ex4S0 rfl ex4I).trans (by
        unfold ex4S0 buildUnchecked buildContig
        rw [classOfMarks_eq_classLt, writeState_eq_denseSkip]
        decide +kernel)
    have h6 : r0 = some ⟨1, 2, 4⟩ := (Except.ok.inj (h3.symm.trans h5))
    rw [h1, IsFind_unique _ _ _ _ _ _ _ _ h2 (h6 ▸ h4)]

end AcVerif
