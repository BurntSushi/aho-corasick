import AcVerif.Theorems.L1d
import AcVerif.Theorems.L1cFold
import AcVerif.Proofs.TableEval
/-!
# L1d (fold) – the DFA built from the NFA compiled with `ascii_case_insensitive(true)`

`buildDfa N sk byteClasses` applied to `N = CNfa.compile k true P` (both-case edges in the trie) is,
for **every** pattern list, match kind, start kind and both settings of `byte_classes`,
observationally equivalent to `N` run on the RAW input bytes and hence (with L1cFold) to the
specification of the case-insensitive searcher (C11), the ideal automaton of the FOLDED patterns
fed FOLDED bytes, `(ideal k (P.map (·.map foldByte)) sk hasPre).comap foldByte`; it supports exactly
the anchoring modes of its start kind (`L1dG_obsEquiv`, `L1dG_obsEquiv_ideal`, `L1dG_start` of
`Theorems/L1d.lean` at `fold = true`; `L1dFold_startEquiv`).  So every search result transfers
(`L1dFold_find`, `L1dFold_iter`, `L1dFold_overlap`, `L1dFold_overlap_iter`), including the error for
an unsupported anchoring mode, and the DFA meets the specification read on folded patterns and
folded haystack (`L1dFold_find_std`, `L1dFold_find_ll`, `L1dFold_find_lf`, `L1dFold_overlap_calls`).

The only point where folding matters is the key lemma "byte classes are a congruence of the NFA":
the `ByteClassSet` is computed from `trieBytes N`, the bytes that carry an explicit edge in `N`
itself, and with folding BOTH cases of a letter carry one (`NfaSpec.edge_mem`: an edge to
`u ++ [foldByte b]` puts the raw byte `b` into `trieBytes N`), so two different bytes of one class
still have no edge at any live state (`NfaSpec.follow_cong_VU`, `follow_cong_VA`,
`nextState_cong`).  In particular `A` and `a` may share a class only if neither occurs (in either
case) in a pattern.
-/
namespace AcVerif
open AcVerif.L1cP AcVerif.L1dP AcVerif.L1cFoldP AcVerif.CNfa

theorem L1dFold_searchEquiv (k : MatchKind) (P : List (List UInt8)) (hasPre bc : Bool)
    (sk : StartKind) :
    SearchEquiv ((buildDfa (CNfa.compile k true P) sk bc).toAut k P hasPre)
      ((ideal k (P.map (·.map foldByte)) sk hasPre).comap foldByte) :=
  L1dG_searchEquiv k true P hasPre bc sk

/-- `StartEquiv` with the case-insensitive ideal automaton of the same start kind, for **every**
anchoring mode: equivalent start states if the mode is supported, both reject it otherwise -/
theorem L1dFold_startEquiv (k : MatchKind) (P : List (List UInt8)) (hasPre bc : Bool)
    (sk : StartKind) (anch : Bool) :
    StartEquiv ((buildDfa (CNfa.compile k true P) sk bc).toAut k P hasPre)
      ((ideal k (P.map (·.map foldByte)) sk hasPre).comap foldByte) false anch :=
  (L1dFold_searchEquiv k P hasPre bc sk).start anch

/-! ## corollaries: every search result transfers (for every input: a supported anchoring mode
gives the result of the case-insensitive ideal automaton, an unsupported one the same error) -/

theorem L1dFold_find (k : MatchKind) (P : List (List UInt8)) (hasPre bc : Bool) (sk : StartKind)
    (pre : Option (Prefilter UInt8)) (i : Input UInt8) :
    tryFindFwd ((buildDfa (CNfa.compile k true P) sk bc).toAut k P hasPre) pre i =
      tryFindFwd ((ideal k (P.map (·.map foldByte)) sk hasPre).comap foldByte) pre i :=
  (L1dFold_searchEquiv k P hasPre bc sk).find pre i

/-- the error case made explicit -/
theorem L1dFold_find_unsupported (k : MatchKind) (P : List (List UInt8)) (hasPre bc : Bool)
    (sk : StartKind) (pre : Option (Prefilter UInt8)) (i : Input UInt8)
    (h : ¬ supportsAnch sk i.anch) (hd : i.isDone = true) :
    tryFindFwd ((buildDfa (CNfa.compile k true P) sk bc).toAut k P hasPre) pre i =
      .error (if i.anch then .invalidInputAnchored else .invalidInputUnanchored) := by
  unfold tryFindFwd
  rw [if_pos hd, buildDfa_start_none _ k P hasPre bc h]

theorem L1dFold_iter (k : MatchKind) (P : List (List UInt8)) (hasPre bc : Bool) (sk : StartKind)
    (pre : Option (Prefilter UInt8)) (i : Input UInt8) :
    findIter ((buildDfa (CNfa.compile k true P) sk bc).toAut k P hasPre) pre i =
      findIter ((ideal k (P.map (·.map foldByte)) sk hasPre).comap foldByte) pre i :=
  (L1dFold_searchEquiv k P hasPre bc sk).iter pre i

theorem L1dFold_overlap (k : MatchKind) (P : List (List UInt8)) (hasPre bc : Bool) (sk : StartKind)
    (pre : Option (Prefilter UInt8)) (i : Input UInt8) (n : Nat) :
    ovlCalls ((buildDfa (CNfa.compile k true P) sk bc).toAut k P hasPre) pre i n OState.start =
      ovlCalls ((ideal k (P.map (·.map foldByte)) sk hasPre).comap foldByte) pre i n
        OState.start :=
  (L1dFold_searchEquiv k P hasPre bc sk).overlap pre i n

theorem L1dFold_overlap_iter (k : MatchKind) (P : List (List UInt8)) (hasPre bc : Bool)
    (sk : StartKind) (pre : Option (Prefilter UInt8)) (i : Input UInt8) (fuel : Nat) :
    ovlIterAux ((buildDfa (CNfa.compile k true P) sk bc).toAut k P hasPre) pre i fuel
        OState.start =
      ovlIterAux ((ideal k (P.map (·.map foldByte)) sk hasPre).comap foldByte) pre i fuel
        OState.start :=
  (L1dFold_searchEquiv k P hasPre bc sk).overlap_iter pre i fuel

/-! ## … and the case-insensitive DFA meets the specification (C11): occurrences are read on the
folded patterns and the folded haystack -/

/-- standard semantics (C02 through C11) -/
theorem L1dFold_find_std (P : List (List UInt8)) (bc : Bool) (sk : StartKind) (i : Input UInt8)
    (h : supportsAnch sk i.anch) :
    ∃ r, tryFindFwd ((buildDfa (CNfa.compile .std true P) sk bc).toAut .std P false) none i =
        .ok r ∧
      IsFind .std (P.map (·.map foldByte)) (i.hay.map foldByte) i.s i.e i.anch r := by
  rw [L1dFold_find]
  exact C11_find_std P sk i h

/-- leftmost-longest (C01 through C11) -/
theorem L1dFold_find_ll (P : List (List UInt8)) (bc : Bool) (sk : StartKind) (i : Input UInt8)
    (he : i.earliest = false) (h : supportsAnch sk i.anch) :
    ∃ r, tryFindFwd ((buildDfa (CNfa.compile .ll true P) sk bc).toAut .ll P false) none i =
        .ok r ∧
      IsFind .ll (P.map (·.map foldByte)) (i.hay.map foldByte) i.s i.e i.anch r := by
  rw [L1dFold_find]
  exact C11_find_ll P sk i he h

/-- leftmost-first (C01 through C11) -/
theorem L1dFold_find_lf (P : List (List UInt8)) (bc : Bool) (sk : StartKind) (i : Input UInt8)
    (he : i.earliest = false) (h : supportsAnch sk i.anch) :
    ∃ r, tryFindFwd ((buildDfa (CNfa.compile .lf true P) sk bc).toAut .lf P false) none i =
        .ok r ∧
      IsFind .lf (P.map (·.map foldByte)) (i.hay.map foldByte) i.s i.e i.anch r := by
  rw [L1dFold_find]
  exact C11_find_lf P sk i he h

/-- overlapping search (C03 through C11) -/
theorem L1dFold_overlap_calls (P : List (List UInt8)) (bc : Bool) (sk : StartKind)
    (i : Input UInt8) (h : supportsAnch sk i.anch) :
    ∃ l, IsOverlapList (P.map (·.map foldByte)) (i.hay.map foldByte) i.s i.e i.anch l ∧
      ∀ n, ovlCalls ((buildDfa (CNfa.compile .std true P) sk bc).toAut .std P false) none i n
          OState.start =
        (l.take n).map (fun m => Except.ok (some m)) ++
          List.replicate (n - l.length) (Except.ok none) := by
  obtain ⟨l, h1, h2⟩ := C11_overlap_std P sk i h
  exact ⟨l, h1, fun n => by rw [L1dFold_overlap]; exact h2 n⟩

/-! ## non-vacuity: patterns `"aB"`, `"Ab"`, start kind `Both`, byte classes on

NFA states: 4 = `a`, 5 = `ab` (names = folded strings).  The trie bytes are `A`, `a`, `B`, `b`, so
the classes are `0 ↦ [0, 0x40]`, `1 ↦ A`, `2 ↦ B`, `3 ↦ [0x43, 0x60]`, `4 ↦ a`, `5 ↦ b`,
`6 ↦ [0x63, 0xFF]`: the two cases of a letter are in DIFFERENT classes with EQUAL row entries.
DFA ids: 0 dead, 1 fail, 2 / 3 the start states, (4, 5) for `a`, (6, 7) for `ab`. -/

/-- the classes of `@ A B C a b c` -/
example : ([0x40, 0x41, 0x42, 0x43, 0x61, 0x62, 0x63].map
    (buildDfa (CNfa.compile .std true [[0x61, 0x42], [0x41, 0x62]]) .both true).classOf) =
    [0, 1, 2, 3, 4, 5, 6] := by
  unfold buildDfa buildBoth dfaRow
  rw [classOfMarks_eq_classLt, sparseIter_eq_sparseIterReps]
  decide +kernel

/-- the unanchored start row: `A` and `a` lead to the node `a` (id 4), all else back to 2 -/
example : ((buildDfa (CNfa.compile .std true [[0x61, 0x42], [0x41, 0x62]]) .both true).rows.getD
    2 #[]).toList = [2, 4, 2, 2, 4, 2, 2] := by
  unfold buildDfa buildBoth dfaRow
  rw [classOfMarks_eq_classLt, sparseIter_eq_sparseIterReps]
  decide +kernel

/-- the anchored row of the node `a`: `B` and `b` lead to the anchored copy of `ab` (id 7) -/
example : ((buildDfa (CNfa.compile .std true [[0x61, 0x42], [0x41, 0x62]]) .both true).rows.getD
    5 #[]).toList = [0, 0, 7, 0, 0, 7, 0] := by
  unfold buildDfa buildBoth dfaRow
  rw [classOfMarks_eq_classLt, sparseIter_eq_sparseIterReps]
  decide +kernel

/-- the start states, and the match lists: both copies of `ab` list BOTH pattern ids -/
example : (buildDfa (CNfa.compile .std true [[0x61, 0x42], [0x41, 0x62]]) .both true).startU =
      some 2 ∧
    (buildDfa (CNfa.compile .std true [[0x61, 0x42], [0x41, 0x62]]) .both true).startA = some 3 ∧
    (buildDfa (CNfa.compile .std true [[0x61, 0x42], [0x41, 0x62]]) .both true).matches_.toList =
      [[], [], [], [], [], [], [0, 1], [0, 1]] := by
  unfold buildDfa buildBoth dfaRow
  rw [classOfMarks_eq_classLt, sparseIter_eq_sparseIterReps]
  decide +kernel

end AcVerif
