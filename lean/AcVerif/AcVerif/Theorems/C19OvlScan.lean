import AcVerif.Proofs.OvlScanBounds
import AcVerif.Proofs.OvlScanSingle
import AcVerif.Theorems.C19Scan
import AcVerif.Theorems.C05
/-!
# C19 – the prefilter work of ONE CALL of the stepwise overlapping search

`tryOvlScan A pre i st` (AcVerif/PreScan.lean) is the total haystack extent the prefilter answers
of one call of `try_find_overlapping_fwd` account for; `ovlCallsScan A pre i n st` lists it for
every call of a call history.  The instrumented real code reports the same per-call numbers.

Side condition on the state (`OvlReach i st`: `st.id = none ∨ i.s ≤ st.at_`): it holds for
`OState.start` and every call preserves it (`C19_ovl_reach_start`, `C19_ovl_reach_step`), so it
holds along every call history from `OState.start`.

For ANY automaton record `A`:

* `C19_ovl_prescan_call_le'`: `PreWithin pre` and `PreNoMtch pre` (the prefilter never confirms a
  match – the candidate half of `PreUniform`): one call's extent is `≤ i.e - i.s`.
* `C19_ovl_prescan_call_le_len`: `PreWithin pre` and `PreMtchLen L pre`:
  `≤ (i.e - i.s) + L * (i.e - i.s - 1)`.  This is the statement for a confirming prefilter.
* `C19_ovl_prescan_mtch_exceeds`, `C19_ovl_prescan_call_not_le_of_uniform`:
  **`PreWithin ∧ PreUniform` does NOT give `≤ i.e - i.s` for one overlapping call.**  In
  `findScan` a confirming prefilter ends the search on its initial answer and never reaches the
  loop; the overlapping search has no initial call, the confirming prefilter is consulted inside
  the loop, the stretch is counted to `m.stop` while the loop resumes at `m.start`.  The example
  attains the `L`-slack bound (`9 = 5 + 1 * 4`).
* `C19_ovl_prescan_calls_from`: the bound of `C19_ovl_prescan_call_le'` for every entry of
  `ovlCallsScan A pre i n st`.
* `C19_ovl_prescan_exact` (the bound `i.e - i.s` is attained), `C19_ovl_prescan_startBytes` (the
  builder's start-byte prefilter jumping twice in one call), `C19_ovl_prescan_needs_within`
  (`PreWithin` cannot be dropped): evaluated examples.

The builder's prefilters under standard semantics (`buildPrefilter K .std …`): never the packed
searcher; `memmem` only for one case-sensitive pattern.

* `C19_builder_ovl_prescan_le`: a choice other than `memmem` – for every automaton record every
  call's extent is `≤ i.e - i.s`.  `…_fold` (case-insensitive) and `…_multi` (not exactly one
  pattern) discharge the proviso.
* `memmem` (single pattern `p`): for an arbitrary automaton record only the `L = |p|` slack
  bound holds (`C19_builder_ovl_prescan_memmem_len`) and `≤ i.e - i.s` is FALSE
  (`C19_builder_ovl_memmem_any_aut_exceeds`).  For the automaton of the pattern
  (`ideal .std [p] sk hasPre`) and every automaton record observationally equivalent to it
  (`StartEquiv`, which is what the L1 theorems give for the compiled automata:
  `Theorems/C19OvlScanTied.lean`) `≤ i.e - i.s`
  holds: a call contains at most one confirmed match (`C19_ovl_prescan_call_single`,
  `C19_builder_ovl_prescan_memmem_tied`).
* `C19_builder_ovl_prescan_tied`: all together – any choice of the case-sensitive builder, any
  automaton record tied to `ideal .std pats sk hasPre`.
-/
namespace AcVerif
open AcVerif.ScanP AcVerif.EngP
variable {σ α : Type}

/-- the prefilter never confirms a match (the second alternative of `PreUniform`) -/
def PreNoMtch (pre : Option (Prefilter α)) : Prop :=
  ∀ p, pre = some p → ∀ hay a e m, p hay a e ≠ .mtch m

theorem PreNoMtch.uniform {pre : Option (Prefilter α)} (h : PreNoMtch pre) : PreUniform pre :=
  fun p hp => Or.inr (h p hp)

theorem PreNoMtch.mtchLen {pre : Option (Prefilter α)} (h : PreNoMtch pre) :
    PreMtchLen 0 pre :=
  fun p hp hay a e m hc => absurd hc (h p hp hay a e m)

theorem PreUniform.noMtch_of_pos {pre : Option (Prefilter α)} (h : PreUniform pre)
    (hpos : ∀ p, pre = some p → ∃ hay a e j, p hay a e = .pos j) : PreNoMtch pre := by
  intro p hp
  rcases h p hp with h1 | h1
  · obtain ⟨hay, a, e, j, hj⟩ := hpos p hp
    exact absurd hj (h1 hay a e j)
  · exact h1

/-! ## the side condition -/

theorem C19_ovl_reach_start (i : Input α) : OvlReach i (OState.start : OState σ) :=
  OvlReach.start i

theorem C19_ovl_reach_step (A : Aut σ α) (pre : Option (Prefilter α)) (i : Input α)
    (st st' : OState σ) (hr : OvlReach i st) (h : tryFindOverlappingFwd A pre i st = .ok st') :
    OvlReach i st' :=
  OvlReach.step A pre i st st' hr h

/-! ## one call -/

theorem C19_ovl_prescan_call_le_len (A : Aut σ α) (pre : Option (Prefilter α)) (L : Nat)
    (hpre : PreWithin pre) (hlen : PreMtchLen L pre) (i : Input α) (st : OState σ)
    (hr : OvlReach i st) :
    tryOvlScan A pre i st ≤ (i.e - i.s) + L * (i.e - i.s - 1) := by
  refine tryOvlScan_le_of A pre i st hr _ ?_
  intro hse _ sid at_ hat
  have hok : LoopOk L (if i.anch then Option.none else pre) i.hay i.e := by
    cases i.anch
    · exact hpre.loopOk hlen i.hay i.e i.valid.1
    · intro p hp; cases hp
  have h := scanLoop_le A i.hay i.s i.e i.valid.1 _ L hok i.anch true sid at_ 0
  have hm := scanBound_mono L (show i.e - at_ ≤ i.e - i.s by omega)
  unfold scanBound at h hm
  omega

/-- **C19, one call of `try_find_overlapping_fwd`**, any automaton record, a prefilter that only
reports candidates: at most `i.e - i.s` prefilter work.  `hr` is `OvlReach i st` spelled out. -/
theorem C19_ovl_prescan_call_le' (A : Aut σ α) (pre : Option (Prefilter α))
    (hpre : PreWithin pre) (hnm : PreNoMtch pre) (i : Input α) (st : OState σ)
    (hr : st.id = Option.none ∨ i.s ≤ st.at_) :
    tryOvlScan A pre i st ≤ i.e - i.s := by
  have := C19_ovl_prescan_call_le_len A pre 0 hpre hnm.mtchLen i st hr
  simpa using this

/-! ## a call history -/

theorem C19_ovl_prescan_calls_from (A : Aut σ α) (pre : Option (Prefilter α))
    (hpre : PreWithin pre) (hnm : PreNoMtch pre) (i : Input α) (n : Nat) (st : OState σ)
    (hr : OvlReach i st) :
    ∀ x ∈ ovlCallsScan A pre i n st, x ≤ i.e - i.s :=
  ovlCallsScan_forall_le A pre i _ (C19_ovl_prescan_call_le' A pre hpre hnm i) n st hr

end AcVerif

/-! ## the prefilters of the builder model, standard semantics -/
namespace AcVerif
open AcVerif.ScanP AcVerif.PreP AcVerif.EngP
variable {σ : Type}

/-- the byte-set prefilters never confirm a match -/
theorem C19_choice_noMtch (c : PreChoice) (hm : ∀ needle, c ≠ .memmem needle)
    (hp : ∀ s, c ≠ .packed s) : PreNoMtch (some c.findIn) := by
  intro p hp'
  cases hp'
  have h := C19_choice_shape c
  cases c with
  | memmem needle => exact absurd rfl (hm needle)
  | startBytes bs => exact h
  | rareBytes bs offs => exact h
  | packed srch => exact absurd rfl (hp srch)

/-- `memmem` is only chosen by the case-sensitive builder, for exactly one pattern -/
theorem C19_builder_memmem_single {K : Consts} {k : MatchKind} {fold : Bool}
    {freq : UInt8 → Nat} {pats : List (List UInt8)} {avx2 ssse3 : Bool} {needle : List UInt8}
    (hb : buildPrefilter K k fold freq pats avx2 ssse3 = some (.memmem needle)) :
    fold = false ∧ pats = [needle] ∧ needle ≠ [] := by
  cases fold with
  | true =>
    exact absurd rfl ((((C05_builder_gates K k true freq pats avx2 ssse3).2 _ hb).1 rfl).1 needle)
  | false =>
    have hne := build_pats_ne hb
    have := (C05_memmem_sound K k freq pats avx2 ssse3 hne _ hb needle rfl).1
    subst this
    exact ⟨rfl, rfl, hne needle (List.mem_singleton.2 rfl)⟩

theorem C19_builder_ovl_noMtch (K : Consts) (fold : Bool) (freq : UInt8 → Nat)
    (pats : List (List UInt8)) (avx2 ssse3 : Bool) (ch : PreChoice)
    (hb : buildPrefilter K .std fold freq pats avx2 ssse3 = some ch)
    (hmm : ∀ needle, ch ≠ .memmem needle) :
    PreWithin (some ch.findIn) ∧ PreNoMtch (some ch.findIn) :=
  ⟨(C19_builder_within K .std fold freq pats avx2 ssse3 ch hb).1,
    C19_choice_noMtch ch hmm (((C05_builder_gates K .std fold freq pats avx2 ssse3).2 ch hb).2 rfl)⟩

/-- **C19 for the builder's prefilters, overlapping search**: a choice other than `memmem`;
whatever the automaton record, every call's prefilter extent is at most the span length. -/
theorem C19_builder_ovl_prescan_le (K : Consts) (fold : Bool) (freq : UInt8 → Nat)
    (pats : List (List UInt8)) (avx2 ssse3 : Bool) (ch : PreChoice)
    (hb : buildPrefilter K .std fold freq pats avx2 ssse3 = some ch)
    (hmm : ∀ needle, ch ≠ .memmem needle)
    (A : Aut σ UInt8) (i : Input UInt8) (n : Nat) :
    ∀ x ∈ ovlCallsScan A (some ch.findIn) i n OState.start, x ≤ i.e - i.s :=
  have h := C19_builder_ovl_noMtch K fold freq pats avx2 ssse3 ch hb hmm
  C19_ovl_prescan_calls_from A _ h.1 h.2 i n _ (OvlReach.start i)

theorem C19_builder_ovl_prescan_call_le (K : Consts) (fold : Bool) (freq : UInt8 → Nat)
    (pats : List (List UInt8)) (avx2 ssse3 : Bool) (ch : PreChoice)
    (hb : buildPrefilter K .std fold freq pats avx2 ssse3 = some ch)
    (hmm : ∀ needle, ch ≠ .memmem needle)
    (A : Aut σ UInt8) (i : Input UInt8) (st : OState σ) (hr : OvlReach i st) :
    tryOvlScan A (some ch.findIn) i st ≤ i.e - i.s :=
  have h := C19_builder_ovl_noMtch K fold freq pats avx2 ssse3 ch hb hmm
  C19_ovl_prescan_call_le' A _ h.1 h.2 i st hr

/-- the case-insensitive builder never chooses `memmem` -/
theorem C19_builder_ovl_prescan_le_fold (K : Consts) (freq : UInt8 → Nat)
    (pats : List (List UInt8)) (avx2 ssse3 : Bool) (ch : PreChoice)
    (hb : buildPrefilter K .std true freq pats avx2 ssse3 = some ch)
    (A : Aut σ UInt8) (i : Input UInt8) (n : Nat) :
    ∀ x ∈ ovlCallsScan A (some ch.findIn) i n OState.start, x ≤ i.e - i.s :=
  C19_builder_ovl_prescan_le K true freq pats avx2 ssse3 ch hb
    (((C05_builder_gates K .std true freq pats avx2 ssse3).2 ch hb).1 rfl).1 A i n

/-- not exactly one pattern: never `memmem` -/
theorem C19_builder_ovl_prescan_le_multi (K : Consts) (fold : Bool) (freq : UInt8 → Nat)
    (pats : List (List UInt8)) (avx2 ssse3 : Bool) (ch : PreChoice)
    (hb : buildPrefilter K .std fold freq pats avx2 ssse3 = some ch) (hlen : pats.length ≠ 1)
    (A : Aut σ UInt8) (i : Input UInt8) (n : Nat) :
    ∀ x ∈ ovlCallsScan A (some ch.findIn) i n OState.start, x ≤ i.e - i.s := by
  refine C19_builder_ovl_prescan_le K fold freq pats avx2 ssse3 ch hb ?_ A i n
  intro needle hch
  subst hch
  have := (C19_builder_memmem_single hb).2.1
  rw [this] at hlen
  exact hlen rfl

/-! ### `memmem` (one case-sensitive pattern) -/

theorem memmem_mtchLen (needle : List UInt8) :
    PreMtchLen needle.length (some (PreChoice.memmem needle).findIn) := by
  intro p hp hay a e m hc
  injection hp with hp
  subst hp
  simp only [PreChoice.findIn] at hc
  split at hc
  · cases hc
  · injection hc with hc
    subst hc
    exact Nat.le_refl _

theorem memmem_memLike (needle : List UInt8) (hay : List UInt8) (e : Nat) :
    MemLike needle (PreChoice.memmem needle).findIn hay e := by
  intro a _
  simp only [PreChoice.findIn]
  cases hm : memmemIn needle hay a e with
  | none => trivial
  | some q =>
    obtain ⟨h1, h2, h3, _⟩ := memmemIn_some hm
    exact ⟨h1, rfl, h2, h3⟩

/-- `memmem`, ANY automaton record: the slack is one needle length per further in-loop call -/
theorem C19_builder_ovl_prescan_memmem_len (needle : List UInt8) (A : Aut σ UInt8)
    (i : Input UInt8) (n : Nat) :
    ∀ x ∈ ovlCallsScan A (some (PreChoice.memmem needle).findIn) i n OState.start,
      x ≤ (i.e - i.s) + needle.length * (i.e - i.s - 1) :=
  ovlCallsScan_forall_le A _ i _
    (C19_ovl_prescan_call_le_len A _ needle.length
      (C19_choice_within (.memmem needle) (fun _ h => by cases h)) (memmem_mtchLen needle) i)
    n _ (OvlReach.start i)

/-- one call of the automaton of a single pattern with a prefilter confirming its occurrences:
at most one confirmed match, so at most the span length -/
theorem C19_ovl_prescan_call_single (p : List UInt8) (hne : p ≠ []) (sk : StartKind)
    (hasPre : Bool) (pre : Prefilter UInt8) (hpre : ∀ hay e, MemLike p pre hay e)
    (i : Input UInt8) (st : OState (St UInt8)) (hr : OvlReach i st) :
    tryOvlScan (ideal .std [p] sk hasPre) (some pre) i st ≤ i.e - i.s := by
  refine tryOvlScan_le_of _ _ i st hr _ ?_
  intro hse _ sid at_ hat
  cases hanch : i.anch with
  | true =>
    simp only [if_true]
    have h := scanLoop_le (ideal .std [p] sk hasPre) i.hay i.s i.e i.valid.1 Option.none 0
      (fun p hp => by cases hp) true true sid at_ 0
    rw [scanBound_zero_left] at h
    omega
  | false =>
    simp only [Bool.false_eq_true, if_false]
    have h := scanLoop_single_le p hne sk hasPre i.hay i.s i.e i.valid.1 pre (hpre i.hay i.e)
      sid at_ 0
    omega

/-- `memmem` with an automaton record observationally equivalent to the automaton of its
pattern: the per-call extents are those of that automaton, at most the span length -/
theorem C19_builder_ovl_prescan_memmem_tied (K : Consts) (fold : Bool) (freq : UInt8 → Nat)
    (pats : List (List UInt8)) (avx2 ssse3 : Bool) (needle : List UInt8)
    (hb : buildPrefilter K .std fold freq pats avx2 ssse3 = some (.memmem needle))
    (sk : StartKind) (hasPre : Bool) (X : Aut σ UInt8) (i : Input UInt8)
    (hk : X.kind = .std) (hl : ∀ pid, X.patLen pid = (ideal .std pats sk hasPre).patLen pid)
    (h : StartEquiv X (ideal .std pats sk hasPre) false i.anch) (n : Nat) :
    ∀ x ∈ ovlCallsScan X (some (PreChoice.memmem needle).findIn) i n OState.start,
      x ≤ i.e - i.s := by
  rw [ovlCallsScan_transfer X (ideal .std pats sk hasPre) _ i hk hl h n _ _ (ORel.start _ _ _)]
  obtain ⟨_, hp, hne⟩ := C19_builder_memmem_single hb
  subst hp
  exact ovlCallsScan_forall_le _ _ i _
    (C19_ovl_prescan_call_single needle hne sk hasPre _ (memmem_memLike needle) i) n _
    (OvlReach.start i)

/-- **C19 for the builder's prefilters, overlapping search, all choices**: whatever the builder
chooses under standard semantics, every call's prefilter extent is at most the span length, for
every automaton record tied to the ideal standard automaton of the patterns (the tie is only
used when the choice is `memmem`). -/
theorem C19_builder_ovl_prescan_tied (K : Consts) (fold : Bool) (freq : UInt8 → Nat)
    (pats : List (List UInt8)) (avx2 ssse3 : Bool) (ch : PreChoice)
    (hb : buildPrefilter K .std fold freq pats avx2 ssse3 = some ch)
    (sk : StartKind) (hasPre : Bool) (X : Aut σ UInt8) (i : Input UInt8)
    (hk : X.kind = .std) (hl : ∀ pid, X.patLen pid = (ideal .std pats sk hasPre).patLen pid)
    (h : StartEquiv X (ideal .std pats sk hasPre) false i.anch) (n : Nat) :
    ∀ x ∈ ovlCallsScan X (some ch.findIn) i n OState.start, x ≤ i.e - i.s := by
  by_cases hmm : ∃ needle, ch = .memmem needle
  · obtain ⟨needle, rfl⟩ := hmm
    exact C19_builder_ovl_prescan_memmem_tied K fold freq pats avx2 ssse3 needle hb sk hasPre X i
      hk hl h n
  · exact C19_builder_ovl_prescan_le K fold freq pats avx2 ssse3 ch hb
      (fun needle hc => hmm ⟨needle, hc⟩) X i n

theorem C19_builder_ovl_prescan_ideal (K : Consts) (fold : Bool) (freq : UInt8 → Nat)
    (pats : List (List UInt8)) (avx2 ssse3 : Bool) (ch : PreChoice)
    (hb : buildPrefilter K .std fold freq pats avx2 ssse3 = some ch)
    (sk : StartKind) (hasPre : Bool) (i : Input UInt8) (n : Nat) :
    ∀ x ∈ ovlCallsScan (ideal .std pats sk hasPre) (some ch.findIn) i n OState.start,
      x ≤ i.e - i.s := by
  refine C19_builder_ovl_prescan_tied K fold freq pats avx2 ssse3 ch hb sk hasPre _ i rfl
    (fun _ => rfl) ?_ n
  unfold StartEquiv
  cases (ideal .std pats sk hasPre).start i.anch with
  | none => trivial
  | some a => exact fun _ => rfl

end AcVerif

/-! ## non-vacuity, exactness, necessity

The automaton is `ideal .std [[1, 2], [3]] .unanchored true`; on bytes other than `1` and `3` it
stays in its start state, so the prefilter is consulted at every such position the loop
visits. -/
namespace AcVerif
open AcVerif.ScanP

private def exA : Aut (St UInt8) UInt8 := ideal .std [[1, 2], [3]] .unanchored true

private def zeros6 : Input UInt8 := ⟨[0, 0, 0, 0, 0, 0], 0, 6, false, false, by decide⟩
private def zeros5 : Input UInt8 := ⟨[0, 0, 0, 0, 0], 0, 5, false, false, by decide⟩

/-- a candidate two bytes further on, as long as there is room -/
private def stepPre : Prefilter UInt8 := fun _ a e => if a + 2 ≤ e then .pos (a + 2) else .none

private theorem stepPre_ok : PreWithin (some stepPre) ∧ PreNoMtch (some stepPre) := by
  constructor
  · intro p hp hay a e hae he
    injection hp with hp; subst hp
    unfold stepPre
    by_cases h : a + 2 ≤ e
    · rw [if_pos h]; exact ⟨by omega, h⟩
    · rw [if_neg h]; trivial
  · intro p hp
    injection hp with hp; subst hp
    intro hay a e m h
    unfold stepPre at h
    split at h <;> cases h

/-- one call, three prefilter calls (at 0, 2 and 4), two jumps, stretches `0..2`, `2..4`, `4..6`:
the total is the span length exactly – `C19_ovl_prescan_call_le'` is tight.  The second call
finds the state at the end of the span and does no prefilter work. -/
theorem C19_ovl_prescan_exact :
    PreWithin (some stepPre) ∧ PreNoMtch (some stepPre) ∧
    tryOvlScan exA (some stepPre) zeros6 OState.start = 6 ∧ zeros6.e - zeros6.s = 6 ∧
    ovlCallsScan exA (some stepPre) zeros6 2 OState.start = [6, 0] :=
  ⟨stepPre_ok.1, stepPre_ok.2, by decide +kernel, rfl, by decide +kernel⟩

private def hay2jumps : Input UInt8 := ⟨[0, 0, 1, 0, 0, 1, 0, 0], 0, 8, false, false, by decide⟩
private def hay013 : Input UInt8 := ⟨[0, 0, 1, 0, 0, 3, 0, 3], 0, 8, false, false, by decide⟩

/-- the start-byte prefilter of the builder model (it is what the builder chooses for these
patterns), jumping twice within ONE call: calls at 0 (candidate 2), 3 (candidate 5) and 6
(nothing: the call ends), stretches `0..2`, `3..5`, `6..8`.  The candidate bytes themselves are
walked by the automaton and are not prefilter work, so with a byte-set prefilter a call that
jumps stays below the span length.  On `hay013` the first call ends with the match of `[3]` at
`5..6` after two jumps (extent 4), the second call jumps once more (extent 1), the third
reports nothing. -/
theorem C19_ovl_prescan_startBytes :
    (buildPrefilter {} .std false (fun _ => 0) [[1, 2], [3]] false false).map PreChoice.name =
      some "start2" ∧
    tryOvlScan exA (some (PreChoice.startBytes [1, 3]).findIn) hay2jumps OState.start = 6 ∧
    hay2jumps.e - hay2jumps.s = 8 ∧
    ovlCallsScan exA (some (PreChoice.startBytes [1, 3]).findIn) hay013 3 OState.start =
      [4, 1, 0] :=
  ⟨by decide, by decide +kernel, rfl, by decide +kernel⟩

/-! ### `PreWithin` is needed -/

/-- a candidate beyond the end of the span -/
private def farPre : Prefilter UInt8 := fun _ _ e => .pos (e + 3)

theorem C19_ovl_prescan_needs_within :
    PreNoMtch (some farPre) ∧ tryOvlScan exA (some farPre) zeros6 OState.start = 9 ∧
    zeros6.e - zeros6.s = 6 :=
  ⟨fun p hp => by
      injection hp with hp; subst hp
      exact (fun _ _ _ _ h => by cases h),
    by decide +kernel, rfl⟩

theorem C19_ovl_prescan_call_not_le_of_noMtch :
    ¬ ∀ (A : Aut (St UInt8) UInt8) (pre : Option (Prefilter UInt8)), PreNoMtch pre →
        ∀ i : Input UInt8, tryOvlScan A pre i OState.start ≤ i.e - i.s := by
  intro h
  have := h exA (some farPre) C19_ovl_prescan_needs_within.1 zeros6
  rw [C19_ovl_prescan_needs_within.2.1] at this
  exact absurd this (by decide)

/-! ### `PreWithin ∧ PreUniform` is not enough: a confirming prefilter inside the loop -/

/-- confirmed matches of length ≤ 1 starting one byte after the start of the span -/
private def mtchPre : Prefilter UInt8 := fun _ a e => .mtch ⟨0, a + 1, min (a + 2) e⟩

private theorem mtchPre_ok :
    PreWithin (some mtchPre) ∧ PreUniform (some mtchPre) ∧ PreMtchLen 1 (some mtchPre) := by
  refine ⟨?_, ?_, ?_⟩
  · intro p hp hay a e hae he
    injection hp with hp; subst hp
    exact Nat.min_le_right _ _
  · intro p hp
    injection hp with hp; subst hp
    exact Or.inl (fun _ _ _ _ h => by cases h)
  · intro p hp hay a e m h
    injection hp with hp; subst hp
    unfold mtchPre at h
    injection h with h
    subst h
    exact Nat.min_le_left _ _

/-- The bound `i.e - i.s` is FALSE for one overlapping call under `PreWithin ∧ PreUniform`: the
prefilter only confirms matches, it is consulted inside the loop, the stretch is counted to
`m.stop` and the loop resumes at `m.start`.  Calls at 0, 1, 2, 3, 4 report the stretches `0..2`,
`1..3`, `2..4`, `3..5`, `4..5`: `9 = 5 + 1 * (5 - 1)`, the bound of
`C19_ovl_prescan_call_le_len` is attained. -/
theorem C19_ovl_prescan_mtch_exceeds :
    PreWithin (some mtchPre) ∧ PreUniform (some mtchPre) ∧ PreMtchLen 1 (some mtchPre) ∧
    tryOvlScan exA (some mtchPre) zeros5 OState.start = 9 ∧ zeros5.e - zeros5.s = 5 :=
  ⟨mtchPre_ok.1, mtchPre_ok.2.1, mtchPre_ok.2.2, by decide +kernel, rfl⟩

theorem C19_ovl_prescan_call_not_le_of_uniform :
    ¬ ∀ (A : Aut (St UInt8) UInt8) (pre : Option (Prefilter UInt8)), PreWithin pre →
        PreUniform pre → ∀ (i : Input UInt8) (st : OState (St UInt8)), OvlReach i st →
          tryOvlScan A pre i st ≤ i.e - i.s := by
  intro h
  have := h exA (some mtchPre) mtchPre_ok.1 mtchPre_ok.2.1 zeros5 OState.start
    (OvlReach.start _)
  rw [C19_ovl_prescan_mtch_exceeds.2.2.2.1] at this
  exact absurd this (by decide)

/-! ### `memmem` with an automaton that is not the automaton of its pattern -/

private def hay55 : Input UInt8 := ⟨[0, 0, 5, 5, 5, 5], 0, 6, false, false, by decide⟩

/-- The builder chooses `memmem` for the single pattern `[5, 5]`.  Combined with an automaton
record that stays in its start state on `5` (it is the automaton of OTHER patterns) one call
reports the stretches `0..4`, `2..4`, `3..5`, `4..6`, `5..6`: `11 > 6`.  With the automaton of
`[5, 5]` the same call reports `0..4` only and returns the match at `2..4`. -/
theorem C19_builder_ovl_memmem_any_aut_exceeds :
    buildPrefilter {} .std false (fun _ => 0) [[5, 5]] false false = some (.memmem [5, 5]) ∧
    tryOvlScan exA (some (PreChoice.memmem [5, 5]).findIn) hay55 OState.start = 11 ∧
    hay55.e - hay55.s = 6 ∧
    ovlCallsScan (ideal .std [[5, 5]] .unanchored true) (some (PreChoice.memmem [5, 5]).findIn)
      hay55 5 OState.start = [4, 0, 0, 0, 0] :=
  ⟨by rfl, by decide +kernel, rfl, by decide +kernel⟩

end AcVerif
