import AcVerif.Theorems.C16
import AcVerif.Theorems.L1d
import AcVerif.Theorems.L1e
import AcVerif.Theorems.L1cFold
import AcVerif.Proofs.Contract
import AcVerif.Proofs.ContigOut
/-!
# C16 (all pattern lists) – the `Automaton` contract holds at every state of the ideal automaton,
and at every reachable state of every transcribed automaton

`C16.lean` shows that the *local check* `Table.contractOk` of a dumped table is sound.  Here the
same conditions are proved outright, for **every** pattern list, match kind and start kind:

* `C16_ideal_contract`: at every state of the ideal automaton (generic alphabet) dead and match
  states are special, a special state is dead, match or start, a state is a match state iff it
  lists a pattern, no state is dead and match, and every listed id is `< P.length`;
  `C16_ideal_dead_absorbing`: the dead state is absorbing.
* transferred along the `SearchEquiv` of L1c / L1d / L1e / L1cFold (`SearchEquiv.contractAt`,
  `SearchEquiv.dead_absorbing` in `Proofs/Contract.lean`, for any two automaton records) to the
  state reached after **any** byte string from a start state of a supported anchoring mode:
  `C16_contract_nfa`, `C16_contract_dfa`, `C16_contract_contig` (`P.length < 2^31`),
  `C16_contract_nfa_fold`.  The clause `special ⇒ dead ∨ match ∨ start` mentions `is_start`, which
  is not an observation; it is read off the definitions of the transcriptions (`special_cases`)
  (`C16_start_nfa`, `C16_start_dfa`: at every state id; `C16_start_contig`: at every reachable
  state, using where the shuffle puts the start states).
* `C16_dead_absorbing_nfa/_dfa/_contig/_nfa_fold`: once a reachable state reports `is_dead`, so does
  the state after every continuation.
-/
namespace AcVerif
open AcVerif.L1cP AcVerif.L1dP AcVerif.L1eP AcVerif.L1cIdsP AcVerif.CNfa

variable {σ τ α : Type}

/-! ## the ideal automaton -/

section ideal
variable [DecidableEq α]

/-- **C16 for the ideal automaton.**  At every state: dead and match states are special; a
special state is dead, match or start; match iff the list is non-empty; never dead and match;
every listed id is a pattern id. -/
theorem C16_ideal_contract (k : MatchKind) (P : List (List α)) (sk : StartKind) (hasPre : Bool)
    (q : St α) :
    (((ideal k P sk hasPre).isDead q = true ∨ (ideal k P sk hasPre).isMatch q = true) →
        (ideal k P sk hasPre).isSpecial q = true) ∧
    ((ideal k P sk hasPre).isSpecial q = true →
        (ideal k P sk hasPre).isDead q = true ∨ (ideal k P sk hasPre).isMatch q = true ∨
          (ideal k P sk hasPre).isStart q = true) ∧
    ((ideal k P sk hasPre).isMatch q = true ↔ (ideal k P sk hasPre).mpats q ≠ []) ∧
    ¬ ((ideal k P sk hasPre).isDead q = true ∧ (ideal k P sk hasPre).isMatch q = true) ∧
    (∀ p ∈ (ideal k P sk hasPre).mpats q, p < P.length) := by
  refine ⟨?_, fun h => (special_cases (s := q == St.at []) h).imp_right
      (Or.imp_left fun h => (Bool.and_eq_true_iff.1 h).2), List.not_isEmpty_eq_true, ?_,
    fun p hp => mem_out_lt (k := k) (P := P) (q := q) hp⟩
  · show ((q == St.dead) = true ∨ (!(Ideal.out k (patSet k P) q).isEmpty) = true) →
      ((q == St.dead) || !(Ideal.out k (patSet k P) q).isEmpty || (hasPre && q == St.at [])) = true
    rintro (h | h) <;> simp [h]
  · rintro ⟨h1, h2⟩
    obtain rfl : q = .dead := by simpa using (show (q == St.dead) = true from h1)
    cases h2

/-- the dead state of the ideal automaton is absorbing -/
theorem C16_ideal_dead_absorbing (k : MatchKind) (P : List (List α)) (sk : StartKind)
    (hasPre anch : Bool) (c : α) : (ideal k P sk hasPre).next anch .dead c = .dead := rfl

/-- the observable part, packaged -/
theorem ideal_contractAt (k : MatchKind) (P : List (List α)) (sk : StartKind) (hasPre : Bool)
    (q : St α) : (ideal k P sk hasPre).ContractAt q := by
  obtain ⟨h1, _, h3, h4, h5⟩ := C16_ideal_contract k P sk hasPre q
  exact ⟨h1, h3, h4, h5⟩

/-- the same for the case-insensitive specification automaton (ideal automaton of the mapped
patterns reading mapped symbols): `comap` changes only `next` -/
theorem ideal_comap_contractAt (k : MatchKind) (P : List (List α)) (sk : StartKind) (hasPre : Bool)
    (g : α → α) (q : St α) : ((ideal k P sk hasPre).comap g).ContractAt q :=
  ideal_contractAt k P sk hasPre q

end ideal

/-! ## the transcribed automata -/

/-- the noncontiguous NFA: the contract holds at the state reached after any byte string, for both
anchoring modes -/
theorem C16_contract_nfa (k : MatchKind) (P : List (List UInt8)) (hasPre anch : Bool) (s0 : Nat)
    (hs : ((CNfa.compile k false P).toAut k P hasPre).start anch = some s0) (w : List UInt8) :
    ((CNfa.compile k false P).toAut k P hasPre).ContractAt
      (((CNfa.compile k false P).toAut k P hasPre).runFrom anch s0 w) :=
  (L1c_searchEquiv k P hasPre).contractAt rfl (ideal_contractAt k P .both hasPre) hs w

/-- `special ⇒ dead ∨ match ∨ start` for the noncontiguous NFA record: at every state id, for
every `CNfa` -/
theorem C16_start_nfa (n : CNfa) (k : MatchKind) (P : List (List UInt8)) (hasPre : Bool) (q : Nat)
    (h : (n.toAut k P hasPre).isSpecial q = true) :
    (n.toAut k P hasPre).isDead q = true ∨ (n.toAut k P hasPre).isMatch q = true ∨
      (n.toAut k P hasPre).isStart q = true :=
  special_cases (s := q == CNfa.SU || q == CNfa.SA) h

/-- the DFA, every start kind, both settings of `byte_classes` -/
theorem C16_contract_dfa (k : MatchKind) (P : List (List UInt8)) (hasPre bc : Bool) (sk : StartKind)
    (anch : Bool) (s0 : Nat)
    (hs : ((buildDfa (CNfa.compile k false P) sk bc).toAut k P hasPre).start anch = some s0)
    (w : List UInt8) :
    ((buildDfa (CNfa.compile k false P) sk bc).toAut k P hasPre).ContractAt
      (((buildDfa (CNfa.compile k false P) sk bc).toAut k P hasPre).runFrom anch s0 w) :=
  (L1d_searchEquiv k P hasPre bc sk).contractAt rfl (ideal_contractAt k P sk hasPre) hs w

/-- `special ⇒ dead ∨ match ∨ start` for the DFA record: at every state id, for every `DfaM` -/
theorem C16_start_dfa (d : DfaM) (k : MatchKind) (P : List (List UInt8)) (hasPre : Bool) (q : Nat)
    (h : (d.toAut k P hasPre).isSpecial q = true) :
    (d.toAut k P hasPre).isDead q = true ∨ (d.toAut k P hasPre).isMatch q = true ∨
      (d.toAut k P hasPre).isStart q = true :=
  special_cases (s := some q == d.startU || some q == d.startA) h

/-- the contiguous NFA (word level), every dense depth, both settings of `byte_classes` -/
theorem C16_contract_contig (k : MatchKind) (P : List (List UInt8)) (hasPre bc : Bool) (dd : Nat)
    (hP : P.length < 2147483648) (anch : Bool) (s0 : Nat)
    (hs : ((buildContig (CNfa.compile k false P) dd bc hasPre).toAut k P hasPre).start anch = some s0)
    (w : List UInt8) :
    ((buildContig (CNfa.compile k false P) dd bc hasPre).toAut k P hasPre).ContractAt
      (((buildContig (CNfa.compile k false P) dd bc hasPre).toAut k P hasPre).runFrom anch s0 w) :=
  (L1e_searchEquiv k P hasPre bc dd hP).contractAt rfl (ideal_contractAt k P .both hasPre) hs w

/-- `special ⇒ dead ∨ match ∨ start` at every reachable state of the contiguous NFA -/
theorem C16_start_contig (k : MatchKind) (P : List (List UInt8)) (hasPre bc : Bool) (dd : Nat)
    (hP : P.length < 2147483648) (anch : Bool) (s0 : Nat)
    (hs : ((buildContig (CNfa.compile k false P) dd bc hasPre).toAut k P hasPre).start anch = some s0)
    (w : List UInt8)
    (h : ((buildContig (CNfa.compile k false P) dd bc hasPre).toAut k P hasPre).isSpecial
      (((buildContig (CNfa.compile k false P) dd bc hasPre).toAut k P hasPre).runFrom anch s0 w) = true) :
    ((buildContig (CNfa.compile k false P) dd bc hasPre).toAut k P hasPre).isDead
        (((buildContig (CNfa.compile k false P) dd bc hasPre).toAut k P hasPre).runFrom anch s0 w) = true ∨
      ((buildContig (CNfa.compile k false P) dd bc hasPre).toAut k P hasPre).isMatch
        (((buildContig (CNfa.compile k false P) dd bc hasPre).toAut k P hasPre).runFrom anch s0 w) = true ∨
      ((buildContig (CNfa.compile k false P) dd bc hasPre).toAut k P hasPre).isStart
        (((buildContig (CNfa.compile k false P) dd bc hasPre).toAut k P hasPre).runFrom anch s0 w) = true := by
  -- the flags of the contiguous NFA are read off the layout; the bound `hP` is not needed
  have _ := hP
  obtain ⟨L, _, _, hL, hC⟩ := L1e_live k P bc anch
  rw [buildContig_eq] at hs h ⊢
  obtain ⟨s, hv, hq, _⟩ := (contig_renames hL hC dd hasPre k P).reach hL.start
    (congrArg some (contig_start hL hC dd hasPre)) hs w
  rw [hq] at h ⊢
  exact ((hC.special_iff dd hasPre hL.mm k P hv).1 h).imp_right (Or.imp_right And.right)

/-- the noncontiguous NFA compiled with `ascii_case_insensitive(true)` -/
theorem C16_contract_nfa_fold (k : MatchKind) (P : List (List UInt8)) (hasPre anch : Bool) (s0 : Nat)
    (hs : ((CNfa.compile k true P).toAut k P hasPre).start anch = some s0) (w : List UInt8) :
    ((CNfa.compile k true P).toAut k P hasPre).ContractAt
      (((CNfa.compile k true P).toAut k P hasPre).runFrom anch s0 w) :=
  (L1cFold_searchEquiv k P hasPre).contractAt (List.length_map _).symm
    (ideal_comap_contractAt k _ .both hasPre foldByte) hs w

/-! ## the dead state is absorbing, at every reachable state of every transcribed automaton -/

theorem C16_dead_absorbing_nfa (k : MatchKind) (P : List (List UInt8)) (hasPre anch : Bool)
    (w v : List UInt8)
    (hd : ((CNfa.compile k false P).toAut k P hasPre).isDead
      (((CNfa.compile k false P).toAut k P hasPre).runFrom anch (if anch then CNfa.SA else CNfa.SU) w) = true) :
    ((CNfa.compile k false P).toAut k P hasPre).isDead
      (((CNfa.compile k false P).toAut k P hasPre).runFrom anch (if anch then CNfa.SA else CNfa.SU)
        (w ++ v)) = true :=
  (L1c_searchEquiv k P hasPre).dead_absorbing (ideal_deadAbsorbing k P .both hasPre anch id) rfl w v hd

theorem C16_dead_absorbing_dfa (k : MatchKind) (P : List (List UInt8)) (hasPre bc : Bool)
    (sk : StartKind) (anch : Bool) (s0 : Nat)
    (hs : ((buildDfa (CNfa.compile k false P) sk bc).toAut k P hasPre).start anch = some s0)
    (w v : List UInt8)
    (hd : ((buildDfa (CNfa.compile k false P) sk bc).toAut k P hasPre).isDead
      (((buildDfa (CNfa.compile k false P) sk bc).toAut k P hasPre).runFrom anch s0 w) = true) :
    ((buildDfa (CNfa.compile k false P) sk bc).toAut k P hasPre).isDead
      (((buildDfa (CNfa.compile k false P) sk bc).toAut k P hasPre).runFrom anch s0 (w ++ v)) = true :=
  (L1d_searchEquiv k P hasPre bc sk).dead_absorbing (ideal_deadAbsorbing k P sk hasPre anch id) hs w v
    hd

theorem C16_dead_absorbing_contig (k : MatchKind) (P : List (List UInt8)) (hasPre bc : Bool)
    (dd : Nat) (hP : P.length < 2147483648) (anch : Bool) (w v : List UInt8)
    (hd : ((buildContig (CNfa.compile k false P) dd bc hasPre).toAut k P hasPre).isDead
      (((buildContig (CNfa.compile k false P) dd bc hasPre).toAut k P hasPre).runFrom anch
        (if anch then (buildContig (CNfa.compile k false P) dd bc hasPre).startA
          else (buildContig (CNfa.compile k false P) dd bc hasPre).startU) w) = true) :
    ((buildContig (CNfa.compile k false P) dd bc hasPre).toAut k P hasPre).isDead
      (((buildContig (CNfa.compile k false P) dd bc hasPre).toAut k P hasPre).runFrom anch
        (if anch then (buildContig (CNfa.compile k false P) dd bc hasPre).startA
          else (buildContig (CNfa.compile k false P) dd bc hasPre).startU) (w ++ v)) = true :=
  (L1e_searchEquiv k P hasPre bc dd hP).dead_absorbing
    (ideal_deadAbsorbing k P .both hasPre anch id) rfl w v hd

theorem C16_dead_absorbing_nfa_fold (k : MatchKind) (P : List (List UInt8)) (hasPre anch : Bool)
    (w v : List UInt8)
    (hd : ((CNfa.compile k true P).toAut k P hasPre).isDead
      (((CNfa.compile k true P).toAut k P hasPre).runFrom anch (if anch then CNfa.SA else CNfa.SU) w) = true) :
    ((CNfa.compile k true P).toAut k P hasPre).isDead
      (((CNfa.compile k true P).toAut k P hasPre).runFrom anch (if anch then CNfa.SA else CNfa.SU)
        (w ++ v)) = true :=
  (L1cFold_searchEquiv k P hasPre).dead_absorbing
    (ideal_deadAbsorbing k _ .both hasPre anch foldByte) rfl w v hd

/-- what `ContractAt` says, spelled out (so that the statements above can be read without
unfolding): for the noncontiguous NFA -/
theorem C16_contract_nfa_spelled (k : MatchKind) (P : List (List UInt8)) (hasPre anch : Bool)
    (w : List UInt8) :
    let A := (CNfa.compile k false P).toAut k P hasPre
    let q := A.runFrom anch (if anch then CNfa.SA else CNfa.SU) w
    ((A.isDead q = true ∨ A.isMatch q = true) → A.isSpecial q = true) ∧
    (A.isSpecial q = true → A.isDead q = true ∨ A.isMatch q = true ∨ A.isStart q = true) ∧
    (A.isMatch q = true ↔ A.mpats q ≠ []) ∧
    ¬ (A.isDead q = true ∧ A.isMatch q = true) ∧
    (∀ p ∈ A.mpats q, p < P.length) := by
  intro A q
  have h : A.ContractAt q := C16_contract_nfa k P hasPre anch (if anch then CNfa.SA else CNfa.SU) rfl w
  exact ⟨h.1, C16_start_nfa _ k P hasPre q, h.2.1, h.2.2.1, h.2.2.2⟩

end AcVerif
