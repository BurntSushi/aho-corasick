import AcVerif.Proofs.StreamFold
import AcVerif.Proofs.StreamTransfer
import AcVerif.Theorems.L1cFold
import AcVerif.Theorems.L1dFold
import AcVerif.Theorems.L1dIdsFold
import AcVerif.Theorems.L1eFold
import AcVerif.Proofs.TableEval
/-!
# C07 / C08 / C18 for the ASCII-case-insensitive searcher

The case-insensitive searcher is `(ideal .std (P.map (·.map foldByte)) sk false).comap foldByte`
(C11): the automaton of the FOLDED patterns whose transition function folds the input byte first.
For **every** pattern list `P` (non-empty, no empty pattern), every start kind supporting
unanchored search, every stream `data`, read schedule (entries `≥ 1`) and buffer constants leaving
one byte of room beyond `min` (`hcap`, stated for the `maxLen` of that automaton, which is the
maximal pattern length of `P`: folding keeps lengths):

* `C07Fold_stream_eq_iter`: `StreamFindIter` yields exactly the matches of the in-memory
  `FindIter` of the case-insensitive automaton on the whole stream, no I/O error, no `read` into an
  empty buffer; `C07Fold_stream_spec`: these are *the* standard answers (`IsFind .std`) for the
  folded patterns on the FOLDED stream, iterated (`C07Fold_iter_folded`: the in-memory iterator is
  the iterator of the plain automaton over the folded stream).
* `C08Fold_chunks_concat`: the chunks concatenate to the **raw** stream `data`, and each match
  chunk carries exactly the raw bytes `(data.take m.stop).drop m.start` (matching is on folded
  bytes, the bytes handed out are the unfolded ones); `C08Fold_replace_eq`: stream replace writes
  `replaceBytes data ms repl none` computed on the raw stream from the matches of the
  case-insensitive iterator, calling the closure with the same (match, raw bytes) arguments.
* `C18Fold_read_fault`, `C18Fold_write_fault`: prefix properties under a failing reader / writer.
* Transfer to the transcribed case-insensitive builders (`CNfa.compile .std true P` and the DFA,
  id-level DFA and contiguous NFA built from it), through `StreamTiedTo` (what `StreamTied` says,
  for an arbitrary reference automaton) and the `*Fold_searchEquiv` theorems
  (`StreamTiedTo.of_searchEquiv_fold`, `Proofs/StreamTransfer.lean`):
  `L1cFold_stream`, `L1cFold_stream_spec`, `L1cFold_stream_replace`, `L1cFold_read_fault`,
  `L1cFold_write_fault`, and the same five for `L1dFold`, `L1dIdsFold`, `L1eFold`.

The searcher is an instance of `StreamP.StreamRef` on the raw stream (`streamRef_comap`,
`Proofs/StreamFold.lean`): `Hyp` comes from the ideal facts on the folded stream through
`firstMatch_comap`.
-/
namespace AcVerif
open AcVerif.StreamX AcVerif.StreamP AcVerif.StdP AcVerif.MiscP AcVerif.CNfa

/-- the in-memory iterator of the case-insensitive automaton is the iterator of the plain
automaton of the folded patterns over the folded stream -/
theorem C07Fold_iter_folded (P : List (List UInt8)) (sk : StartKind) (data : List UInt8) :
    findIter ((ideal .std (P.map (·.map foldByte)) sk false).comap foldByte) none
        { hay := data, s := 0, e := data.length, anch := false, earliest := false,
          valid := ⟨Nat.le_refl _, Nat.zero_le _⟩ } =
      findIter (ideal .std (P.map (·.map foldByte)) sk false) none
        { hay := data.map foldByte, s := 0, e := (data.map foldByte).length, anch := false,
          earliest := false, valid := ⟨Nat.le_refl _, Nat.zero_le _⟩ } := by
  have := findIter_comap (ideal .std (P.map (·.map foldByte)) sk false) foldByte (whole data)
  rw [whole_mapHay] at this
  exact this

/-! ## C07 -/

theorem C07Fold_stream_eq_iter (P : List (List UInt8)) (_hP : P ≠ []) (hne : ∀ p ∈ P, p ≠ [])
    (sk : StartKind) (hsk : supportsAnch sk false) (data : List UInt8) (sched : List Nat)
    (hs : ∀ x ∈ sched, 1 ≤ x) (spare : Option Nat) (minFactor defaultCap : Nat)
    (hcap : HasRoom UInt8 ((ideal .std (P.map (·.map foldByte)) sk false).comap foldByte).maxLen
      spare minFactor defaultCap) :
    ∃ ms,
      findIter ((ideal .std (P.map (·.map foldByte)) sk false).comap foldByte) none
        { hay := data, s := 0, e := data.length, anch := false, earliest := false,
          valid := ⟨Nat.le_refl _, Nat.zero_le _⟩ } = .ok ms ∧
      streamFind ((ideal .std (P.map (·.map foldByte)) sk false).comap foldByte)
        { data := data, sched := sched } spare minFactor defaultCap = .ok (ms, false, 0) :=
  (streamRef_comap _ foldByte sk hsk (map_map_ne_nil foldByte hne) data spare minFactor defaultCap hcap).eq_iter hs

/-- the stream yields the specification's iterator over *the* standard answers for the folded
patterns on the folded stream -/
theorem C07Fold_stream_spec (P : List (List UInt8)) (_hP : P ≠ []) (hne : ∀ p ∈ P, p ≠ [])
    (sk : StartKind) (hsk : supportsAnch sk false) (data : List UInt8) (sched : List Nat)
    (hs : ∀ x ∈ sched, 1 ≤ x) (spare : Option Nat) (minFactor defaultCap : Nat)
    (hcap : HasRoom UInt8 ((ideal .std (P.map (·.map foldByte)) sk false).comap foldByte).maxLen
      spare minFactor defaultCap) :
    ∃ F : Nat → Option Mat,
      (∀ st, st ≤ data.length + 1 →
        IsFind .std (P.map (·.map foldByte)) (data.map foldByte) st data.length false (F st)) ∧
      streamFind ((ideal .std (P.map (·.map foldByte)) sk false).comap foldByte)
        { data := data, sched := sched } spare minFactor defaultCap =
        .ok (iterSpec F 0 data.length, false, 0) := by
  obtain ⟨ms, h1, h2⟩ :=
    C07Fold_stream_eq_iter P _hP hne sk hsk data sched hs spare minFactor defaultCap hcap
  rw [findIter_whole (A := (ideal .std (P.map (·.map foldByte)) sk false).comap foldByte)
    (LmP.start_root .std (P.map (·.map foldByte)) false hsk)] at h1
  cases h1
  exact ⟨_, fun st hst =>
    findAt_comap_isFind (P.map (·.map foldByte)) foldByte sk hsk data st hst, h2⟩

/-! ## C08 -/

/-- concatenating all chunk bytes gives back the RAW stream, and each match chunk carries exactly
the RAW matched bytes -/
theorem C08Fold_chunks_concat (P : List (List UInt8)) (_hP : P ≠ []) (hne : ∀ p ∈ P, p ≠ [])
    (sk : StartKind) (hsk : supportsAnch sk false) (data : List UInt8) (sched : List Nat)
    (hs : ∀ x ∈ sched, 1 ≤ x) (spare : Option Nat) (minFactor defaultCap : Nat)
    (hcap : (Buffer.new (α := UInt8) ((ideal .std (P.map (·.map foldByte)) sk false).comap foldByte).maxLen spare minFactor
          defaultCap).min <
        (Buffer.new (α := UInt8) ((ideal .std (P.map (·.map foldByte)) sk false).comap foldByte).maxLen spare minFactor
          defaultCap).cap) :
    ∃ it cs,
      ChunkIter.new ((ideal .std (P.map (·.map foldByte)) sk false).comap foldByte)
        { data := data, sched := sched } spare minFactor defaultCap = .ok it ∧
      ChunkIter.drain ((ideal .std (P.map (·.map foldByte)) sk false).comap foldByte)
        (drainFuel data) it = (cs, false, 0) ∧
      (cs.flatMap fun c => match c with | .nonMatch b => b | .mtch b _ => b) = data ∧
      ∀ b m, Chunk.mtch b m ∈ cs → b = (data.take m.stop).drop m.start := by
  -- the `match` of the statement is compiled for `Chunk UInt8`, that of `chunkBytes` for any `α`
  have e : (fun c : Chunk UInt8 => match c with | .nonMatch b => b | .mtch b _ => b) =
      chunkBytes := by
    funext c; cases c <;> rfl
  rw [e]
  exact (streamRef_comap _ foldByte sk hsk (map_map_ne_nil foldByte hne) data spare minFactor defaultCap
    hcap).concat hs

/-- stream replace = in-memory replace on the RAW stream with the matches of the case-insensitive
iterator; the closure log carries the raw matched bytes -/
theorem C08Fold_replace_eq (P : List (List UInt8)) (_hP : P ≠ []) (hne : ∀ p ∈ P, p ≠ [])
    (sk : StartKind) (hsk : supportsAnch sk false) (data : List UInt8) (sched : List Nat)
    (hs : ∀ x ∈ sched, 1 ≤ x) (spare : Option Nat) (minFactor defaultCap : Nat)
    (hcap : HasRoom UInt8 ((ideal .std (P.map (·.map foldByte)) sk false).comap foldByte).maxLen
      spare minFactor defaultCap)
    (repl : Mat → List UInt8) :
    ∃ ms,
      findIter ((ideal .std (P.map (·.map foldByte)) sk false).comap foldByte) none
        { hay := data, s := 0, e := data.length, anch := false, earliest := false,
          valid := ⟨Nat.le_refl _, Nat.zero_le _⟩ } = .ok ms ∧
      streamReplaceWith ((ideal .std (P.map (·.map foldByte)) sk false).comap foldByte)
        { data := data, sched := sched } spare {} repl minFactor defaultCap =
        .ok ({ out := (replaceBytes data ms repl none).1 },
          (replaceBytes data ms repl none).2, true, 0) :=
  (streamRef_comap _ foldByte sk hsk (map_map_ne_nil foldByte hne) data spare minFactor defaultCap hcap).replace_eq hs repl

/-! ## C18 -/

theorem C18Fold_read_fault (P : List (List UInt8)) (_hP : P ≠ []) (hne : ∀ p ∈ P, p ≠ [])
    (sk : StartKind) (hsk : supportsAnch sk false) (data : List UInt8) (sched : List Nat)
    (hs : ∀ x ∈ sched, 1 ≤ x) (spare : Option Nat) (minFactor defaultCap : Nat)
    (hcap : HasRoom UInt8 ((ideal .std (P.map (·.map foldByte)) sk false).comap foldByte).maxLen
      spare minFactor defaultCap)
    (k : Nat) :
    ∃ ms ms' err er,
      streamFind ((ideal .std (P.map (·.map foldByte)) sk false).comap foldByte)
        { data := data, sched := sched } spare minFactor defaultCap = .ok (ms, false, 0) ∧
      streamFind ((ideal .std (P.map (·.map foldByte)) sk false).comap foldByte)
        { data := data, sched := sched, failAt := some k } spare minFactor defaultCap =
        .ok (ms', err, er) ∧
      ms' <+: ms ∧ er = 0 ∧ (err = false → ms' = ms) :=
  (streamRef_comap _ foldByte sk hsk (map_map_ne_nil foldByte hne) data spare minFactor defaultCap hcap).read_fault hs k

theorem C18Fold_write_fault (P : List (List UInt8)) (_hP : P ≠ []) (hne : ∀ p ∈ P, p ≠ [])
    (sk : StartKind) (hsk : supportsAnch sk false) (data : List UInt8) (sched : List Nat)
    (hs : ∀ x ∈ sched, 1 ≤ x) (spare : Option Nat) (minFactor defaultCap : Nat)
    (hcap : HasRoom UInt8 ((ideal .std (P.map (·.map foldByte)) sk false).comap foldByte).maxLen
      spare minFactor defaultCap)
    (repl : Mat → List UInt8) (l : Nat) :
    ∃ w w' log log' ok',
      streamReplaceWith ((ideal .std (P.map (·.map foldByte)) sk false).comap foldByte)
        { data := data, sched := sched } spare {} repl minFactor defaultCap =
        .ok (w, log, true, 0) ∧
      streamReplaceWith ((ideal .std (P.map (·.map foldByte)) sk false).comap foldByte)
        { data := data, sched := sched } spare { limit := some l } repl minFactor defaultCap =
        .ok (w', log', ok', 0) ∧
      w'.out <+: w.out ∧ w'.out.length ≤ l ∧ (ok' = true → w'.out = w.out) :=
  (streamRef_comap _ foldByte sk hsk (map_map_ne_nil foldByte hne) data spare minFactor defaultCap hcap).write_fault hs repl l

/-! ## corollaries: the default constants (factor 8, 64 KiB) -/

theorem C07Fold_stream_eq_iter_default (P : List (List UInt8)) (_hP : P ≠ [])
    (hne : ∀ p ∈ P, p ≠ []) (sk : StartKind) (hsk : supportsAnch sk false) (data : List UInt8)
    (sched : List Nat) (hs : ∀ x ∈ sched, 1 ≤ x) (spare : Option Nat) :
    ∃ ms,
      findIter ((ideal .std (P.map (·.map foldByte)) sk false).comap foldByte) none
        { hay := data, s := 0, e := data.length, anch := false, earliest := false,
          valid := ⟨Nat.le_refl _, Nat.zero_le _⟩ } = .ok ms ∧
      streamFind ((ideal .std (P.map (·.map foldByte)) sk false).comap foldByte)
        { data := data, sched := sched } spare = .ok (ms, false, 0) :=
  C07Fold_stream_eq_iter P _hP hne sk hsk data sched hs spare 8 (64 * 1024)
    (hcap_default _ spare)

theorem C08Fold_replace_eq_default (P : List (List UInt8)) (_hP : P ≠ [])
    (hne : ∀ p ∈ P, p ≠ []) (sk : StartKind) (hsk : supportsAnch sk false) (data : List UInt8)
    (sched : List Nat) (hs : ∀ x ∈ sched, 1 ≤ x) (spare : Option Nat) (repl : Mat → List UInt8) :
    ∃ ms,
      findIter ((ideal .std (P.map (·.map foldByte)) sk false).comap foldByte) none
        { hay := data, s := 0, e := data.length, anch := false, earliest := false,
          valid := ⟨Nat.le_refl _, Nat.zero_le _⟩ } = .ok ms ∧
      streamReplaceWith ((ideal .std (P.map (·.map foldByte)) sk false).comap foldByte)
        { data := data, sched := sched } spare {} repl =
        .ok ({ out := (replaceBytes data ms repl none).1 },
          (replaceBytes data ms repl none).2, true, 0) :=
  C08Fold_replace_eq P _hP hne sk hsk data sched hs spare 8 (64 * 1024) (hcap_default _ spare)
    repl

/-! ## the transcribed case-insensitive builders are tied, for every pattern list -/

/-- the noncontiguous NFA compiled with `ascii_case_insensitive(true)` is tied to the case-insensitive searcher -/
theorem L1cFold_tied (P : List (List UInt8)) (hasPre : Bool) :
    StreamTiedTo ((CNfa.compile .std true P).toAut .std P hasPre)
      ((ideal .std (P.map (·.map foldByte)) .both false).comap foldByte) :=
  StreamTiedTo.of_searchEquiv_fold (L1cFold_searchEquiv .std P hasPre) rfl rfl

/-- the DFA built from the case-insensitive NFA is tied to the case-insensitive searcher -/
theorem L1dFold_tied (P : List (List UInt8)) (hasPre bc : Bool) (sk : StartKind) :
    StreamTiedTo ((buildDfa (CNfa.compile .std true P) sk bc).toAut .std P hasPre)
      ((ideal .std (P.map (·.map foldByte)) sk false).comap foldByte) :=
  StreamTiedTo.of_searchEquiv_fold (L1dFold_searchEquiv .std P hasPre bc sk) rfl rfl

/-- the id-level DFA (premultiplied ids, remapped special states) built from the case-insensitive NFA is tied to the case-insensitive searcher -/
theorem L1dIdsFold_tied (P : List (List UInt8)) (sk : StartKind) (bc hasPre : Bool) :
    StreamTiedTo ((buildDfaIds (CNfa.compile .std true P) sk bc hasPre).toAut .std P hasPre)
      ((ideal .std (P.map (·.map foldByte)) sk false).comap foldByte) :=
  StreamTiedTo.of_searchEquiv_fold (L1dIdsFold_searchEquiv .std P sk bc hasPre) rfl rfl

/-- the contiguous NFA built from the case-insensitive NFA is tied to the case-insensitive searcher -/
theorem L1eFold_tied (P : List (List UInt8)) (hasPre bc : Bool) (dd : Nat) (hPl : P.length < 2147483648) :
    StreamTiedTo ((buildContig (CNfa.compile .std true P) dd bc hasPre).toAut .std P hasPre)
      ((ideal .std (P.map (·.map foldByte)) .both false).comap foldByte) :=
  StreamTiedTo.of_searchEquiv_fold (L1eFold_searchEquiv .std P hasPre bc dd hPl) rfl rfl

/-! ## … so C07 / C08 / C18 hold for them -/

/-- stream search on the noncontiguous NFA compiled with `ascii_case_insensitive(true)` = the in-memory iterator of the case-insensitive searcher (C07) -/
theorem L1cFold_stream (P : List (List UInt8)) (hP : P ≠ []) (hne : ∀ p ∈ P, p ≠ [])
    (hasPre : Bool)
    (data : List UInt8) (sched : List Nat)
    (hs : ∀ x ∈ sched, 1 ≤ x) (spare : Option Nat) (minFactor defaultCap : Nat)
    (hcap : (Buffer.new (α := UInt8) ((ideal .std (P.map (·.map foldByte)) .both false).comap foldByte).maxLen spare minFactor
          defaultCap).min <
        (Buffer.new (α := UInt8) ((ideal .std (P.map (·.map foldByte)) .both false).comap foldByte).maxLen spare minFactor
          defaultCap).cap) :
    ∃ ms,
      findIter ((ideal .std (P.map (·.map foldByte)) .both false).comap foldByte) none
        { hay := data, s := 0, e := data.length, anch := false, earliest := false,
          valid := ⟨Nat.le_refl _, Nat.zero_le _⟩ } = .ok ms ∧
      streamFind ((CNfa.compile .std true P).toAut .std P hasPre)
        { data := data, sched := sched } spare minFactor defaultCap = .ok (ms, false, 0) := by
  rw [(L1cFold_tied P hasPre).streamFind]
  exact C07Fold_stream_eq_iter P hP hne .both (Or.inl rfl) data sched hs spare minFactor defaultCap hcap

/-- stream search on the noncontiguous NFA compiled with `ascii_case_insensitive(true)` = the specification's iterator over *the* standard answers for the folded patterns on the folded stream -/
theorem L1cFold_stream_spec (P : List (List UInt8)) (hP : P ≠ []) (hne : ∀ p ∈ P, p ≠ [])
    (hasPre : Bool)
    (data : List UInt8) (sched : List Nat)
    (hs : ∀ x ∈ sched, 1 ≤ x) (spare : Option Nat) (minFactor defaultCap : Nat)
    (hcap : (Buffer.new (α := UInt8) ((ideal .std (P.map (·.map foldByte)) .both false).comap foldByte).maxLen spare minFactor
          defaultCap).min <
        (Buffer.new (α := UInt8) ((ideal .std (P.map (·.map foldByte)) .both false).comap foldByte).maxLen spare minFactor
          defaultCap).cap) :
    ∃ F : Nat → Option Mat,
      (∀ st, st ≤ data.length + 1 →
        IsFind .std (P.map (·.map foldByte)) (data.map foldByte) st data.length false (F st)) ∧
      streamFind ((CNfa.compile .std true P).toAut .std P hasPre)
        { data := data, sched := sched } spare minFactor defaultCap =
        .ok (iterSpec F 0 data.length, false, 0) := by
  rw [(L1cFold_tied P hasPre).streamFind]
  exact C07Fold_stream_spec P hP hne .both (Or.inl rfl) data sched hs spare minFactor defaultCap hcap

/-- stream replace on the noncontiguous NFA compiled with `ascii_case_insensitive(true)` = in-memory replace on the RAW stream (C08) -/
theorem L1cFold_stream_replace (P : List (List UInt8)) (hP : P ≠ []) (hne : ∀ p ∈ P, p ≠ [])
    (hasPre : Bool)
    (data : List UInt8) (sched : List Nat)
    (hs : ∀ x ∈ sched, 1 ≤ x) (spare : Option Nat) (minFactor defaultCap : Nat)
    (hcap : (Buffer.new (α := UInt8) ((ideal .std (P.map (·.map foldByte)) .both false).comap foldByte).maxLen spare minFactor
          defaultCap).min <
        (Buffer.new (α := UInt8) ((ideal .std (P.map (·.map foldByte)) .both false).comap foldByte).maxLen spare minFactor
          defaultCap).cap)
    (repl : Mat → List UInt8) :
    ∃ ms,
      findIter ((ideal .std (P.map (·.map foldByte)) .both false).comap foldByte) none
        { hay := data, s := 0, e := data.length, anch := false, earliest := false,
          valid := ⟨Nat.le_refl _, Nat.zero_le _⟩ } = .ok ms ∧
      streamReplaceWith ((CNfa.compile .std true P).toAut .std P hasPre)
        { data := data, sched := sched } spare {} repl minFactor defaultCap =
        .ok ({ out := (replaceBytes data ms repl none).1 },
          (replaceBytes data ms repl none).2, true, 0) := by
  rw [(L1cFold_tied P hasPre).streamReplaceWith]
  exact C08Fold_replace_eq P hP hne .both (Or.inl rfl) data sched hs spare minFactor defaultCap hcap repl

/-- a read failure at call `k` on the noncontiguous NFA compiled with `ascii_case_insensitive(true)`: a prefix of the fault-free matches (C18) -/
theorem L1cFold_read_fault (P : List (List UInt8)) (hP : P ≠ []) (hne : ∀ p ∈ P, p ≠ [])
    (hasPre : Bool)
    (data : List UInt8) (sched : List Nat)
    (hs : ∀ x ∈ sched, 1 ≤ x) (spare : Option Nat) (minFactor defaultCap : Nat)
    (hcap : (Buffer.new (α := UInt8) ((ideal .std (P.map (·.map foldByte)) .both false).comap foldByte).maxLen spare minFactor
          defaultCap).min <
        (Buffer.new (α := UInt8) ((ideal .std (P.map (·.map foldByte)) .both false).comap foldByte).maxLen spare minFactor
          defaultCap).cap)
    (k : Nat) :
    ∃ ms ms' err er,
      streamFind ((CNfa.compile .std true P).toAut .std P hasPre)
        { data := data, sched := sched } spare minFactor defaultCap = .ok (ms, false, 0) ∧
      streamFind ((CNfa.compile .std true P).toAut .std P hasPre)
        { data := data, sched := sched, failAt := some k } spare minFactor defaultCap =
        .ok (ms', err, er) ∧
      ms' <+: ms ∧ er = 0 ∧ (err = false → ms' = ms) := by
  simp only [(L1cFold_tied P hasPre).streamFind]
  exact C18Fold_read_fault P hP hne .both (Or.inl rfl) data sched hs spare minFactor defaultCap hcap k

/-- a writer failing after `l` bytes on the noncontiguous NFA compiled with `ascii_case_insensitive(true)`: a prefix of the fault-free output (C18) -/
theorem L1cFold_write_fault (P : List (List UInt8)) (hP : P ≠ []) (hne : ∀ p ∈ P, p ≠ [])
    (hasPre : Bool)
    (data : List UInt8) (sched : List Nat)
    (hs : ∀ x ∈ sched, 1 ≤ x) (spare : Option Nat) (minFactor defaultCap : Nat)
    (hcap : (Buffer.new (α := UInt8) ((ideal .std (P.map (·.map foldByte)) .both false).comap foldByte).maxLen spare minFactor
          defaultCap).min <
        (Buffer.new (α := UInt8) ((ideal .std (P.map (·.map foldByte)) .both false).comap foldByte).maxLen spare minFactor
          defaultCap).cap)
    (repl : Mat → List UInt8) (l : Nat) :
    ∃ w w' log log' ok',
      streamReplaceWith ((CNfa.compile .std true P).toAut .std P hasPre)
        { data := data, sched := sched } spare {} repl minFactor defaultCap =
        .ok (w, log, true, 0) ∧
      streamReplaceWith ((CNfa.compile .std true P).toAut .std P hasPre)
        { data := data, sched := sched } spare { limit := some l } repl minFactor defaultCap =
        .ok (w', log', ok', 0) ∧
      w'.out <+: w.out ∧ w'.out.length ≤ l ∧ (ok' = true → w'.out = w.out) := by
  simp only [(L1cFold_tied P hasPre).streamReplaceWith]
  exact C18Fold_write_fault P hP hne .both (Or.inl rfl) data sched hs spare minFactor defaultCap hcap repl l

/-- stream search on the DFA built from the case-insensitive NFA = the in-memory iterator of the case-insensitive searcher (C07) -/
theorem L1dFold_stream (P : List (List UInt8)) (hP : P ≠ []) (hne : ∀ p ∈ P, p ≠ [])
    (hasPre bc : Bool) (sk : StartKind) (hsk : supportsAnch sk false)
    (data : List UInt8) (sched : List Nat)
    (hs : ∀ x ∈ sched, 1 ≤ x) (spare : Option Nat) (minFactor defaultCap : Nat)
    (hcap : (Buffer.new (α := UInt8) ((ideal .std (P.map (·.map foldByte)) sk false).comap foldByte).maxLen spare minFactor
          defaultCap).min <
        (Buffer.new (α := UInt8) ((ideal .std (P.map (·.map foldByte)) sk false).comap foldByte).maxLen spare minFactor
          defaultCap).cap) :
    ∃ ms,
      findIter ((ideal .std (P.map (·.map foldByte)) sk false).comap foldByte) none
        { hay := data, s := 0, e := data.length, anch := false, earliest := false,
          valid := ⟨Nat.le_refl _, Nat.zero_le _⟩ } = .ok ms ∧
      streamFind ((buildDfa (CNfa.compile .std true P) sk bc).toAut .std P hasPre)
        { data := data, sched := sched } spare minFactor defaultCap = .ok (ms, false, 0) := by
  rw [(L1dFold_tied P hasPre bc sk).streamFind]
  exact C07Fold_stream_eq_iter P hP hne sk hsk data sched hs spare minFactor defaultCap hcap

/-- stream search on the DFA built from the case-insensitive NFA = the specification's iterator over *the* standard answers for the folded patterns on the folded stream -/
theorem L1dFold_stream_spec (P : List (List UInt8)) (hP : P ≠ []) (hne : ∀ p ∈ P, p ≠ [])
    (hasPre bc : Bool) (sk : StartKind) (hsk : supportsAnch sk false)
    (data : List UInt8) (sched : List Nat)
    (hs : ∀ x ∈ sched, 1 ≤ x) (spare : Option Nat) (minFactor defaultCap : Nat)
    (hcap : (Buffer.new (α := UInt8) ((ideal .std (P.map (·.map foldByte)) sk false).comap foldByte).maxLen spare minFactor
          defaultCap).min <
        (Buffer.new (α := UInt8) ((ideal .std (P.map (·.map foldByte)) sk false).comap foldByte).maxLen spare minFactor
          defaultCap).cap) :
    ∃ F : Nat → Option Mat,
      (∀ st, st ≤ data.length + 1 →
        IsFind .std (P.map (·.map foldByte)) (data.map foldByte) st data.length false (F st)) ∧
      streamFind ((buildDfa (CNfa.compile .std true P) sk bc).toAut .std P hasPre)
        { data := data, sched := sched } spare minFactor defaultCap =
        .ok (iterSpec F 0 data.length, false, 0) := by
  rw [(L1dFold_tied P hasPre bc sk).streamFind]
  exact C07Fold_stream_spec P hP hne sk hsk data sched hs spare minFactor defaultCap hcap

/-- stream replace on the DFA built from the case-insensitive NFA = in-memory replace on the RAW stream (C08) -/
theorem L1dFold_stream_replace (P : List (List UInt8)) (hP : P ≠ []) (hne : ∀ p ∈ P, p ≠ [])
    (hasPre bc : Bool) (sk : StartKind) (hsk : supportsAnch sk false)
    (data : List UInt8) (sched : List Nat)
    (hs : ∀ x ∈ sched, 1 ≤ x) (spare : Option Nat) (minFactor defaultCap : Nat)
    (hcap : (Buffer.new (α := UInt8) ((ideal .std (P.map (·.map foldByte)) sk false).comap foldByte).maxLen spare minFactor
          defaultCap).min <
        (Buffer.new (α := UInt8) ((ideal .std (P.map (·.map foldByte)) sk false).comap foldByte).maxLen spare minFactor
          defaultCap).cap)
    (repl : Mat → List UInt8) :
    ∃ ms,
      findIter ((ideal .std (P.map (·.map foldByte)) sk false).comap foldByte) none
        { hay := data, s := 0, e := data.length, anch := false, earliest := false,
          valid := ⟨Nat.le_refl _, Nat.zero_le _⟩ } = .ok ms ∧
      streamReplaceWith ((buildDfa (CNfa.compile .std true P) sk bc).toAut .std P hasPre)
        { data := data, sched := sched } spare {} repl minFactor defaultCap =
        .ok ({ out := (replaceBytes data ms repl none).1 },
          (replaceBytes data ms repl none).2, true, 0) := by
  rw [(L1dFold_tied P hasPre bc sk).streamReplaceWith]
  exact C08Fold_replace_eq P hP hne sk hsk data sched hs spare minFactor defaultCap hcap repl

/-- a read failure at call `k` on the DFA built from the case-insensitive NFA: a prefix of the fault-free matches (C18) -/
theorem L1dFold_read_fault (P : List (List UInt8)) (hP : P ≠ []) (hne : ∀ p ∈ P, p ≠ [])
    (hasPre bc : Bool) (sk : StartKind) (hsk : supportsAnch sk false)
    (data : List UInt8) (sched : List Nat)
    (hs : ∀ x ∈ sched, 1 ≤ x) (spare : Option Nat) (minFactor defaultCap : Nat)
    (hcap : (Buffer.new (α := UInt8) ((ideal .std (P.map (·.map foldByte)) sk false).comap foldByte).maxLen spare minFactor
          defaultCap).min <
        (Buffer.new (α := UInt8) ((ideal .std (P.map (·.map foldByte)) sk false).comap foldByte).maxLen spare minFactor
          defaultCap).cap)
    (k : Nat) :
    ∃ ms ms' err er,
      streamFind ((buildDfa (CNfa.compile .std true P) sk bc).toAut .std P hasPre)
        { data := data, sched := sched } spare minFactor defaultCap = .ok (ms, false, 0) ∧
      streamFind ((buildDfa (CNfa.compile .std true P) sk bc).toAut .std P hasPre)
        { data := data, sched := sched, failAt := some k } spare minFactor defaultCap =
        .ok (ms', err, er) ∧
      ms' <+: ms ∧ er = 0 ∧ (err = false → ms' = ms) := by
  simp only [(L1dFold_tied P hasPre bc sk).streamFind]
  exact C18Fold_read_fault P hP hne sk hsk data sched hs spare minFactor defaultCap hcap k

/-- a writer failing after `l` bytes on the DFA built from the case-insensitive NFA: a prefix of the fault-free output (C18) -/
theorem L1dFold_write_fault (P : List (List UInt8)) (hP : P ≠ []) (hne : ∀ p ∈ P, p ≠ [])
    (hasPre bc : Bool) (sk : StartKind) (hsk : supportsAnch sk false)
    (data : List UInt8) (sched : List Nat)
    (hs : ∀ x ∈ sched, 1 ≤ x) (spare : Option Nat) (minFactor defaultCap : Nat)
    (hcap : (Buffer.new (α := UInt8) ((ideal .std (P.map (·.map foldByte)) sk false).comap foldByte).maxLen spare minFactor
          defaultCap).min <
        (Buffer.new (α := UInt8) ((ideal .std (P.map (·.map foldByte)) sk false).comap foldByte).maxLen spare minFactor
          defaultCap).cap)
    (repl : Mat → List UInt8) (l : Nat) :
    ∃ w w' log log' ok',
      streamReplaceWith ((buildDfa (CNfa.compile .std true P) sk bc).toAut .std P hasPre)
        { data := data, sched := sched } spare {} repl minFactor defaultCap =
        .ok (w, log, true, 0) ∧
      streamReplaceWith ((buildDfa (CNfa.compile .std true P) sk bc).toAut .std P hasPre)
        { data := data, sched := sched } spare { limit := some l } repl minFactor defaultCap =
        .ok (w', log', ok', 0) ∧
      w'.out <+: w.out ∧ w'.out.length ≤ l ∧ (ok' = true → w'.out = w.out) := by
  simp only [(L1dFold_tied P hasPre bc sk).streamReplaceWith]
  exact C18Fold_write_fault P hP hne sk hsk data sched hs spare minFactor defaultCap hcap repl l

/-- stream search on the id-level DFA (premultiplied ids, remapped special states) built from the case-insensitive NFA = the in-memory iterator of the case-insensitive searcher (C07) -/
theorem L1dIdsFold_stream (P : List (List UInt8)) (hP : P ≠ []) (hne : ∀ p ∈ P, p ≠ [])
    (sk : StartKind) (bc hasPre : Bool) (hsk : supportsAnch sk false)
    (data : List UInt8) (sched : List Nat)
    (hs : ∀ x ∈ sched, 1 ≤ x) (spare : Option Nat) (minFactor defaultCap : Nat)
    (hcap : (Buffer.new (α := UInt8) ((ideal .std (P.map (·.map foldByte)) sk false).comap foldByte).maxLen spare minFactor
          defaultCap).min <
        (Buffer.new (α := UInt8) ((ideal .std (P.map (·.map foldByte)) sk false).comap foldByte).maxLen spare minFactor
          defaultCap).cap) :
    ∃ ms,
      findIter ((ideal .std (P.map (·.map foldByte)) sk false).comap foldByte) none
        { hay := data, s := 0, e := data.length, anch := false, earliest := false,
          valid := ⟨Nat.le_refl _, Nat.zero_le _⟩ } = .ok ms ∧
      streamFind ((buildDfaIds (CNfa.compile .std true P) sk bc hasPre).toAut .std P hasPre)
        { data := data, sched := sched } spare minFactor defaultCap = .ok (ms, false, 0) := by
  rw [(L1dIdsFold_tied P sk bc hasPre).streamFind]
  exact C07Fold_stream_eq_iter P hP hne sk hsk data sched hs spare minFactor defaultCap hcap

/-- stream search on the id-level DFA (premultiplied ids, remapped special states) built from the case-insensitive NFA = the specification's iterator over *the* standard answers for the folded patterns on the folded stream -/
theorem L1dIdsFold_stream_spec (P : List (List UInt8)) (hP : P ≠ []) (hne : ∀ p ∈ P, p ≠ [])
    (sk : StartKind) (bc hasPre : Bool) (hsk : supportsAnch sk false)
    (data : List UInt8) (sched : List Nat)
    (hs : ∀ x ∈ sched, 1 ≤ x) (spare : Option Nat) (minFactor defaultCap : Nat)
    (hcap : (Buffer.new (α := UInt8) ((ideal .std (P.map (·.map foldByte)) sk false).comap foldByte).maxLen spare minFactor
          defaultCap).min <
        (Buffer.new (α := UInt8) ((ideal .std (P.map (·.map foldByte)) sk false).comap foldByte).maxLen spare minFactor
          defaultCap).cap) :
    ∃ F : Nat → Option Mat,
      (∀ st, st ≤ data.length + 1 →
        IsFind .std (P.map (·.map foldByte)) (data.map foldByte) st data.length false (F st)) ∧
      streamFind ((buildDfaIds (CNfa.compile .std true P) sk bc hasPre).toAut .std P hasPre)
        { data := data, sched := sched } spare minFactor defaultCap =
        .ok (iterSpec F 0 data.length, false, 0) := by
  rw [(L1dIdsFold_tied P sk bc hasPre).streamFind]
  exact C07Fold_stream_spec P hP hne sk hsk data sched hs spare minFactor defaultCap hcap

/-- stream replace on the id-level DFA (premultiplied ids, remapped special states) built from the case-insensitive NFA = in-memory replace on the RAW stream (C08) -/
theorem L1dIdsFold_stream_replace (P : List (List UInt8)) (hP : P ≠ []) (hne : ∀ p ∈ P, p ≠ [])
    (sk : StartKind) (bc hasPre : Bool) (hsk : supportsAnch sk false)
    (data : List UInt8) (sched : List Nat)
    (hs : ∀ x ∈ sched, 1 ≤ x) (spare : Option Nat) (minFactor defaultCap : Nat)
    (hcap : (Buffer.new (α := UInt8) ((ideal .std (P.map (·.map foldByte)) sk false).comap foldByte).maxLen spare minFactor
          defaultCap).min <
        (Buffer.new (α := UInt8) ((ideal .std (P.map (·.map foldByte)) sk false).comap foldByte).maxLen spare minFactor
          defaultCap).cap)
    (repl : Mat → List UInt8) :
    ∃ ms,
      findIter ((ideal .std (P.map (·.map foldByte)) sk false).comap foldByte) none
        { hay := data, s := 0, e := data.length, anch := false, earliest := false,
          valid := ⟨Nat.le_refl _, Nat.zero_le _⟩ } = .ok ms ∧
      streamReplaceWith ((buildDfaIds (CNfa.compile .std true P) sk bc hasPre).toAut .std P hasPre)
        { data := data, sched := sched } spare {} repl minFactor defaultCap =
        .ok ({ out := (replaceBytes data ms repl none).1 },
          (replaceBytes data ms repl none).2, true, 0) := by
  rw [(L1dIdsFold_tied P sk bc hasPre).streamReplaceWith]
  exact C08Fold_replace_eq P hP hne sk hsk data sched hs spare minFactor defaultCap hcap repl

/-- a read failure at call `k` on the id-level DFA (premultiplied ids, remapped special states) built from the case-insensitive NFA: a prefix of the fault-free matches (C18) -/
theorem L1dIdsFold_read_fault (P : List (List UInt8)) (hP : P ≠ []) (hne : ∀ p ∈ P, p ≠ [])
    (sk : StartKind) (bc hasPre : Bool) (hsk : supportsAnch sk false)
    (data : List UInt8) (sched : List Nat)
    (hs : ∀ x ∈ sched, 1 ≤ x) (spare : Option Nat) (minFactor defaultCap : Nat)
    (hcap : (Buffer.new (α := UInt8) ((ideal .std (P.map (·.map foldByte)) sk false).comap foldByte).maxLen spare minFactor
          defaultCap).min <
        (Buffer.new (α := UInt8) ((ideal .std (P.map (·.map foldByte)) sk false).comap foldByte).maxLen spare minFactor
          defaultCap).cap)
    (k : Nat) :
    ∃ ms ms' err er,
      streamFind ((buildDfaIds (CNfa.compile .std true P) sk bc hasPre).toAut .std P hasPre)
        { data := data, sched := sched } spare minFactor defaultCap = .ok (ms, false, 0) ∧
      streamFind ((buildDfaIds (CNfa.compile .std true P) sk bc hasPre).toAut .std P hasPre)
        { data := data, sched := sched, failAt := some k } spare minFactor defaultCap =
        .ok (ms', err, er) ∧
      ms' <+: ms ∧ er = 0 ∧ (err = false → ms' = ms) := by
  simp only [(L1dIdsFold_tied P sk bc hasPre).streamFind]
  exact C18Fold_read_fault P hP hne sk hsk data sched hs spare minFactor defaultCap hcap k

/-- a writer failing after `l` bytes on the id-level DFA (premultiplied ids, remapped special states) built from the case-insensitive NFA: a prefix of the fault-free output (C18) -/
theorem L1dIdsFold_write_fault (P : List (List UInt8)) (hP : P ≠ []) (hne : ∀ p ∈ P, p ≠ [])
    (sk : StartKind) (bc hasPre : Bool) (hsk : supportsAnch sk false)
    (data : List UInt8) (sched : List Nat)
    (hs : ∀ x ∈ sched, 1 ≤ x) (spare : Option Nat) (minFactor defaultCap : Nat)
    (hcap : (Buffer.new (α := UInt8) ((ideal .std (P.map (·.map foldByte)) sk false).comap foldByte).maxLen spare minFactor
          defaultCap).min <
        (Buffer.new (α := UInt8) ((ideal .std (P.map (·.map foldByte)) sk false).comap foldByte).maxLen spare minFactor
          defaultCap).cap)
    (repl : Mat → List UInt8) (l : Nat) :
    ∃ w w' log log' ok',
      streamReplaceWith ((buildDfaIds (CNfa.compile .std true P) sk bc hasPre).toAut .std P hasPre)
        { data := data, sched := sched } spare {} repl minFactor defaultCap =
        .ok (w, log, true, 0) ∧
      streamReplaceWith ((buildDfaIds (CNfa.compile .std true P) sk bc hasPre).toAut .std P hasPre)
        { data := data, sched := sched } spare { limit := some l } repl minFactor defaultCap =
        .ok (w', log', ok', 0) ∧
      w'.out <+: w.out ∧ w'.out.length ≤ l ∧ (ok' = true → w'.out = w.out) := by
  simp only [(L1dIdsFold_tied P sk bc hasPre).streamReplaceWith]
  exact C18Fold_write_fault P hP hne sk hsk data sched hs spare minFactor defaultCap hcap repl l

/-- stream search on the contiguous NFA built from the case-insensitive NFA = the in-memory iterator of the case-insensitive searcher (C07) -/
theorem L1eFold_stream (P : List (List UInt8)) (hP : P ≠ []) (hne : ∀ p ∈ P, p ≠ [])
    (hasPre bc : Bool) (dd : Nat) (hPl : P.length < 2147483648)
    (data : List UInt8) (sched : List Nat)
    (hs : ∀ x ∈ sched, 1 ≤ x) (spare : Option Nat) (minFactor defaultCap : Nat)
    (hcap : (Buffer.new (α := UInt8) ((ideal .std (P.map (·.map foldByte)) .both false).comap foldByte).maxLen spare minFactor
          defaultCap).min <
        (Buffer.new (α := UInt8) ((ideal .std (P.map (·.map foldByte)) .both false).comap foldByte).maxLen spare minFactor
          defaultCap).cap) :
    ∃ ms,
      findIter ((ideal .std (P.map (·.map foldByte)) .both false).comap foldByte) none
        { hay := data, s := 0, e := data.length, anch := false, earliest := false,
          valid := ⟨Nat.le_refl _, Nat.zero_le _⟩ } = .ok ms ∧
      streamFind ((buildContig (CNfa.compile .std true P) dd bc hasPre).toAut .std P hasPre)
        { data := data, sched := sched } spare minFactor defaultCap = .ok (ms, false, 0) := by
  rw [(L1eFold_tied P hasPre bc dd hPl).streamFind]
  exact C07Fold_stream_eq_iter P hP hne .both (Or.inl rfl) data sched hs spare minFactor defaultCap hcap

/-- stream search on the contiguous NFA built from the case-insensitive NFA = the specification's iterator over *the* standard answers for the folded patterns on the folded stream -/
theorem L1eFold_stream_spec (P : List (List UInt8)) (hP : P ≠ []) (hne : ∀ p ∈ P, p ≠ [])
    (hasPre bc : Bool) (dd : Nat) (hPl : P.length < 2147483648)
    (data : List UInt8) (sched : List Nat)
    (hs : ∀ x ∈ sched, 1 ≤ x) (spare : Option Nat) (minFactor defaultCap : Nat)
    (hcap : (Buffer.new (α := UInt8) ((ideal .std (P.map (·.map foldByte)) .both false).comap foldByte).maxLen spare minFactor
          defaultCap).min <
        (Buffer.new (α := UInt8) ((ideal .std (P.map (·.map foldByte)) .both false).comap foldByte).maxLen spare minFactor
          defaultCap).cap) :
    ∃ F : Nat → Option Mat,
      (∀ st, st ≤ data.length + 1 →
        IsFind .std (P.map (·.map foldByte)) (data.map foldByte) st data.length false (F st)) ∧
      streamFind ((buildContig (CNfa.compile .std true P) dd bc hasPre).toAut .std P hasPre)
        { data := data, sched := sched } spare minFactor defaultCap =
        .ok (iterSpec F 0 data.length, false, 0) := by
  rw [(L1eFold_tied P hasPre bc dd hPl).streamFind]
  exact C07Fold_stream_spec P hP hne .both (Or.inl rfl) data sched hs spare minFactor defaultCap hcap

/-- stream replace on the contiguous NFA built from the case-insensitive NFA = in-memory replace on the RAW stream (C08) -/
theorem L1eFold_stream_replace (P : List (List UInt8)) (hP : P ≠ []) (hne : ∀ p ∈ P, p ≠ [])
    (hasPre bc : Bool) (dd : Nat) (hPl : P.length < 2147483648)
    (data : List UInt8) (sched : List Nat)
    (hs : ∀ x ∈ sched, 1 ≤ x) (spare : Option Nat) (minFactor defaultCap : Nat)
    (hcap : (Buffer.new (α := UInt8) ((ideal .std (P.map (·.map foldByte)) .both false).comap foldByte).maxLen spare minFactor
          defaultCap).min <
        (Buffer.new (α := UInt8) ((ideal .std (P.map (·.map foldByte)) .both false).comap foldByte).maxLen spare minFactor
          defaultCap).cap)
    (repl : Mat → List UInt8) :
    ∃ ms,
      findIter ((ideal .std (P.map (·.map foldByte)) .both false).comap foldByte) none
        { hay := data, s := 0, e := data.length, anch := false, earliest := false,
          valid := ⟨Nat.le_refl _, Nat.zero_le _⟩ } = .ok ms ∧
      streamReplaceWith ((buildContig (CNfa.compile .std true P) dd bc hasPre).toAut .std P hasPre)
        { data := data, sched := sched } spare {} repl minFactor defaultCap =
        .ok ({ out := (replaceBytes data ms repl none).1 },
          (replaceBytes data ms repl none).2, true, 0) := by
  rw [(L1eFold_tied P hasPre bc dd hPl).streamReplaceWith]
  exact C08Fold_replace_eq P hP hne .both (Or.inl rfl) data sched hs spare minFactor defaultCap hcap repl

/-- a read failure at call `k` on the contiguous NFA built from the case-insensitive NFA: a prefix of the fault-free matches (C18) -/
theorem L1eFold_read_fault (P : List (List UInt8)) (hP : P ≠ []) (hne : ∀ p ∈ P, p ≠ [])
    (hasPre bc : Bool) (dd : Nat) (hPl : P.length < 2147483648)
    (data : List UInt8) (sched : List Nat)
    (hs : ∀ x ∈ sched, 1 ≤ x) (spare : Option Nat) (minFactor defaultCap : Nat)
    (hcap : (Buffer.new (α := UInt8) ((ideal .std (P.map (·.map foldByte)) .both false).comap foldByte).maxLen spare minFactor
          defaultCap).min <
        (Buffer.new (α := UInt8) ((ideal .std (P.map (·.map foldByte)) .both false).comap foldByte).maxLen spare minFactor
          defaultCap).cap)
    (k : Nat) :
    ∃ ms ms' err er,
      streamFind ((buildContig (CNfa.compile .std true P) dd bc hasPre).toAut .std P hasPre)
        { data := data, sched := sched } spare minFactor defaultCap = .ok (ms, false, 0) ∧
      streamFind ((buildContig (CNfa.compile .std true P) dd bc hasPre).toAut .std P hasPre)
        { data := data, sched := sched, failAt := some k } spare minFactor defaultCap =
        .ok (ms', err, er) ∧
      ms' <+: ms ∧ er = 0 ∧ (err = false → ms' = ms) := by
  simp only [(L1eFold_tied P hasPre bc dd hPl).streamFind]
  exact C18Fold_read_fault P hP hne .both (Or.inl rfl) data sched hs spare minFactor defaultCap hcap k

/-- a writer failing after `l` bytes on the contiguous NFA built from the case-insensitive NFA: a prefix of the fault-free output (C18) -/
theorem L1eFold_write_fault (P : List (List UInt8)) (hP : P ≠ []) (hne : ∀ p ∈ P, p ≠ [])
    (hasPre bc : Bool) (dd : Nat) (hPl : P.length < 2147483648)
    (data : List UInt8) (sched : List Nat)
    (hs : ∀ x ∈ sched, 1 ≤ x) (spare : Option Nat) (minFactor defaultCap : Nat)
    (hcap : (Buffer.new (α := UInt8) ((ideal .std (P.map (·.map foldByte)) .both false).comap foldByte).maxLen spare minFactor
          defaultCap).min <
        (Buffer.new (α := UInt8) ((ideal .std (P.map (·.map foldByte)) .both false).comap foldByte).maxLen spare minFactor
          defaultCap).cap)
    (repl : Mat → List UInt8) (l : Nat) :
    ∃ w w' log log' ok',
      streamReplaceWith ((buildContig (CNfa.compile .std true P) dd bc hasPre).toAut .std P hasPre)
        { data := data, sched := sched } spare {} repl minFactor defaultCap =
        .ok (w, log, true, 0) ∧
      streamReplaceWith ((buildContig (CNfa.compile .std true P) dd bc hasPre).toAut .std P hasPre)
        { data := data, sched := sched } spare { limit := some l } repl minFactor defaultCap =
        .ok (w', log', ok', 0) ∧
      w'.out <+: w.out ∧ w'.out.length ≤ l ∧ (ok' = true → w'.out = w.out) := by
  simp only [(L1eFold_tied P hasPre bc dd hPl).streamReplaceWith]
  exact C18Fold_write_fault P hP hne .both (Or.inl rfl) data sched hs spare minFactor defaultCap hcap repl l

/-! ## non-vacuity: pattern `"aB"`, stream `"xAbaB"` read 2, 1, 3 bytes at a time into a 3-byte
buffer (`min = 2`, capacity `min + 1`): the first occurrence `"Ab"` is split across two reads -/

/-- the hypotheses of the general theorem are satisfiable -/
example : ∃ ms,
    findIter ((ideal .std ([[0x61, 0x42]].map (·.map foldByte)) .both false).comap foldByte) none
      { hay := [0x78, 0x41, 0x62, 0x61, 0x42], s := 0, e := 5, anch := false, earliest := false,
        valid := ⟨Nat.le_refl _, Nat.zero_le _⟩ } = .ok ms ∧
    streamFind ((ideal .std ([[0x61, 0x42]].map (·.map foldByte)) .both false).comap foldByte)
      { data := [0x78, 0x41, 0x62, 0x61, 0x42], sched := [2, 1, 3] } (some 1) =
      .ok (ms, false, 0) :=
  C07Fold_stream_eq_iter_default [[0x61, 0x42]] (by decide) (by decide) .both (Or.inl rfl)
    [0x78, 0x41, 0x62, 0x61, 0x42] [2, 1, 3] (by decide) (some 1)

/-- … with non-default constants (factor 2, default capacity 0: a 4-byte buffer for `min = 2`) -/
example (repl : Mat → List UInt8) : ∃ ms,
    findIter ((ideal .std ([[0x61, 0x42]].map (·.map foldByte)) .both false).comap foldByte) none
      { hay := [0x78, 0x41, 0x62, 0x61, 0x42], s := 0, e := 5, anch := false, earliest := false,
        valid := ⟨Nat.le_refl _, Nat.zero_le _⟩ } = .ok ms ∧
    streamReplaceWith
      ((ideal .std ([[0x61, 0x42]].map (·.map foldByte)) .both false).comap foldByte)
      { data := [0x78, 0x41, 0x62, 0x61, 0x42], sched := [2, 1, 3] } none {} repl 2 0 =
      .ok ({ out := (replaceBytes [0x78, 0x41, 0x62, 0x61, 0x42] ms repl none).1 },
        (replaceBytes [0x78, 0x41, 0x62, 0x61, 0x42] ms repl none).2, true, 0) :=
  C08Fold_replace_eq [[0x61, 0x42]] (by decide) (by decide) .both (Or.inl rfl)
    [0x78, 0x41, 0x62, 0x61, 0x42] [2, 1, 3] (by decide) none 2 0
    (hcap_factor _ 2 0 (Nat.le_refl 2)) repl

/-- evaluated: both occurrences (`"Ab"` and `"aB"`) are found -/
example : (streamFind
      ((ideal .std ([[0x61, 0x42]].map (·.map foldByte)) .both false).comap foldByte)
      { data := [0x78, 0x41, 0x62, 0x61, 0x42], sched := [2, 1, 3] } (some 1)).toOption =
    some ([⟨0, 1, 3⟩, ⟨0, 3, 5⟩], false, 0) := by decide +kernel

/-- the chunks carry the RAW bytes (`"Ab"` = `[0x41, 0x62]`, not the folded `"ab"`) -/
example : (ChunkIter.new
      ((ideal .std ([[0x61, 0x42]].map (·.map foldByte)) .both false).comap foldByte)
      { data := [0x78, 0x41, 0x62, 0x61, 0x42], sched := [2, 1, 3] } (some 1)).toOption.map
      (fun it => ChunkIter.drain
        ((ideal .std ([[0x61, 0x42]].map (·.map foldByte)) .both false).comap foldByte) 14 it) =
    some ([.nonMatch [0x78], .mtch [0x41, 0x62] ⟨0, 1, 3⟩, .mtch [0x61, 0x42] ⟨0, 3, 5⟩],
      false, 0) := by rfl

/-- replacing each match by `"-"`: the raw bytes outside the matches are copied, the closure sees
the raw matched bytes -/
example : (streamReplaceWith
      ((ideal .std ([[0x61, 0x42]].map (·.map foldByte)) .both false).comap foldByte)
      { data := [0x78, 0x41, 0x62, 0x61, 0x42], sched := [2, 1, 3] } (some 1) {}
      (fun _ => [0x2D])).toOption.map (fun r => (r.1.out, r.2.1)) =
    some ([0x78, 0x2D, 0x2D], [(⟨0, 1, 3⟩, [0x41, 0x62]), (⟨0, 3, 5⟩, [0x61, 0x42])]) := by
  decide +kernel

/-- the transcribed case-insensitive DFA and contiguous NFA (prefilter flag set) -/
example : ∃ ms,
    findIter ((ideal .std ([[0x61, 0x42]].map (·.map foldByte)) .both false).comap foldByte) none
      { hay := [0x78, 0x41, 0x62, 0x61, 0x42], s := 0, e := 5, anch := false, earliest := false,
        valid := ⟨Nat.le_refl _, Nat.zero_le _⟩ } = .ok ms ∧
    streamFind ((buildDfa (CNfa.compile .std true [[0x61, 0x42]]) .both true).toAut .std
        [[0x61, 0x42]] true)
      { data := [0x78, 0x41, 0x62, 0x61, 0x42], sched := [2, 1, 3] } (some 1) 8 65536 =
      .ok (ms, false, 0) :=
  L1dFold_stream [[0x61, 0x42]] (by decide) (by decide) true true .both (Or.inl rfl)
    [0x78, 0x41, 0x62, 0x61, 0x42] [2, 1, 3] (by decide) (some 1) 8 65536 (hcap_default _ _)

example : ∃ ms,
    findIter ((ideal .std ([[0x61, 0x42]].map (·.map foldByte)) .both false).comap foldByte) none
      { hay := [0x78, 0x41, 0x62, 0x61, 0x42], s := 0, e := 5, anch := false, earliest := false,
        valid := ⟨Nat.le_refl _, Nat.zero_le _⟩ } = .ok ms ∧
    streamFind ((buildContig (CNfa.compile .std true [[0x61, 0x42]]) 0 true true).toAut .std
        [[0x61, 0x42]] true)
      { data := [0x78, 0x41, 0x62, 0x61, 0x42], sched := [2, 1, 3] } (some 1) 8 65536 =
      .ok (ms, false, 0) :=
  L1eFold_stream [[0x61, 0x42]] (by decide) (by decide) true true 0 (by decide)
    [0x78, 0x41, 0x62, 0x61, 0x42] [2, 1, 3] (by decide) (some 1) 8 65536 (hcap_default _ _)

set_option maxRecDepth 1000000 in
/-- … and evaluated -/
example : (streamFind ((buildDfa (CNfa.compile .std true [[0x61, 0x42]]) .both true).toAut .std
        [[0x61, 0x42]] true)
      { data := [0x78, 0x41, 0x62, 0x61, 0x42], sched := [2, 1, 3] } (some 1)).toOption =
    some ([⟨0, 1, 3⟩, ⟨0, 3, 5⟩], false, 0) := by
  unfold buildDfa buildBoth dfaRow
  rw [classOfMarks_eq_classLt, sparseIter_eq_sparseIterReps]
  decide +kernel

set_option maxRecDepth 1000000 in
example : (streamFind ((buildContig (CNfa.compile .std true [[0x61, 0x42]]) 0 true true).toAut
        .std [[0x61, 0x42]] true)
      { data := [0x78, 0x41, 0x62, 0x61, 0x42], sched := [2, 1, 3] } (some 1)).toOption =
    some ([⟨0, 1, 3⟩, ⟨0, 3, 5⟩], false, 0) := by
  rw [buildContig, classOfMarks_eq_classLt, writeState_eq_denseSkip]
  decide +kernel

end AcVerif
