import AcVerif.Theorems.C02
import AcVerif.Theorems.C03
import AcVerif.Proofs.LmTop
/-!
# C15 – no out-of-range access, well-formed matches (model part)

What a theorem about the model can say:

* **Index arithmetic.**  `findLoop`, `ovlLoop` (and `findCost`) read the
  haystack only through `hay[at_]'h` with `h : at_ < hay.length` derived from
  the loop guard `at_ < e` and the input invariant `e ≤ hay.length`
  (`Input.valid`, the assertion in `Input::span`).  The definitions would not
  type-check otherwise: the bound is established *by construction*, for every
  automaton, prefilter and input.  The Teddy window schedule is covered by
  `C15_teddy_loads` (Theorems/C06.lean).
* **Well-formed results.**  Every reported match satisfies
  `start ≤ end ≤ haystack length` with a pattern id below the pattern count and
  lies inside the span (`C15_find_wf_std`, `C15_find_wf_leftmost` – normal and earliest
  mode –, `C15_overlap_wf`; `get_match`'s `at - len` never
  truncates because `stop = start + len`).

What it cannot say: which loads the compiled `unsafe` vector code performs.
That half is observed, not proved: `./check C15` runs the real searches in a
child process on haystacks placed flush against `PROT_NONE` pages.
-/
namespace AcVerif
variable {α : Type} [DecidableEq α]

omit [DecidableEq α] in
theorem C15_occ_wf {P : List (List α)} {hay : List α} {s e : Nat} {m : Mat}
    (h : IsOcc P hay s e m) (he : e ≤ hay.length) :
    m.pid < P.length ∧ s ≤ m.start ∧ m.start ≤ m.stop ∧ m.stop ≤ e ∧ m.stop ≤ hay.length := by
  obtain ⟨p, hp, hs, hst, hle, _⟩ := h
  have hlt : m.pid < P.length := by
    rcases Nat.lt_or_ge m.pid P.length with h | h
    · exact h
    · rw [List.getElem?_eq_none h] at hp; cases hp
  exact ⟨hlt, hs, by omega, hle, by omega⟩

omit [DecidableEq α] in
theorem C15_isFind_wf {k : MatchKind} {P : List (List α)} {hay : List α} {s e : Nat} {anch : Bool}
    {m : Mat} (h : IsFind k P hay s e anch (some m)) (he : e ≤ hay.length) :
    m.pid < P.length ∧ s ≤ m.start ∧ m.start ≤ m.stop ∧ m.stop ≤ e ∧ m.stop ≤ hay.length :=
  C15_occ_wf h.1.1 he

theorem C15_find_wf_std (P : List (List α)) (sk : StartKind) (i : Input α)
    (h : supportsAnch sk i.anch) :
    ∃ r, tryFindFwd (ideal .std P sk false) none i = .ok r ∧ ∀ m : Mat, r = some m →
      m.pid < P.length ∧ i.s ≤ m.start ∧ m.start ≤ m.stop ∧ m.stop ≤ i.e ∧ m.stop ≤ i.hay.length := by
  obtain ⟨r, h1, h2⟩ := C02_find P sk i h
  exact ⟨r, h1, fun m hm =>
    C15_isFind_wf (hm ▸ h2 : IsFind .std P i.hay i.s i.e i.anch (some m)) i.valid.1⟩

theorem C15_find_wf_leftmost (k : MatchKind) (hk : k = .ll ∨ k = .lf) (P : List (List α))
    (sk : StartKind) (i : Input α) (h : supportsAnch sk i.anch) :
    ∃ r, tryFindFwd (ideal k P sk false) none i = .ok r ∧ ∀ m : Mat, r = some m →
      m.pid < P.length ∧ i.s ≤ m.start ∧ m.start ≤ m.stop ∧ m.stop ≤ i.e ∧ m.stop ≤ i.hay.length := by
  obtain ⟨r, h1, h2⟩ := LmP.find_isOcc k hk P sk i h
  exact ⟨r, h1, fun m hm => C15_occ_wf (h2 m hm).1 i.valid.1⟩

theorem C15_overlap_wf (P : List (List α)) (sk : StartKind) (i : Input α)
    (h : supportsAnch sk i.anch) :
    ∃ l : List Mat, (∀ n, ovlCalls (ideal .std P sk false) none i n OState.start =
        (l.take n).map (fun m => Except.ok (some m)) ++
          List.replicate (n - l.length) (Except.ok none)) ∧
      ∀ m ∈ l, m.pid < P.length ∧ m.start ≤ m.stop ∧ m.stop ≤ i.hay.length := by
  obtain ⟨l, hl, hc⟩ := C03_calls P sk i h
  refine ⟨l, hc, fun m hm => ?_⟩
  have := C15_occ_wf ((hl.2 m).1 hm).1 i.valid.1
  exact ⟨this.1, this.2.2.1, this.2.2.2.2⟩

end AcVerif
