import AcVerif.Theorems.L1c
import AcVerif.Theorems.L1d
import AcVerif.Theorems.L1e
/-!
# C04 for ALL pattern lists, on the transcriptions of the three builders

`L1c`, `L1d`, `L1e` prove that the transcribed noncontiguous compiler, DFA
builder and contiguous encoder each produce an automaton observationally
equivalent to the ideal automaton, for every pattern list (case folding off).
Composed: the three representations – for every dense depth, byte-class
setting and prefilter flag – give identical results from every engine
function on every input.  (The per-instance certificates tie the
transcriptions to the real builders; these theorems make the agreement of the
*algorithms* unconditional.)
-/
namespace AcVerif

theorem C04_kinds_find_nfa (k : MatchKind) (P : List (List UInt8)) (hasPre bc : Bool) (dd : Nat)
    (hP : P.length < 2147483648) (pre : Option (Prefilter UInt8)) (i : Input UInt8) :
    tryFindFwd ((buildContig (CNfa.compile k false P) dd bc hasPre).toAut k P hasPre) pre i =
      tryFindFwd ((CNfa.compile k false P).toAut k P hasPre) pre i :=
  (L1e_find k P hasPre bc dd hP pre i).trans (L1c_find k P hasPre pre i).symm

theorem C04_kinds_find_dfa (k : MatchKind) (P : List (List UInt8)) (hasPre bc : Bool)
    (pre : Option (Prefilter UInt8)) (i : Input UInt8) :
    tryFindFwd ((buildDfa (CNfa.compile k false P) .both bc).toAut k P hasPre) pre i =
      tryFindFwd ((CNfa.compile k false P).toAut k P hasPre) pre i :=
  (L1d_find k P hasPre bc .both pre i).trans (L1c_find k P hasPre pre i).symm

theorem C04_kinds_iter (k : MatchKind) (P : List (List UInt8)) (hasPre bc bc' : Bool) (dd : Nat)
    (hP : P.length < 2147483648) (pre : Option (Prefilter UInt8)) (i : Input UInt8) :
    findIter ((buildContig (CNfa.compile k false P) dd bc hasPre).toAut k P hasPre) pre i =
      findIter ((buildDfa (CNfa.compile k false P) .both bc').toAut k P hasPre) pre i :=
  (L1e_iter k P hasPre bc dd hP pre i).trans (L1d_iter k P hasPre bc' .both pre i).symm

theorem C04_kinds_overlap (k : MatchKind) (P : List (List UInt8)) (hasPre bc bc' : Bool) (dd : Nat)
    (hP : P.length < 2147483648) (pre : Option (Prefilter UInt8)) (i : Input UInt8) (n : Nat) :
    ovlCalls ((buildContig (CNfa.compile k false P) dd bc hasPre).toAut k P hasPre) pre i n OState.start =
      ovlCalls ((buildDfa (CNfa.compile k false P) .both bc').toAut k P hasPre) pre i n OState.start :=
  (L1e_overlap k P hasPre bc dd hP pre i n).trans (L1d_overlap k P hasPre bc' .both pre i n).symm

/-- Hence a DFA built for one anchoring mode agrees with the `Both` DFA on the mode it supports
and rejects the other. -/
theorem C04_kinds_dfa_startkind (k : MatchKind) (P : List (List UInt8)) (hasPre bc : Bool)
    (sk : StartKind) (pre : Option (Prefilter UInt8)) (i : Input UInt8) :
    tryFindFwd ((buildDfa (CNfa.compile k false P) sk bc).toAut k P hasPre) pre i =
      tryFindFwd (ideal k P sk hasPre) pre i :=
  L1d_find k P hasPre bc sk pre i

end AcVerif
