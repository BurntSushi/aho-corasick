import AcVerif.Proofs.TopLevelApi
/-!
# The capstone: `AhoCorasick::builder()…build(patterns)` followed by each public search method

One statement per public method of `AhoCorasick` (model: `AcVerif/TopLevel.lean`), for **every**
configuration `cfg : BuildCfg` – match kind, `ascii_case_insensitive`, start kind, requested
`AhoCorasickKind` (or the automatic choice), both dense depths, `byte_classes` – and **every**
pattern list `P`, under the real limits `{}` (`StateID::LIMIT = PatternID::LIMIT = 2^31 - 1`),
for the searcher built **without a prefilter** (`acBuild {} cfg none P`: `.prefilter(false)`, or
`prefilter::Builder::build` returning `None`).

* `Top_build`: every collection of at most 1000 patterns with at most 10^6 bytes in total builds,
  and the searcher has the kind the configuration asks for (`chosenKind`).
* The method theorems hold for **whatever** a successful build returns (`hs : acBuild {} cfg none P
  = .ok s`; no size bound: a successful build has `P.length ≤ PatternID::LIMIT`, which is all the
  layers need), for every input:
  - `Top_find`: `try_find` returns THE answer of the specification (`IsFind`) when the start kind
    supports the requested anchoring, and otherwise the error naming the requested mode
    (`invalidInputAnchored` / `invalidInputUnanchored`, C13).  Leftmost kinds: `earliest = false`.
  - `Top_is_match`: `is_match` is `true` iff an admissible occurrence exists (C14).
  - `Top_find_iter`: the iterator yields `iterSpec` of the specification's search.
  - `Top_overlapping`: standard kind: the call history on one `OverlappingState` drains the
    `IsOverlapList` enumeration, then `None` for ever; other kinds: `unsupportedOverlapping`.
    `Top_overlapping_iter`: the same for `try_find_overlapping_iter` (unanchored inputs only).
  - `Top_replace_all_bytes`: the splice `spliceSpec` (C12) of `replace_with[mat.pattern()]` over
    the iterator's matches, every index in bounds (`TopP.api_replace_with_bytes`: the closure
    variant `try_replace_all_with_bytes`, which may stop early).
  - `Top_stream_find`: standard kind, no empty pattern, unanchored searches supported: for every
    read schedule and every buffer capacity with one byte of room beyond the longest pattern
    (`hcap`; `Top_stream_find_default`: the production constants) the stream iterator yields the
    matches of the in-memory iterator, no I/O error, no `read` into an empty buffer (C07);
    `Top_stream_find_rejected`: the three documented errors, in the order of the code.
* With `ascii_case_insensitive(true)` occurrences are read on the lower-cased patterns and the
  lower-cased haystack (`specPats` / `specHay`, C11); with `false` both are the identity.
* `TopSpec`, `Top_capstone`: `Top_find`, `Top_is_match`, `Top_find_iter`, `Top_overlapping`,
  `Top_replace_all_bytes` and `Top_stream_find` as one statement (the other method theorems stand
  beside it).  `TopP_spec`: `TopSpec` holds for a searcher built with *any* prefilter function
  that is sound for the patterns (`PreOK` / `PreOKOvl`: `PrefilterSoundAt` for every haystack, and
  no empty pattern); the `Top_*` theorems are its case `pre = none`.
* Searchers built **with** a prefilter (`.prefilter(true)`, the default): `Theorems/TopLevelPre.lean`
  (`TopB_capstone`: the same specification `TopSpec`, for the prefilter the builder chooses).
  Concrete instances, evaluated by the kernel: `Theorems/TopLevelExamples.lean`.

Each theorem is a composition: C20Build (`buildChecked` returns the unchecked transcription) ∘
L1cIds + dense rows / L1e / L1dIds and their `Fold` versions (the transcribed searcher is the
reference automaton, `TopP.built_searchEquiv`) ∘ C04 (engines transfer along `StartEquiv`) ∘
C05 (a sound prefilter is transparent) ∘ C01 / C02 / C03 / C09 / C11 / C12 / C14 / C07 on the
reference automaton ∘ C13 (the gate): `TopP.api_*` in `Proofs/TopLevelApi.lean`, assembled for a
searcher the builder returns in `TopP.Good.spec`.  No hypothesis mentions an intermediate automaton.
-/
namespace AcVerif
open AcVerif.TopP AcVerif.MiscP AcVerif.BuildP

/-! ## building -/

theorem acBuild_eq_of {L : Limits} {cfg : BuildCfg} {pre : Option (Prefilter UInt8)}
    {P : List (List UInt8)} {b : Built}
    (h : buildChecked L { cfg with hasPre := pre.isSome } P = .ok b) :
    acBuild L cfg pre P =
      .ok (Searcher.mk { cfg with hasPre := pre.isSome } P b pre) := by
  unfold acBuild
  rw [h]

theorem TopP_build (cfg : BuildCfg) (pre : Option (Prefilter UInt8)) (P : List (List UInt8))
    (hP : P.length ≤ 1000) (hT : totalLen P ≤ 1000000) :
    ∃ s, acBuild {} cfg pre P = .ok s ∧ s.kind = chosenKind cfg P.length ∧
      s.pats = P ∧ s.pre = pre ∧ s.cfg = { cfg with hasPre := pre.isSome } :=
  ⟨_, acBuild_eq_of (C20_build_ok_default { cfg with hasPre := pre.isSome } P hP hT),
    buildUnchecked_kind _ _ _, rfl, rfl, rfl⟩

/-- **Every collection within the explicit bounds builds, in every configuration**, and the kind of
the searcher is the one the configuration asks for. -/
theorem Top_build (cfg : BuildCfg) (P : List (List UInt8))
    (hP : P.length ≤ 1000) (hT : totalLen P ≤ 1000000) :
    ∃ s, acBuild {} cfg none P = .ok s ∧ s.kind = chosenKind cfg P.length ∧
      s.pats = P ∧ s.pre = none ∧ s.cfg = { cfg with hasPre := false } :=
  TopP_build cfg none P hP hT

/-! ## the specification of a searcher, and every successful build meets it -/

structure TopSpec (cfg : BuildCfg) (P : List (List UInt8)) (s : Searcher) : Prop where
  find : ∀ i : Input UInt8,
    (supportsAnch cfg.startKind i.anch → (cfg.matchKind = .std ∨ i.earliest = false) →
      ∃ r, topFind s i = .ok r ∧
        IsFind cfg.matchKind (specPats cfg.fold P) (specHay cfg.fold i.hay) i.s i.e i.anch r) ∧
    (¬ supportsAnch cfg.startKind i.anch → topFind s i = .error (anchErr i.anch))
  isMatch : ∀ i : Input UInt8,
    (supportsAnch cfg.startKind i.anch →
      ∃ b, topIsMatch s i = .ok b ∧
        (b = true ↔
          ∃ m, IsOccA (specPats cfg.fold P) (specHay cfg.fold i.hay) i.s i.e i.anch m)) ∧
    (¬ supportsAnch cfg.startKind i.anch → topIsMatch s i = .error (anchErr i.anch))
  findIter : ∀ i : Input UInt8,
    (supportsAnch cfg.startKind i.anch → (cfg.matchKind = .std ∨ i.earliest = false) →
      ∃ F, (∀ st, st ≤ i.e + 1 →
          IsFind cfg.matchKind (specPats cfg.fold P) (specHay cfg.fold i.hay) st i.e i.anch
            (F st)) ∧
        topFindIter s i = .ok (iterSpec F i.s i.e)) ∧
    (¬ supportsAnch cfg.startKind i.anch → topFindIter s i = .error (anchErr i.anch))
  overlapping : ∀ i : Input UInt8,
    (supportsAnch cfg.startKind i.anch → cfg.matchKind = .std →
      ∃ l, IsOverlapList (specPats cfg.fold P) (specHay cfg.fold i.hay) i.s i.e i.anch l ∧
        ∀ n, topOverlapping s i n =
          (l.take n).map (fun m => Except.ok (some m)) ++
            List.replicate (n - l.length) (Except.ok none)) ∧
    (supportsAnch cfg.startKind i.anch → cfg.matchKind ≠ .std →
      ∀ n, topOverlapping s i (n + 1) = [.error .unsupportedOverlapping]) ∧
    (¬ supportsAnch cfg.startKind i.anch →
      ∀ n, topOverlapping s i (n + 1) = [.error (anchErr i.anch)])
  replaceAllBytes : ∀ (hay : List UInt8) (replaceWith : List (List UInt8)),
    (supportsAnch cfg.startKind false →
      ∃ ms, topFindIter s (Input.whole hay) = .ok ms ∧
        topReplaceAllBytes s hay replaceWith =
          .ok (spliceSpec hay (fun m => replaceWith.getD m.pid []) 0 ms) ∧
        ∀ m ∈ ms, m.pid < P.length) ∧
    (¬ supportsAnch cfg.startKind false →
      topReplaceAllBytes s hay replaceWith = .error .invalidInputUnanchored)
  streamFind : cfg.matchKind = .std → (∀ p ∈ P, p ≠ []) → supportsAnch cfg.startKind false →
    ∀ (data : List UInt8) (sched : List Nat), (∀ x ∈ sched, 1 ≤ x) →
    ∀ (spare : Option Nat) (minFactor defaultCap : Nat),
      (Buffer.new (α := UInt8) (maxPatLen P) spare minFactor defaultCap).min <
        (Buffer.new (α := UInt8) (maxPatLen P) spare minFactor defaultCap).cap →
      ∃ ms, topFindIter s (Input.whole data) = .ok ms ∧
        topStreamFind s { data := data, sched := sched } spare minFactor defaultCap =
          .ok (ms, false, 0)

theorem TopP.Good.spec {s : Searcher} {kd : AcKind} (hg : Good s kd)
    (hok : PreOK s.cfg.fold s.cfg.matchKind s.pats s.pre)
    (hokO : s.cfg.matchKind = .std → PreOKOvl s.cfg.fold s.pats s.pre) :
    TopSpec s.cfg s.pats s where
  find := api_find hg hok
  isMatch := api_is_match hg hok
  findIter := api_iter hg hok
  overlapping i := by
    refine ⟨fun h hk => ?_, api_overlap_nonstd s i,
      fun h n => topOvlCalls_err s i _ (gate_err h) n _⟩
    obtain ⟨l, h1, h2⟩ := ref_overlap s.cfg.fold s.pats _ i (supports_autSk s.kind h)
    refine ⟨l, h1, fun n => ?_⟩
    unfold topOverlapping
    rw [topOvlCalls_eq s i (gate_none h), hg.searchEquiv.overlap]
    unfold Searcher.ref
    rw [hk, ref_overlap_pre _ i (hokO hk) (supports_autSk s.kind h), h2]
  replaceAllBytes := api_replace_bytes hg hok
  streamFind hk hne h data sched hsch spare minFactor defaultCap hcap := by
    obtain ⟨F, _, h1, h2⟩ :=
      api_stream hg hok hk hne h data sched hsch spare minFactor defaultCap hcap
    exact ⟨_, h1, h2⟩

/-- whatever a successful build with a sound prefilter (or none) returns meets the specification -/
theorem TopP_spec (cfg : BuildCfg) (pre : Option (Prefilter UInt8)) (P : List (List UInt8))
    {s : Searcher} (hs : acBuild {} cfg pre P = .ok s) (hok : PreOK cfg.fold cfg.matchKind P pre)
    (hokO : cfg.matchKind = .std → PreOKOvl cfg.fold P pre) : TopSpec cfg P s := by
  obtain ⟨b, rfl, hg⟩ := acBuild_eq (Nat.le_refl _) hs
  exact { hg.spec hok hokO with }

theorem Top_spec (cfg : BuildCfg) (P : List (List UInt8)) {s : Searcher}
    (hs : acBuild {} cfg none P = .ok s) : TopSpec cfg P s :=
  TopP_spec cfg none P hs trivial fun _ => trivial

/-! ## the methods, one by one -/

/-- **`AhoCorasick::try_find`** -/
theorem Top_find (cfg : BuildCfg) (P : List (List UInt8)) {s : Searcher}
    (hs : acBuild {} cfg none P = .ok s) (i : Input UInt8) :
    (supportsAnch cfg.startKind i.anch → (cfg.matchKind = .std ∨ i.earliest = false) →
      ∃ r, topFind s i = .ok r ∧
        IsFind cfg.matchKind (specPats cfg.fold P) (specHay cfg.fold i.hay) i.s i.e i.anch r) ∧
    (¬ supportsAnch cfg.startKind i.anch → topFind s i = .error (anchErr i.anch)) :=
  (Top_spec cfg P hs).find i

/-- **`AhoCorasick::is_match`** (an `error` is the panic of the real method) -/
theorem Top_is_match (cfg : BuildCfg) (P : List (List UInt8)) {s : Searcher}
    (hs : acBuild {} cfg none P = .ok s) (i : Input UInt8) :
    (supportsAnch cfg.startKind i.anch →
      ∃ b, topIsMatch s i = .ok b ∧
        (b = true ↔
          ∃ m, IsOccA (specPats cfg.fold P) (specHay cfg.fold i.hay) i.s i.e i.anch m)) ∧
    (¬ supportsAnch cfg.startKind i.anch → topIsMatch s i = .error (anchErr i.anch)) :=
  (Top_spec cfg P hs).isMatch i

/-- **`AhoCorasick::try_find_iter`**: the yielded list is the specification's iterator over THE
answers of the restarted searches -/
theorem Top_find_iter (cfg : BuildCfg) (P : List (List UInt8)) {s : Searcher}
    (hs : acBuild {} cfg none P = .ok s) (i : Input UInt8) :
    (supportsAnch cfg.startKind i.anch → (cfg.matchKind = .std ∨ i.earliest = false) →
      ∃ F, (∀ st, st ≤ i.e + 1 →
          IsFind cfg.matchKind (specPats cfg.fold P) (specHay cfg.fold i.hay) st i.e i.anch
            (F st)) ∧
        topFindIter s i = .ok (iterSpec F i.s i.e)) ∧
    (¬ supportsAnch cfg.startKind i.anch → topFindIter s i = .error (anchErr i.anch)) :=
  (Top_spec cfg P hs).findIter i

theorem Top_find_iter_props (cfg : BuildCfg) (P : List (List UInt8)) {s : Searcher}
    (hs : acBuild {} cfg none P = .ok s) (i : Input UInt8)
    (h : supportsAnch cfg.startKind i.anch) (he : cfg.matchKind = .std ∨ i.earliest = false) :
    ∃ l, topFindIter s i = .ok l ∧
      (∀ m ∈ l, IsOcc (specPats cfg.fold P) (specHay cfg.fold i.hay) i.s i.e m) ∧
      l.Pairwise (fun a b => a.stop < b.stop) ∧ l.Pairwise (fun a b => a.stop ≤ b.start) := by
  obtain ⟨F, hF, hl⟩ := (Top_find_iter cfg P hs i).1 h he
  exact ⟨_, hl, fun m hm => (iter_occ hF i.valid.2 m hm).1, iter_sorted hF i.valid.2,
    iter_nonoverlap hF i.valid.2⟩

/-- **`AhoCorasick::try_find_overlapping`**, called `n` times on one `OverlappingState` -/
theorem Top_overlapping (cfg : BuildCfg) (P : List (List UInt8)) {s : Searcher}
    (hs : acBuild {} cfg none P = .ok s) (i : Input UInt8) :
    (supportsAnch cfg.startKind i.anch → cfg.matchKind = .std →
      ∃ l, IsOverlapList (specPats cfg.fold P) (specHay cfg.fold i.hay) i.s i.e i.anch l ∧
        ∀ n, topOverlapping s i n =
          (l.take n).map (fun m => Except.ok (some m)) ++
            List.replicate (n - l.length) (Except.ok none)) ∧
    (supportsAnch cfg.startKind i.anch → cfg.matchKind ≠ .std →
      ∀ n, topOverlapping s i (n + 1) = [.error .unsupportedOverlapping]) ∧
    (¬ supportsAnch cfg.startKind i.anch →
      ∀ n, topOverlapping s i (n + 1) = [.error (anchErr i.anch)]) :=
  (Top_spec cfg P hs).overlapping i

/-- **`AhoCorasick::try_find_overlapping_iter`**, drained with enough calls -/
theorem Top_overlapping_iter (cfg : BuildCfg) (P : List (List UInt8)) {s : Searcher}
    (hs : acBuild {} cfg none P = .ok s) (i : Input UInt8) :
    (supportsAnch cfg.startKind i.anch → cfg.matchKind = .std → i.anch = false →
      ∃ l, IsOverlapList (specPats cfg.fold P) (specHay cfg.fold i.hay) i.s i.e i.anch l ∧
        ∀ fuel, l.length < fuel → topOverlappingIter s i fuel = .ok l) ∧
    (∀ fuel,
      (¬ supportsAnch cfg.startKind i.anch →
        topOverlappingIter s i fuel = .error (anchErr i.anch)) ∧
      (supportsAnch cfg.startKind i.anch → cfg.matchKind ≠ .std →
        topOverlappingIter s i fuel = .error .unsupportedOverlapping) ∧
      (supportsAnch cfg.startKind i.anch → cfg.matchKind = .std → i.anch = true →
        topOverlappingIter s i fuel = .error .invalidInputAnchored)) := by
  obtain ⟨b, rfl, hg⟩ := acBuild_eq (Nat.le_refl _) hs
  exact api_overlap_iter hg (fun _ => trivial) i

/-- **`AhoCorasick::try_replace_all_bytes`**: the splice of `replace_with[mat.pattern()]` over the
iterator's matches; every `mat.pattern()` indexes the pattern list (so `replace_with[·]` is in
bounds when `replace_with.len() == patterns_len()`, the method's assertion) -/
theorem Top_replace_all_bytes (cfg : BuildCfg) (P : List (List UInt8)) {s : Searcher}
    (hs : acBuild {} cfg none P = .ok s) (hay : List UInt8) (replaceWith : List (List UInt8)) :
    (supportsAnch cfg.startKind false →
      ∃ ms, topFindIter s (Input.whole hay) = .ok ms ∧
        topReplaceAllBytes s hay replaceWith =
          .ok (spliceSpec hay (fun m => replaceWith.getD m.pid []) 0 ms) ∧
        ∀ m ∈ ms, m.pid < P.length) ∧
    (¬ supportsAnch cfg.startKind false →
      topReplaceAllBytes s hay replaceWith = .error .invalidInputUnanchored) :=
  (Top_spec cfg P hs).replaceAllBytes hay replaceWith

/-- **`AhoCorasick::try_stream_find_iter`**, drained: for every stream, every read schedule (each
`read` returning at least one byte while data remain) and every buffer capacity leaving one byte
of room beyond the longest pattern, the matches are those of `try_find_iter` on the whole stream
– the specification's iterator over THE standard answers –, no I/O error is reported and `read` is
never called with an empty buffer -/
theorem Top_stream_find (cfg : BuildCfg) (P : List (List UInt8)) {s : Searcher}
    (hs : acBuild {} cfg none P = .ok s) (hk : cfg.matchKind = .std) (hne : ∀ p ∈ P, p ≠ [])
    (h : supportsAnch cfg.startKind false) (data : List UInt8) (sched : List Nat)
    (hsch : ∀ x ∈ sched, 1 ≤ x) (spare : Option Nat) (minFactor defaultCap : Nat)
    (hcap : (Buffer.new (α := UInt8) (maxPatLen P) spare minFactor defaultCap).min <
        (Buffer.new (α := UInt8) (maxPatLen P) spare minFactor defaultCap).cap) :
    ∃ F, (∀ st, st ≤ data.length + 1 →
        IsFind .std (specPats cfg.fold P) (specHay cfg.fold data) st data.length false (F st)) ∧
      topFindIter s (Input.whole data) = .ok (iterSpec F 0 data.length) ∧
      topStreamFind s { data := data, sched := sched } spare minFactor defaultCap =
        .ok (iterSpec F 0 data.length, false, 0) := by
  obtain ⟨b, rfl, hg⟩ := acBuild_eq (Nat.le_refl _) hs
  exact api_stream hg trivial hk hne h data sched hsch spare minFactor defaultCap hcap

/-- the production constants: capacity `max(8·min, 64 KiB)`, or `min` plus explicit spare room -/
theorem Top_stream_find_default (cfg : BuildCfg) (P : List (List UInt8)) {s : Searcher}
    (hs : acBuild {} cfg none P = .ok s) (hk : cfg.matchKind = .std) (hne : ∀ p ∈ P, p ≠ [])
    (h : supportsAnch cfg.startKind false) (data : List UInt8) (sched : List Nat)
    (hsch : ∀ x ∈ sched, 1 ≤ x) (spare : Option Nat) :
    ∃ F, (∀ st, st ≤ data.length + 1 →
        IsFind .std (specPats cfg.fold P) (specHay cfg.fold data) st data.length false (F st)) ∧
      topFindIter s (Input.whole data) = .ok (iterSpec F 0 data.length) ∧
      topStreamFind s { data := data, sched := sched } spare =
        .ok (iterSpec F 0 data.length, false, 0) :=
  Top_stream_find cfg P hs hk hne h data sched hsch spare 8 (64 * 1024)
    (StreamP.hcap_default _ spare)

/-- the rejected stream searches, in the order of the code: the gate, the match kind, the empty
pattern -/
theorem Top_stream_find_rejected (cfg : BuildCfg) (P : List (List UInt8)) {s : Searcher}
    (hs : acBuild {} cfg none P = .ok s) (rdr : Reader UInt8) (spare : Option Nat)
    (minFactor defaultCap : Nat) :
    (¬ supportsAnch cfg.startKind false →
      topStreamFind s rdr spare minFactor defaultCap = .error .invalidInputUnanchored) ∧
    (supportsAnch cfg.startKind false → cfg.matchKind ≠ .std →
      topStreamFind s rdr spare minFactor defaultCap = .error .unsupportedStream) ∧
    (supportsAnch cfg.startKind false → cfg.matchKind = .std → [] ∈ P →
      topStreamFind s rdr spare minFactor defaultCap = .error .unsupportedEmpty) := by
  obtain ⟨b, rfl, _⟩ := acBuild_eq (Nat.le_refl _) hs
  exact api_stream_err ⟨{ cfg with hasPre := false }, P, b, none⟩ rdr spare minFactor defaultCap

/-! ## which requests are rejected: the gate is `supportsAnch` -/

/-- `enforce_anchored_consistency(have, want)` succeeds iff the start kind supports the mode -/
theorem Top_gate (sk : StartKind) (a : Bool) :
    (anchoredGate sk a = none ↔ supportsAnch sk a) ∧
    (¬ supportsAnch sk a → anchoredGate sk a = some (anchErr a)) ∧
    (supportsAnch sk a ↔ sk = .both ∨ (sk = .unanchored ∧ a = false) ∨ (sk = .anchored ∧ a = true)) :=
  ⟨gate_none_iff sk a, gate_err, Iff.rfl⟩

/-! ## everything as one statement -/

/-- **The capstone.**  For every configuration and every collection of at most 1000 patterns with
at most 10^6 bytes in total, `AhoCorasick::builder()…build(patterns)` succeeds, with the kind the
configuration asks for, and every public search method of the result answers exactly as the
specification says. -/
theorem Top_capstone (cfg : BuildCfg) (P : List (List UInt8))
    (hP : P.length ≤ 1000) (hT : totalLen P ≤ 1000000) :
    ∃ s, acBuild {} cfg none P = .ok s ∧ s.kind = chosenKind cfg P.length ∧ TopSpec cfg P s := by
  obtain ⟨s, hs, hk, _⟩ := Top_build cfg P hP hT
  exact ⟨s, hs, hk, Top_spec cfg P hs⟩

end AcVerif
