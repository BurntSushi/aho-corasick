import AcVerif.Theorems.C02
import AcVerif.Theorems.C03
/-!
# C09 – anchored search

An anchored search only admits occurrences that begin at the span start
(`C09_starts_at_span_start`, `C09_overlap_starts_at_span_start`); among those
`try_find_fwd` (Lean `tryFindFwd`) returns the longest (`.ll`), the earliest supplied
(`.lf`) resp. the earliest-ending one (`.std`), and the stepwise overlapping search
(`C09_overlap`) reports each of them once, in end order, then `none` for ever.
-/
namespace AcVerif
variable {α : Type} [DecidableEq α]

theorem C09_find_ll (P : List (List α)) (sk : StartKind) (i : Input α)
    (ha : i.anch = true) (he : i.earliest = false) (h : supportsAnch sk true) :
    ∃ r, tryFindFwd (ideal .ll P sk false) none i = .ok r ∧
      IsFind .ll P i.hay i.s i.e true r :=
  ha ▸ EngP.find_ideal .ll P sk i (Or.inr he) (ha ▸ h)

theorem C09_find_lf (P : List (List α)) (sk : StartKind) (i : Input α)
    (ha : i.anch = true) (he : i.earliest = false) (h : supportsAnch sk true) :
    ∃ r, tryFindFwd (ideal .lf P sk false) none i = .ok r ∧
      IsFind .lf P i.hay i.s i.e true r :=
  ha ▸ EngP.find_ideal .lf P sk i (Or.inr he) (ha ▸ h)

theorem C09_find_std (P : List (List α)) (sk : StartKind) (i : Input α)
    (ha : i.anch = true) (h : supportsAnch sk true) :
    ∃ r, tryFindFwd (ideal .std P sk false) none i = .ok r ∧
      IsFind .std P i.hay i.s i.e true r :=
  ha ▸ EngP.find_ideal .std P sk i (Or.inl rfl) (ha ▸ h)

theorem C09_overlap (P : List (List α)) (sk : StartKind) (i : Input α)
    (ha : i.anch = true) (h : supportsAnch sk true) :
    ∃ l, IsOverlapList P i.hay i.s i.e true l ∧
      ∀ n, ovlCalls (ideal .std P sk false) none i n OState.start =
        (l.take n).map (fun m => Except.ok (some m)) ++
          List.replicate (n - l.length) (Except.ok none) :=
  ha ▸ C03_calls P sk i (ha ▸ h)

omit [DecidableEq α] in
theorem C09_starts_at_span_start (k : MatchKind) (P : List (List α)) (hay : List α) (s e : Nat)
    (m : Mat) (h : IsFind k P hay s e true (some m)) : m.start = s :=
  h.1.2 rfl

omit [DecidableEq α] in
theorem C09_overlap_starts_at_span_start (P : List (List α)) (hay : List α) (s e : Nat)
    (l : List Mat) (h : IsOverlapList P hay s e true l) (m : Mat) (hm : m ∈ l) : m.start = s :=
  ((h.2 m).1 hm).2 rfl

/-! Non-vacuity (evaluation through the proved structural form `findQ`). -/

/-- anchored at `s = 1`: `[2]` (occurring at 2) is not admissible; longest prefix pattern wins -/
example : tryFindFwd (ideal .ll [[2], [1], [1, 2], [1, 2], [1, 2, 4], []] .both false) none
    { hay := [0, 1, 2, 3, 0], s := 1, e := 5, anch := true, valid := by decide } =
    .ok (some ⟨2, 1, 3⟩) := by
  rw [LmP.tryFind_ideal _ (Or.inl rfl) _ _ _ (Or.inl rfl) (by decide)]; rfl

/-- leftmost-first: the earliest supplied pattern that is a prefix of the span -/
example : tryFindFwd (ideal .lf [[2], [1, 2], [1], [1, 2], []] .anchored false) none
    { hay := [0, 1, 2, 3, 0], s := 1, e := 5, anch := true, valid := by decide } =
    .ok (some ⟨1, 1, 3⟩) := by
  rw [LmP.tryFind_ideal _ (Or.inr rfl) _ _ _ (Or.inr (Or.inr ⟨rfl, rfl⟩)) (by decide)]; rfl

/-- no pattern starts at the anchor: `none`, although `[1,2]` occurs later -/
example : tryFindFwd (ideal .ll [[2], [1, 2], [1, 2]] .anchored false) none
    { hay := [0, 1, 2, 3, 0], s := 0, e := 5, anch := true, valid := by decide } =
    .ok none := by
  rw [LmP.tryFind_ideal _ (Or.inl rfl) _ _ _ (Or.inr (Or.inr ⟨rfl, rfl⟩)) (by decide)]; rfl

end AcVerif
