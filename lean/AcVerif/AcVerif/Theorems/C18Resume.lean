import AcVerif.Theorems.C18
import AcVerif.Proofs.StreamResumeRun
/-!
# C18 (resumption) – pulling on after a transient read error loses nothing

`C18_read_fault` treats a read error as the end of the search.  The real
`StreamFindIter` yields `Some(Err(e))` and may be pulled again; the state it is
left in is the rolled / shifted iterator with the bytes that the earlier `read`
calls of the same `Buffer::fill` delivered still in the buffer.  For a
transient fault (the `read` call of index `k` fails once; it counts as a call,
so the schedule entry of index `k` is skipped) `streamFindT`
(`StreamResume.lean`) is the item sequence seen by a caller who keeps pulling:
`some m` for a match, `none` for the error item.

* `C18_resume`: the matches among the items are exactly the fault-free match
  list `ms` (same order, same offsets) – which is the fault-free result for the
  schedule `sched`, for the schedule `sched.eraseIdx k` that the faulty run
  effectively consumes, and indeed for every schedule
  (`C18_stream_sched_indep`); there is at most one error item; `read` is never
  called with an empty buffer; without an error item the items are `ms.map some`.
* `C18_resume_nofault`: without a fault `streamFindT` is `streamFind`.
* `C18_resume_iter`: the resumed matches are the in-memory iterator's.
* `C18_resume_err_iff`: the error item is present iff the fault-free run (same
  schedule) makes more than `k` read calls (`streamCallsT`, the call counter of
  the run, is defined in `Proofs/StreamResumeCalls.lean`).

The `C18_resume*` statements are `StreamRef.resume` / `StreamRef.resume_err_iff`
(`Proofs/StreamResumeRun.lean`, over `StreamRef.runT`) at the instance `streamRef_ideal`.
-/
namespace AcVerif
open AcVerif.StreamP AcVerif.StdP
variable {α : Type} [DecidableEq α]

theorem C18_stream_sched_indep (P : List (List α)) (_hP : P ≠ []) (hne : ∀ p ∈ P, p ≠ [])
    (sk : StartKind) (hsk : supportsAnch sk false) (data : List α) (sched sched' : List Nat)
    (hs : ∀ x ∈ sched, 1 ≤ x) (hs' : ∀ x ∈ sched', 1 ≤ x)
    (spare : Option Nat) (minFactor defaultCap : Nat)
    (hcap : (Buffer.new (α := α) (ideal .std P sk false).maxLen spare minFactor defaultCap).min <
        (Buffer.new (α := α) (ideal .std P sk false).maxLen spare minFactor defaultCap).cap) :
    ∃ ms,
      streamFind (ideal .std P sk false) { data := data, sched := sched } spare
        minFactor defaultCap = .ok (ms, false, 0) ∧
      streamFind (ideal .std P sk false) { data := data, sched := sched' } spare
        minFactor defaultCap = .ok (ms, false, 0) :=
  (streamRef_ideal P sk hsk hne data spare minFactor defaultCap hcap).sched_indep hs hs'

/-- a transient read failure at call `k`, the caller pulling on: the matches
among the items are exactly the fault-free matches (for the schedule `sched`
and for `sched.eraseIdx k`, the schedule the faulty run effectively consumes),
at most one error item, `read` never called with an empty buffer
(any buffer constants with `min < cap`) -/
theorem C18_resume (P : List (List α)) (_hP : P ≠ []) (hne : ∀ p ∈ P, p ≠ [])
    (sk : StartKind) (hsk : supportsAnch sk false) (data : List α) (sched : List Nat)
    (hs : ∀ x ∈ sched, 1 ≤ x) (spare : Option Nat) (minFactor defaultCap : Nat)
    (hcap : (Buffer.new (α := α) (ideal .std P sk false).maxLen spare minFactor defaultCap).min <
        (Buffer.new (α := α) (ideal .std P sk false).maxLen spare minFactor defaultCap).cap)
    (k : Nat) :
    ∃ ms items er,
      streamFind (ideal .std P sk false) { data := data, sched := sched } spare
        minFactor defaultCap = .ok (ms, false, 0) ∧
      streamFind (ideal .std P sk false) { data := data, sched := sched.eraseIdx k } spare
        minFactor defaultCap = .ok (ms, false, 0) ∧
      streamFindT (ideal .std P sk false) { data := data, sched := sched, failAt := some k } spare
        minFactor defaultCap = .ok (items, er) ∧
      items.filterMap id = ms ∧
      (items.filter (· == none)).length ≤ 1 ∧
      er = 0 ∧
      ((items.filter (· == none)).length = 0 → items = ms.map some) := by
  obtain ⟨ms, items, _, h1, h3, h4, h5, _, h7⟩ :=
    (streamRef_ideal P sk hsk hne data spare minFactor defaultCap hcap).resume hs (some k)
  exact ⟨ms, items, 0, h1 _ hs, h1 _ fun x hx => hs x (List.mem_of_mem_eraseIdx hx), h3, h4, h5,
    rfl, h7⟩

theorem C18_resume_nofault (P : List (List α)) (_hP : P ≠ []) (hne : ∀ p ∈ P, p ≠ [])
    (sk : StartKind) (hsk : supportsAnch sk false) (data : List α) (sched : List Nat)
    (hs : ∀ x ∈ sched, 1 ≤ x) (spare : Option Nat) (minFactor defaultCap : Nat)
    (hcap : (Buffer.new (α := α) (ideal .std P sk false).maxLen spare minFactor defaultCap).min <
        (Buffer.new (α := α) (ideal .std P sk false).maxLen spare minFactor defaultCap).cap) :
    ∃ ms,
      streamFind (ideal .std P sk false) { data := data, sched := sched } spare
        minFactor defaultCap = .ok (ms, false, 0) ∧
      streamFindT (ideal .std P sk false) { data := data, sched := sched } spare
        minFactor defaultCap = .ok (ms.map some, 0) := by
  obtain ⟨ms, items, _, h1, h3, _, _, h6, h7⟩ :=
    (streamRef_ideal P sk hsk hne data spare minFactor defaultCap hcap).resume hs none
  exact ⟨ms, h1 _ hs, by rw [h3, h7 (h6 rfl)]⟩

theorem C18_resume_iter (P : List (List α)) (_hP : P ≠ []) (hne : ∀ p ∈ P, p ≠ [])
    (sk : StartKind) (hsk : supportsAnch sk false) (data : List α) (sched : List Nat)
    (hs : ∀ x ∈ sched, 1 ≤ x) (spare : Option Nat) (minFactor defaultCap : Nat)
    (hcap : (Buffer.new (α := α) (ideal .std P sk false).maxLen spare minFactor defaultCap).min <
        (Buffer.new (α := α) (ideal .std P sk false).maxLen spare minFactor defaultCap).cap)
    (k : Nat) :
    ∃ ms items,
      findIter (ideal .std P sk false) none
        { hay := data, s := 0, e := data.length, anch := false, earliest := false,
          valid := ⟨Nat.le_refl _, Nat.zero_le _⟩ } = .ok ms ∧
      streamFindT (ideal .std P sk false) { data := data, sched := sched, failAt := some k } spare
        minFactor defaultCap = .ok (items, 0) ∧
      items.filterMap id = ms ∧ (items.filter (· == none)).length ≤ 1 := by
  obtain ⟨ms, items, h0, _, h3, h4, h5, _⟩ :=
    (streamRef_ideal P sk hsk hne data spare minFactor defaultCap hcap).resume hs (some k)
  exact ⟨ms, items, h0, h3, h4, h5⟩

theorem C18_resume_err_iff (P : List (List α)) (_hP : P ≠ []) (hne : ∀ p ∈ P, p ≠ [])
    (sk : StartKind) (hsk : supportsAnch sk false) (data : List α) (sched : List Nat)
    (hs : ∀ x ∈ sched, 1 ≤ x) (spare : Option Nat) (minFactor defaultCap : Nat)
    (hcap : (Buffer.new (α := α) (ideal .std P sk false).maxLen spare minFactor defaultCap).min <
        (Buffer.new (α := α) (ideal .std P sk false).maxLen spare minFactor defaultCap).cap)
    (k : Nat) :
    ∃ items er c,
      streamFindT (ideal .std P sk false) { data := data, sched := sched, failAt := some k } spare
        minFactor defaultCap = .ok (items, er) ∧
      streamCallsT (ideal .std P sk false) { data := data, sched := sched } spare
        minFactor defaultCap = .ok c ∧
      ((items.filter (· == none)).length = 1 ↔ k < c) ∧
      ((items.filter (· == none)).length = 0 ↔ c ≤ k) := by
  obtain ⟨items, c, h⟩ :=
    (streamRef_ideal P sk hsk hne data spare minFactor defaultCap hcap).resume_err_iff hs k
  exact ⟨items, 0, c, h⟩

/-! ## corollaries

`hcap` holds for the default constants (factor 8, 64 KiB), for the production-shaped capacity
`max (min * minFactor) defaultCap` with any `minFactor ≥ 2`, and for explicit spare room (capacity
`min + max 1 sp`) whatever the constants -/

theorem C18_resume_default (P : List (List α)) (_hP : P ≠ []) (hne : ∀ p ∈ P, p ≠ [])
    (sk : StartKind) (hsk : supportsAnch sk false) (data : List α) (sched : List Nat)
    (hs : ∀ x ∈ sched, 1 ≤ x) (spare : Option Nat) (k : Nat) :
    ∃ ms items er,
      streamFind (ideal .std P sk false) { data := data, sched := sched } spare =
        .ok (ms, false, 0) ∧
      streamFind (ideal .std P sk false) { data := data, sched := sched.eraseIdx k } spare =
        .ok (ms, false, 0) ∧
      streamFindT (ideal .std P sk false) { data := data, sched := sched, failAt := some k } spare =
        .ok (items, er) ∧
      items.filterMap id = ms ∧
      (items.filter (· == none)).length ≤ 1 ∧
      er = 0 ∧
      ((items.filter (· == none)).length = 0 → items = ms.map some) :=
  C18_resume P _hP hne sk hsk data sched hs spare 8 (64 * 1024) (hcap_default _ spare) k

theorem C18_resume_factor (P : List (List α)) (_hP : P ≠ []) (hne : ∀ p ∈ P, p ≠ [])
    (sk : StartKind) (hsk : supportsAnch sk false) (data : List α) (sched : List Nat)
    (hs : ∀ x ∈ sched, 1 ≤ x) (minFactor defaultCap : Nat) (hf : 2 ≤ minFactor) (k : Nat) :
    ∃ ms items er,
      streamFind (ideal .std P sk false) { data := data, sched := sched } none
        minFactor defaultCap = .ok (ms, false, 0) ∧
      streamFind (ideal .std P sk false) { data := data, sched := sched.eraseIdx k } none
        minFactor defaultCap = .ok (ms, false, 0) ∧
      streamFindT (ideal .std P sk false) { data := data, sched := sched, failAt := some k } none
        minFactor defaultCap = .ok (items, er) ∧
      items.filterMap id = ms ∧
      (items.filter (· == none)).length ≤ 1 ∧
      er = 0 ∧
      ((items.filter (· == none)).length = 0 → items = ms.map some) :=
  C18_resume P _hP hne sk hsk data sched hs none minFactor defaultCap
    (hcap_factor _ minFactor defaultCap hf) k

theorem C18_resume_spare (P : List (List α)) (_hP : P ≠ []) (hne : ∀ p ∈ P, p ≠ [])
    (sk : StartKind) (hsk : supportsAnch sk false) (data : List α) (sched : List Nat)
    (hs : ∀ x ∈ sched, 1 ≤ x) (sp minFactor defaultCap : Nat) (k : Nat) :
    ∃ ms items er,
      streamFind (ideal .std P sk false) { data := data, sched := sched } (some sp)
        minFactor defaultCap = .ok (ms, false, 0) ∧
      streamFind (ideal .std P sk false) { data := data, sched := sched.eraseIdx k } (some sp)
        minFactor defaultCap = .ok (ms, false, 0) ∧
      streamFindT (ideal .std P sk false) { data := data, sched := sched, failAt := some k }
        (some sp) minFactor defaultCap = .ok (items, er) ∧
      items.filterMap id = ms ∧
      (items.filter (· == none)).length ≤ 1 ∧
      er = 0 ∧
      ((items.filter (· == none)).length = 0 → items = ms.map some) :=
  C18_resume P _hP hne sk hsk data sched hs (some sp) minFactor defaultCap
    (hcap_spare _ sp minFactor defaultCap) k

/-! ## non-vacuity and concrete resumed runs -/

/-- the hypotheses are satisfiable: `"ab"` in `"xabxxab"`, 1-byte reads,
capacity `min + 1`, the fourth `read` call fails -/
example : ∃ ms items er,
    streamFind (ideal .std [[97, 98]] .both false)
      { data := [120, 97, 98, 120, 120, 97, 98], sched := [1, 1, 1, 1, 1, 1, 1, 1] } (some 1) =
      .ok (ms, false, 0) ∧
    streamFind (ideal .std [[97, 98]] .both false)
      { data := [120, 97, 98, 120, 120, 97, 98],
        sched := ([1, 1, 1, 1, 1, 1, 1, 1] : List Nat).eraseIdx 3 } (some 1) =
      .ok (ms, false, 0) ∧
    streamFindT (ideal .std [[97, 98]] .both false)
      { data := [120, 97, 98, 120, 120, 97, 98], sched := [1, 1, 1, 1, 1, 1, 1, 1],
        failAt := some 3 } (some 1) = .ok (items, er) ∧
    items.filterMap id = ms ∧ (items.filter (· == none)).length ≤ 1 ∧ er = 0 ∧
    ((items.filter (· == none)).length = 0 → items = ms.map some) :=
  C18_resume_default [[97, 98]] (by decide) (by decide) .both (Or.inl rfl)
    [120, 97, 98, 120, 120, 97, 98] [1, 1, 1, 1, 1, 1, 1, 1] (by decide) (some 1) 3

/-- the resumed run: the first match, the error item, then the second match
(which the run of `Engine/Stream.lean`, ending at the error, never yields) -/
example : streamFindT (ideal .std [[97, 98]] .both false)
    { data := [120, 97, 98, 120, 120, 97, 98], sched := [1, 1, 1, 1, 1, 1, 1, 1],
      failAt := some 3 } (some 1) =
    .ok ([some ⟨0, 1, 3⟩, none, some ⟨0, 5, 7⟩], 0) := by rfl

example : streamFind (ideal .std [[97, 98]] .both false)
    { data := [120, 97, 98, 120, 120, 97, 98], sched := [1, 1, 1, 1, 1, 1, 1, 1],
      failAt := some 3 } (some 1) =
    .ok ([⟨0, 1, 3⟩], true, 0) := by rfl

/-- the fault-free run -/
example : streamFind (ideal .std [[97, 98]] .both false)
    { data := [120, 97, 98, 120, 120, 97, 98], sched := [1, 1, 1, 1, 1, 1, 1, 1] } (some 1) =
    .ok ([⟨0, 1, 3⟩, ⟨0, 5, 7⟩], false, 0) := by rfl

example : streamFindT (ideal .std [[97, 98]] .both false)
    { data := [120, 97, 98, 120, 120, 97, 98], sched := [1, 1, 1, 1, 1, 1, 1, 1] } (some 1) =
    .ok ([some ⟨0, 1, 3⟩, some ⟨0, 5, 7⟩], 0) := by rfl

/-- the failure hits a later iteration of a `fill` call (`min = 3`: the call
of index 3 is the second `read` of the refill after the roll): the byte read by
the first iteration stays in the buffer and the split match `[1, 2, 3]` at
`5..8` is still found -/
example : streamFindT (ideal .std [[1, 2, 3], [3, 4]] .both false)
    { data := [0, 1, 2, 3, 4, 1, 2, 3], sched := [2, 1, 3, 1], failAt := some 3 } (some 1) =
    .ok ([some ⟨0, 1, 4⟩, none, some ⟨0, 5, 8⟩], 0) := by rfl

/-- a failure at the very first call -/
example : streamFindT (ideal .std [[97, 98]] .both false)
    { data := [120, 97, 98, 120, 120, 97, 98], sched := [1, 1, 1, 1, 1, 1, 1, 1],
      failAt := some 0 } (some 1) =
    .ok ([none, some ⟨0, 1, 3⟩, some ⟨0, 5, 7⟩], 0) := by rfl

/-- the fault-free run makes 8 read calls: 7 one-byte reads and the
end-of-stream read; so a fault at call `7` is still reached, one at `8` is not -/
example : streamCallsT (ideal .std [[97, 98]] .both false)
    { data := [120, 97, 98, 120, 120, 97, 98], sched := [1, 1, 1, 1, 1, 1, 1, 1] } (some 1) =
    .ok 8 := by rfl

example : streamFindT (ideal .std [[97, 98]] .both false)
    { data := [120, 97, 98, 120, 120, 97, 98], sched := [1, 1, 1, 1, 1, 1, 1, 1],
      failAt := some 7 } (some 1) =
    .ok ([some ⟨0, 1, 3⟩, some ⟨0, 5, 7⟩, none], 0) := by rfl

example : streamFindT (ideal .std [[97, 98]] .both false)
    { data := [120, 97, 98, 120, 120, 97, 98], sched := [1, 1, 1, 1, 1, 1, 1, 1],
      failAt := some 8 } (some 1) =
    .ok ([some ⟨0, 1, 3⟩, some ⟨0, 5, 7⟩], 0) := by rfl

/-- a read call that is never made does not fail: no error item -/
example : streamFindT (ideal .std [[97, 98]] .both false)
    { data := [120, 97, 98, 120, 120, 97, 98], sched := [1, 1, 1, 1, 1, 1, 1, 1],
      failAt := some 50 } (some 1) =
    .ok ([some ⟨0, 1, 3⟩, some ⟨0, 5, 7⟩], 0) := by rfl

end AcVerif
