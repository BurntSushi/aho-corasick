import AcVerif.Proofs.NfaMemFull
import AcVerif.Proofs.NfaMemMatch
/-!
# L1c-mem – the linked-list memory layer of the noncontiguous NFA refines the abstract
states of `AcVerif/Compiler.lean`

`AcVerif/NfaMem.lean` transcribes `State { sparse, matches, fail, depth }`, the shared vectors
`nfa.sparse : Vec<Transition { byte, next, link }>` and `nfa.matches : Vec<Match { pid, link }>`
and the methods `alloc_transition`, `alloc_match`, `add_transition`, `init_full_state`,
`follow_transition_sparse`, `add_match`, `copy_matches`, `iter_trans`, `iter_matches` of
`src/nfa/noncontiguous.rs`.  Here:

* `MemOK m` – the representation invariant (`MemP.MemOKW`, with the cell lists as witnesses):
  both dummy entries at index 0 exist and still hold the default value; for every state the
  `link` chain from its `sparse` head is finite, ends in `0`, stays inside the vector and is
  **strictly increasing in `byte`**; the chains of two different states share no cell; the same
  (with "no repeated cell" in place of sortedness) for the `matches` chains.  The witnesses are
  unique (`MemP.MemOKW.unique`).
* `absState m sid : CState` (`trans := iter_trans`, `matches_ := iter_matches`, `fail`), and
  `absNfa m : CNfa` (`Proofs/NfaMemStep.lean`).
* `MemP.Step m m' sid x` – the form in which every write is specified: `MemOK m'`, the abstract state
  of `sid` is now `x`, **every other state is as it was** (transition operations leave every match
  list alone and vice versa, `fail` is only written by `setFail`), the number of states is
  unchanged, and `nfa.sparse` / `nfa.matches` have grown by exactly the cells the two lists of `sid`
  have gained.

Theorems (all for an arbitrary `m` with `MemOK m`; `sid`/`prev`/`dst` in range); a step reads as
`absNfa m' = (absNfa m).modify sid …` through `MemP.Step.absNfa`, as in `absNfa_addTransition`:

| Rust method | step or lemma in `Proofs/NfaMem*.lean` | here | abstract counterpart in `Compiler.lean` |
|---|---|---|---|
| initial `NFA` (+ 2 dummy pushes) | `memOK_empty` (`NfaMemInv`), `absNfa_empty` (`NfaMemStep`) | | `#[]` |
| `alloc_state` | `allocState_memOK`, `absNfa_allocState` (`NfaMemStep`) | | `n.push { fail := … }` |
| `add_transition` | `addTransition_step` | `iterTrans_addTransition`, `absNfa_addTransition` | `CNfa.addTransition` (`insertTrans`: sorted insert **with overwrite**) |
| `follow_transition_sparse` | | `followTransitionSparse_eq` | `CNfa.follow` (`FAIL` when absent) |
| `init_full_state` | `initFullState_step` | `initFullState_follow` | `trans := CNfa.fullTrans next` (as in `CNfa.init`) |
| `add_match` | `addMatch_step` | `iterMatches_addMatch` | `matches_ := matches_ ++ [pid]` (`buildTrie`) |
| `copy_matches` | `copyMatches_step` | `iterMatches_copyMatches`, `iterMatches_copyMatches_frame` | `CNfa.copyMatches` (`dst ++ src`) |
| `State::is_match` | `isMatch_eq` (`NfaMemStep`) | | `CNfa.isMatch` |
| `iter_trans` | | `sorted_iterTrans` | the `Sorted` invariant of L1c |
| `add_unanchored_start_state_loop` (walks with `next_link`, writes `next` in place) | `replaceNext_step` | | `CNfa.addStartLoop` |
| `close_start_state_loop_for_leftmost` | `replaceNext_step` | | `CNfa.closeStartLoop` |
| `set_anchored_start_state` (lock-step walk, `copy_matches`, `fail = DEAD`) | `setAnchoredStartState_step` | | `CNfa.setAnchoredStart` |
| `states[sid].fail = f` | `setFail_step` | | `n.modify sid { fail := f }` |
| preamble of `compile` | | `MemC.rel_init` (`Proofs/NfaMemCompileTrie.lean`) | `CNfa.init` **up to three `fail` fields**, see below |

Differences between the linked-list code and the abstract helpers, stated exactly:

* `copy_matches(src, dst)` is only covered for `src ≠ dst` (`CNfa.copyMatches n s s` doubles the
  list; the Rust loop with `src == dst` and a non-empty list chases the tail it is growing and
  never leaves the loop – it ends with the `StateID` overflow error after filling memory; the
  example `copy_self_diverges` shows the fuel-bounded model still copying when the fuel runs
  out).  The compiler never calls it with `src == dst`.
* `add_match` / `copy_matches` start their tail walk by reading `self.matches[head]` *before*
  testing `head == 0`: on a state without matches they read the dummy `matches[0]` and rely on
  its `link` being `0`.  This is why "dummy untouched" is part of `MemOK` (it is needed by
  `MemP.tailWalk_eq`); nothing in the transition code depends on `sparse[0]`.
* `init_full_state` is only specified for a state without transitions (the Rust `assert_eq!`;
  `initFullState?` models the assertion, `initFullState?_isSome`).
* `add_transition`'s sorted insert does not need the list to be sorted in order to commute with
  `insertTrans` (both do the same comparisons in the same order); sortedness is needed for
  `follow_transition_sparse` (early exit) and is preserved by every operation.
* `set_anchored_start_state` copies `next` cell by cell along both start lists and never looks at
  the bytes; `CNfa.setAnchoredStart` copies the whole list.  They agree when both lists carry the
  same bytes (hypothesis `hbytes` of `setAnchoredStartState_step`; what the loop does in general
  is `MemP.copyNextGo_tr`); with lists of different lengths the crate hits `unreachable!()`
  (`copyNextGo = none`).
* `CNfa.init` gives `DEAD`, `FAIL` and the unanchored start the failure link `SU = 2`; the
  crate's `alloc_state` reads `special.start_unanchored_id`, which is still `0` when these
  three states are allocated, so they get `fail = 0` (`MemC.Rel.low`); the memory model has the
  crate's value.  No search can read these links (`MemC.nextState_failEq`; the header of
  `NfaIds.lean` notes the same difference).

The seeded defect S31 (`/verif/seeded/S31-C03-copy-matches-tail`, DESIGN.md 12.7: one of the
deliberately broken variants of the crate kept to show that the checks fire) "`copy_matches` links
the copies behind the FIRST own match instead of the last" is refuted by
`iterMatches_copyMatches` for every `dst` with two or more own matches (concrete instance:
`copy_keeps_both_own_matches` below, and `buggy_copy_drops_a_match` for the defective variant).

Proof structure (`AcVerif/Proofs/NfaMem*.lean`, namespace `AcVerif.MemP`): `IsChain`, `Chains` /
`Chains.splice` (pushing a cell and linking it into a list, for either side vector), `MemOKW`,
`insCell` / `insCell_step` (all three allocation sites of transitions are instances),
`addTransWalk_spec`, `addTransition_cases`, `initFullLoop_step`, `tailWalk_eq`, `appCell` /
`appCell_step`, `copyLoop_step`, `replaceNextGo_tr`, `copyNextGo_tr`, `MemOKW.step_next`.
-/
-- `(absState m s).trans` is `m.iterTrans s` by unfolding `absState`; unfolding the iterator instead is slow
attribute [local irreducible] AcVerif.MemNfa.iterTrans AcVerif.MemNfa.iterMatches

namespace AcVerif
open AcVerif.MemP AcVerif.L1cP

/-! ## `add_transition` -/

/-- `iter_trans` after `add_transition`: the sorted insert with overwrite of `Compiler.lean` -/
theorem iterTrans_addTransition {m : MemNfa} (h : MemOK m) {prev : Nat}
    (hp : prev < m.states.size) (b : UInt8) (t : Nat) :
    (m.addTransition prev b t).iterTrans prev = CNfa.insertTrans b t (m.iterTrans prev) := by
  rw [← absState_trans, (addTransition_step h hp b t).self]

/-- **`add_transition` commutes with `CNfa.addTransition`.** -/
theorem absNfa_addTransition {m : MemNfa} (h : MemOK m) {prev : Nat} (hp : prev < m.states.size)
    (b : UInt8) (t : Nat) :
    absNfa (m.addTransition prev b t) = CNfa.addTransition (absNfa m) prev b t :=
  (addTransition_step h hp b t).absNfa _ rfl

/-! ## `follow_transition_sparse`, `iter_trans` -/

/-- the list `iter_trans` yields is strictly increasing in the byte -/
theorem sorted_iterTrans {m : MemNfa} (h : MemOK m) (sid : Nat) : Sorted (m.iterTrans sid) := by
  obtain ⟨tc, mc, hw⟩ := h
  exact MemP.sorted_iterTrans hw sid

/-- **`follow_transition_sparse` is `CNfa.follow`** (including `FAIL` for an absent byte); no
range condition on `sid` -/
theorem followTransitionSparse_eq {m : MemNfa} (h : MemOK m) (sid : Nat) (b : UInt8) :
    m.followTransitionSparse sid b = CNfa.follow (absNfa m) sid b := by
  rw [L1cP.follow_eq, getD_absNfa_trans h]
  obtain ⟨tc, mc, hw⟩ := h
  exact follow_eq_lookup hw sid b

/-! ## `init_full_state` -/

/-- every byte of a fully initialised state leads to `next` -/
theorem initFullState_follow {m : MemNfa} (h : MemOK m) {prev : Nat} (hp : prev < m.states.size)
    (hempty : (m.st prev).sparse = 0) (next : Nat) (b : UInt8) :
    (m.initFullState prev next).followTransitionSparse prev b = next := by
  have hs := initFullState_step h hp hempty next
  obtain ⟨tc, mc, hw⟩ := hs.ok
  rw [follow_eq_lookup hw, ← absState_trans, hs.self]
  exact lookup_fullTrans next b

/-- the assertion of lines 445-449 holds exactly on states without transitions -/
theorem initFullState?_isSome (m : MemNfa) (prev next : Nat) :
    (m.initFullState? prev next).isSome ↔ (m.st prev).sparse = 0 := by
  unfold MemNfa.initFullState?
  split <;> simp [*]

/-! ## `add_match` -/

/-- **`add_match` appends at the tail** -/
theorem iterMatches_addMatch {m : MemNfa} (h : MemOK m) {sid : Nat} (hp : sid < m.states.size)
    (pid : Nat) : (m.addMatch sid pid).iterMatches sid = m.iterMatches sid ++ [pid] := by
  rw [← absState_matches, (addMatch_step h hp pid).self]; rfl

/-! ## `copy_matches` -/

/-- **`copy_matches` keeps every own match of `dst` and appends those of `src`** -/
theorem iterMatches_copyMatches {m : MemNfa} (h : MemOK m) {src dst : Nat}
    (hp : dst < m.states.size) (hsd : src ≠ dst) :
    (m.copyMatches src dst).iterMatches dst = m.iterMatches dst ++ m.iterMatches src := by
  rw [← absState_matches, (copyMatches_step h hp hsd).self]; rfl

/-- `src` and every other state keep their matches -/
theorem iterMatches_copyMatches_frame {m : MemNfa} (h : MemOK m) {src dst : Nat}
    (hp : dst < m.states.size) (hsd : src ≠ dst) {s : Nat} (hs : s ≠ dst) :
    (m.copyMatches src dst).iterMatches s = m.iterMatches s := by
  rw [← absState_matches, (copyMatches_step h hp hsd).frame s hs]; rfl

/-! ## examples (evaluated by the kernel) -/

section Examples
open MemNfa

/-- two empty states -/
def ex0 : MemNfa := ((MemNfa.empty.allocState 0 0).1.allocState 0 0).1

/-- insert bytes 5, 3, 9, 3: sorted, and the second `3` overwrites the first -/
def exIns : MemNfa :=
  (((ex0.addTransition 0 5 10).addTransition 0 3 11).addTransition 0 9 12).addTransition 0 3 13

theorem insert_5_3_9_3 : exIns.iterTrans 0 = [(3, 13), (5, 10), (9, 12)] := by decide +kernel

/-- … stored as: cell 1 = byte 5 (→ cell 3), cell 2 = byte 3 (head, → cell 1), cell 3 = byte 9 -/
theorem insert_5_3_9_3_cells :
    exIns.sparse = #[{}, { byte := 5, next := 10, link := 3 }, { byte := 3, next := 13, link := 1 },
      { byte := 9, next := 12, link := 0 }] ∧ (exIns.st 0).sparse = 2 := by decide +kernel

theorem insert_follow : exIns.followTransitionSparse 0 5 = 10 ∧
    exIns.followTransitionSparse 0 4 = MemNfa.FAIL ∧ exIns.followTransitionSparse 0 200 = MemNfa.FAIL ∧
    exIns.followTransitionSparse 1 5 = MemNfa.FAIL := by decide +kernel

/-- `dst = 1` holds two own matches, `src = 0` one -/
def exM : MemNfa := ((ex0.addMatch 1 7).addMatch 1 8).addMatch 0 9

theorem copy_keeps_both_own_matches :
    (exM.copyMatches 0 1).iterMatches 1 = [7, 8, 9] ∧ (exM.copyMatches 0 1).iterMatches 0 = [9] := by
  decide +kernel

/-- the seeded defect: no tail walk, the copies are linked behind the FIRST own match -/
def copyMatchesFirst (m : MemNfa) (src dst : Nat) : MemNfa :=
  copyLoop dst (m.matches_.size + 1) m (m.st dst).matches_ (m.st src).matches_

theorem buggy_copy_drops_a_match : (copyMatchesFirst exM 0 1).iterMatches 1 = [7, 9] := by
  decide +kernel

/-- `copy_matches(s, s)` chases its own tail: the fuel-bounded model is still copying when the
fuel (5 = vector length + 1) runs out: 5 copies for a 2-element list -/
theorem copy_self_diverges :
    (exM.copyMatches 1 1).iterMatches 1 = [7, 8, 7, 8, 7, 8, 7] := by decide +kernel

/-- three states; state 2 has `a → 5` and `b → FAIL` -/
def exLoop : MemNfa :=
  ((ex0.allocState 0 0).1.addTransition 2 97 5).addTransition 2 98 MemNfa.FAIL

theorem start_loop_example :
    (exLoop.addUnanchoredStartStateLoop 2).iterTrans 2 = [(97, 5), (98, 2)] ∧
    ((exLoop.addMatch 2 0).addUnanchoredStartStateLoop 2 |>.closeStartStateLoopForLeftmost 2 true).iterTrans 2
      = [(97, 5), (98, 0)] := by decide +kernel

-- `MemNfa.init.sparse.size = 769` (the dummy and 3 × 256 cells) and `matches_.size = 1` are not
-- `decide` examples: the kernel is slow on the 768 allocations.  They follow from `MemC.rel_init`
-- and `MemC.Rel.sizes`.

/-! ### the raw vectors of the crate

The model is compared with the crate's own `NFA` methods on one run (trusted: the printed output
of the crate): the two dummy pushes, six `alloc_state(0)`, the 14 `add_transition` calls below on
the interleaved states 0 and 1, `follow_transition_sparse` on both for the bytes 0, 3, 4, 5, 6, 9,
200, 255, then the `add_match` / `copy_matches` calls below.  What the crate prints for
`nfa.sparse`, `nfa.matches` and every state's `(sparse, matches, fail)` is quoted in the doc
comments; the theorems say that the model has the same vectors, cell for cell. -/

def exCrate1 : MemNfa :=
  [(0, 5, 10), (1, 7, 20), (0, 3, 11), (0, 9, 12), (1, 2, 21), (0, 3, 13), (0, 4, 14), (1, 7, 22),
   (0, 255, 15), (0, 0, 16), (1, 5, 23), (0, 9, 17), (1, 2, 24), (0, 5, 18)].foldl
    (fun m (x : Nat × UInt8 × Nat) => m.addTransition x.1 x.2.1 x.2.2)
    ((List.range 6).foldl (fun m _ => (m.allocState 0 0).1) MemNfa.empty)

def exCrate2 : MemNfa :=
  ((([(2, 7), (3, 1), (2, 8), (2, 9), (3, 2), (4, 5)].foldl
    (fun m (x : Nat × Nat) => m.addMatch x.1 x.2) exCrate1).copyMatches 2 3).copyMatches 3 5
      |>.copyMatches 5 4).copyMatches 1 4

/-- `SPARSE (0,0,0) (5,18,4) (7,22,0) (3,13,6) (9,17,7) (2,24,9) (4,14,1) (255,15,0) (0,16,3)
(5,23,2)`, `STATES (8,0,0) (5,0,0) (0,0,0) …` -/
theorem crate_dump_sparse :
    exCrate1.sparse = #[⟨0, 0, 0⟩, ⟨5, 18, 4⟩, ⟨7, 22, 0⟩, ⟨3, 13, 6⟩, ⟨9, 17, 7⟩, ⟨2, 24, 9⟩,
      ⟨4, 14, 1⟩, ⟨255, 15, 0⟩, ⟨0, 16, 3⟩, ⟨5, 23, 2⟩] ∧
    (exCrate1.st 0).sparse = 8 ∧ (exCrate1.st 1).sparse = 5 := by decide +kernel

/-- `FOLLOW 0 16 1`, `3 13 1`, `4 14 1`, `5 18 23`, `6 1 1`, `9 17 1`, `200 1 1`, `255 15 1` -/
theorem crate_dump_follow :
    ([0, 3, 4, 5, 6, 9, 200, 255].map fun b =>
      (exCrate1.followTransitionSparse 0 b, exCrate1.followTransitionSparse 1 b)) =
    [(16, 1), (13, 1), (14, 1), (18, 23), (1, 1), (17, 1), (1, 1), (15, 1)] := by decide +kernel

/-- `MATCHES (0,0) (7,3) (1,5) (8,4) (9,0) (2,7) (5,15) (7,8) (8,9) (9,0) (1,11) (2,12) (7,13)
(8,14) (9,0) (1,16) (2,17) (7,18) (8,19) (9,0)`, `STATES … (0,1,0) (0,2,0) (0,6,0) (0,10,0)` -/
theorem crate_dump_matches :
    exCrate2.matches_ = #[⟨0, 0⟩, ⟨7, 3⟩, ⟨1, 5⟩, ⟨8, 4⟩, ⟨9, 0⟩, ⟨2, 7⟩, ⟨5, 15⟩, ⟨7, 8⟩, ⟨8, 9⟩,
      ⟨9, 0⟩, ⟨1, 11⟩, ⟨2, 12⟩, ⟨7, 13⟩, ⟨8, 14⟩, ⟨9, 0⟩, ⟨1, 16⟩, ⟨2, 17⟩, ⟨7, 18⟩, ⟨8, 19⟩,
      ⟨9, 0⟩] ∧
    [2, 3, 4, 5].map (fun s => (exCrate2.st s).matches_) = [1, 2, 6, 10] ∧
    exCrate2.sparse = exCrate1.sparse := by decide +kernel

end Examples

end AcVerif
