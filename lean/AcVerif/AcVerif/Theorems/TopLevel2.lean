import AcVerif.Theorems.TopLevelPre
import AcVerif.Proofs.TopLevel2Span
import AcVerif.Proofs.TopLevel2Reject
import AcVerif.Theorems.C10
/-!
# The capstone for C08 / C18 / C10 / C13 / C14 / C17

`Theorems/TopLevel.lean` (`Top_*`, searchers without prefilter; `TopP_spec`, any sound prefilter)
and `Theorems/TopLevelPre.lean` (`TopB_*`, the builder's own prefilter) state one theorem per public
search method.  This file lifts the remaining properties of the list to the same level – the built
searcher `s` of `acBuild {} cfg pre P = .ok s` (model `AcVerif/TopLevel.lean`, additions
`AcVerif/TopLevel2.lean`) – with the same three flavours (`TopSpec2`; `TopP_spec2` for any sound
prefilter; the `Top_*` theorems are its fields for `pre = none`).  Each of `TopReject` and `TopSpec2`
is proved once, field by field, for a searcher the builder returns (`TopP.Good.reject`,
`TopP.Good.spec2`, from the lemmas of `Proofs/TopLevel*.lean`); `TopP_rejection_iff` and `TopP_spec2`
are these for the searcher of a successful `acBuild` (`acBuild_eq`):

* **C13** `Top(P)_rejection_iff` (`TopReject`): for every method, *the* error it returns (or none)
   is `gate` (`Engine/Gates.lean`) of `cfg.matchKind`, `cfg.startKind`, the requested anchoring and
   "`P` contains the empty pattern" – never of the automaton kind, the prefilter or the haystack;
   `gate_explicit` writes `gate` out per method, `C13_rejected_iff` gives its four clauses.
* `TopSpec2`: C14, C08 / C18 and C10 below and `TopReject` as one statement; `Top_spec2` /
  `TopB_spec2`, and at the end of the file the capstones `Top_capstone2`, `TopB_capstone2`.
* **C14** `Top(P)_find_earliest`: leftmost kinds with `earliest = true` (excluded from `Top_find`):
   the answer is a genuine admissible occurrence, present iff one exists, ending no later than THE
   normal answer – also with a (confirming) prefilter, which may return the normal match itself
   (`Proofs/TopLevelPreEarliest.lean`).
* **C17** `Top_pure`, `Top_clone`.
* **C08 / C18** `try_stream_replace_all_with`, `try_stream_replace_all`
   (`Top_stream_replace_all_with`, `…_stream_replace_all`): standard kind, no empty pattern,
   unanchored searches supported, every schedule (entries `≥ 1`), every capacity with `hcap`: the
   writer receives `replaceBytes data ms repl none` for the matches `ms` of the in-memory iterator
   (what `try_replace_all_with_bytes` returns on the same data, the splice `spliceSpec`), the
   closure log is (match, raw matched bytes); a replacement table of the wrong length panics.
   `…_stream_read_fault`, `…_stream_write_fault`: a read failure at call `k` / a writer accepting
   `l` bytes: the matches / written bytes are a prefix of the fault-free ones, and an error is
   reported unless nothing was lost.  Both `ascii_case_insensitive` settings.
* **C10** `…_find_span`, `…_find_frame`, `…_find_iter_span`, `…_find_iter_frame`: searching the span
   `[i.s, i.e]` is searching the sub-slice (`Input.slice`) with the offsets translated by `i.s`,
   and does not depend on the bytes outside the span (`cfg.matchKind = .std ∨ i.earliest = false`,
   the domain of `Top_find`; `Top_find_frame_any`: every mode, searcher without prefilter).
-/
namespace AcVerif
open AcVerif.TopP AcVerif.MiscP AcVerif.BuildP

/-! ## which requests are rejected, and with which error (C13) -/

/-- **Rejection depends only on the configuration.**  For each public method, the `MatchError` it
returns (`none`: it returns `Ok`) is the verdict `gate` of the match kind, the start kind, the
requested anchoring mode and whether the pattern list contains the empty pattern. -/
structure TopReject (cfg : BuildCfg) (P : List (List UInt8)) (s : Searcher) : Prop where
  find : ∀ i : Input UInt8,
    matchErrOf (topFind s i) = gate .find cfg.matchKind cfg.startKind i.anch (hasEmptyPat P)
  isMatch : ∀ i : Input UInt8,
    matchErrOf (topIsMatch s i) = gate .isMatch cfg.matchKind cfg.startKind i.anch (hasEmptyPat P)
  findIter : ∀ i : Input UInt8,
    matchErrOf (topFindIter s i) =
      gate .findIter cfg.matchKind cfg.startKind i.anch (hasEmptyPat P)
  /-- every call of `try_find_overlapping`, whatever the `OverlappingState` handed in -/
  overlapping : ∀ (i : Input UInt8) (st : OState Nat),
    matchErrOf (topOvlCall s i st) =
      gate .findOverlapping cfg.matchKind cfg.startKind i.anch (hasEmptyPat P)
  /-- … hence the call history is a single error iff the gate rejects -/
  overlappingCalls : ∀ (i : Input UInt8) (n : Nat) (e : MatchErr),
    topOverlapping s i (n + 1) = [.error e] ↔
      gate .findOverlapping cfg.matchKind cfg.startKind i.anch (hasEmptyPat P) = some e
  overlappingIter : ∀ (i : Input UInt8) (fuel : Nat),
    matchErrOf (topOverlappingIter s i fuel) =
      gate .findOverlappingIter cfg.matchKind cfg.startKind i.anch (hasEmptyPat P)
  replaceAllWithBytes : ∀ (hay : List UInt8) (repl : Mat → List UInt8) (stop : Option Nat),
    matchErrOf (topReplaceAllWithBytes s hay repl stop) =
      gate .replaceAllWithBytes cfg.matchKind cfg.startKind false (hasEmptyPat P)
  replaceAllBytes : ∀ (hay : List UInt8) (replaceWith : List (List UInt8)),
    matchErrOf (topReplaceAllBytes s hay replaceWith) =
      gate .replaceAllBytes cfg.matchKind cfg.startKind false (hasEmptyPat P)
  streamFind : ∀ (rdr : Reader UInt8) (spare : Option Nat) (minFactor defaultCap : Nat),
    matchErrOf (topStreamFind s rdr spare minFactor defaultCap) =
      gate .streamFindIter cfg.matchKind cfg.startKind false (hasEmptyPat P)
  streamReplaceAllWith : ∀ (rdr : Reader UInt8) (spare : Option Nat) (w : Writer UInt8)
      (repl : Mat → List UInt8) (minFactor defaultCap : Nat),
    matchErrOf (topStreamReplaceAllWith s rdr spare w repl minFactor defaultCap) =
      gate .streamReplaceAllWith cfg.matchKind cfg.startKind false (hasEmptyPat P)
  streamReplaceAll : ∀ (rdr : Reader UInt8) (spare : Option Nat) (w : Writer UInt8)
      (replaceWith : List (List UInt8)) (minFactor defaultCap : Nat),
    replaceWith.length = P.length →
    matchErrOf (topStreamReplaceAll s rdr spare w replaceWith minFactor defaultCap) =
      gate .streamReplaceAll cfg.matchKind cfg.startKind false (hasEmptyPat P)
  /-- a replacement table of the wrong length: the anchoring gate first, then the panic of
  `assert_eq!(replace_with.len(), patterns_len())`, whatever the match kind and the patterns -/
  streamReplaceAllPanic : ∀ (rdr : Reader UInt8) (spare : Option Nat) (w : Writer UInt8)
      (replaceWith : List (List UInt8)) (minFactor defaultCap : Nat),
    replaceWith.length ≠ P.length →
    (supportsAnch cfg.startKind false →
      topStreamReplaceAll s rdr spare w replaceWith minFactor defaultCap = .ok .panic) ∧
    (¬ supportsAnch cfg.startKind false →
      topStreamReplaceAll s rdr spare w replaceWith minFactor defaultCap =
        .error .invalidInputUnanchored)

/-- behind the anchoring gate the automaton has a start state (`Good.start_isSome`), so what is left
of each method's error is the engine's own tests (`*_err`), and `gated` puts the gate back in front -/
theorem TopP.Good.reject {s : Searcher} {kd : AcKind} (hg : Good s kd) :
    TopReject s.cfg s.pats s := by
  have plain : ∀ a, supportsAnch s.cfg.startKind a →
      startErr s.aut a = anchoredGate s.cfg.startKind a :=
    fun a h => (hg.startErr_none h).trans (gate_none h).symm
  have ovl : ∀ (i : Input UInt8) (st : OState Nat), matchErrOf (topOvlCall s i st) =
      gate .findOverlapping s.cfg.matchKind s.cfg.startKind i.anch (hasEmptyPat s.pats) :=
    fun i st => (gated _ _ _ _ fun h => by
      obtain ⟨q, hq⟩ := hg.start_isSome h
      rw [tryFindOverlappingFwd_err _ _ _ _ hq, aut_kind']).trans (gate_overlapping ..).symm
  have rwb : ∀ hay repl stop, matchErrOf (topReplaceAllWithBytes s hay repl stop) =
      gate .replaceAllWithBytes s.cfg.matchKind s.cfg.startKind false (hasEmptyPat s.pats) :=
    fun hay repl stop => gated _ _ _ (anchoredGate s.cfg.startKind false) fun h => by
      refine Eq.trans ?_ ((findIter_err s.aut s.pre (Input.whole hay)).trans (plain _ h))
      cases findIter s.aut s.pre (Input.whole hay) <;> rfl
  have hpl : s.aut.patternsLen = s.pats.length := toAut_patternsLen _ _ _
  exact
    { find := fun i => gated _ _ _ (anchoredGate s.cfg.startKind i.anch) fun h =>
        (tryFindFwd_err ..).trans (plain _ h)
      isMatch := fun i => gated _ _ _ (anchoredGate s.cfg.startKind i.anch) fun h => by
        refine Eq.trans ?_ ((tryFindFwd_err s.aut s.pre { i with earliest := true }).trans
          (plain _ h))
        cases tryFindFwd s.aut s.pre { i with earliest := true } <;> rfl
      findIter := fun i => gated _ _ _ (anchoredGate s.cfg.startKind i.anch) fun h =>
        (findIter_err ..).trans (plain _ h)
      overlapping := ovl
      overlappingCalls := fun i n e => by rw [topOverlapping_err_iff, ovl]
      overlappingIter := fun i fuel => (gated _ _ _ _ fun h => by
        obtain ⟨q, hq⟩ := hg.start_isSome h
        simp only [aut_kind', hq]
        split
        · rfl
        · split <;> rfl).trans (gate_overlapping_iter ..).symm
      replaceAllWithBytes := rwb
      replaceAllBytes := fun hay replaceWith => by
        refine Eq.trans ?_ (rwb hay (fun m => replaceWith.getD m.pid []) none)
        unfold topReplaceAllBytes
        cases topReplaceAllWithBytes s hay (fun m => replaceWith.getD m.pid []) none <;> rfl
      streamFind := fun rdr spare minFactor defaultCap => (gated _ _ _ _ fun h =>
        (streamFind_err ..).trans (hg.chunkIterNew_err _ _ _ _ h)).trans (gate_stream _ rfl ..).symm
      streamReplaceAllWith := fun rdr spare w repl minFactor defaultCap => (gated _ _ _ _ fun h =>
        (streamReplaceWith_err ..).trans (hg.chunkIterNew_err _ _ _ _ h)).trans
          (gate_stream _ rfl ..).symm
      -- with a table of the right length the assertion passes and the loop's error is the call's
      streamReplaceAll := fun rdr spare w replaceWith minFactor defaultCap hl =>
        (gated _ _ _ _ fun h => by
          simp only [hpl, hl, ne_eq, not_true_eq_false, if_false]
          rw [← hg.chunkIterNew_err rdr spare minFactor defaultCap h,
            ← streamReplaceWith_err s.aut rdr spare w (fun m => replaceWith.getD m.pid [])]
          cases streamReplaceWith s.aut rdr spare w (fun m => replaceWith.getD m.pid []) minFactor
            defaultCap <;> rfl).trans (gate_stream _ rfl ..).symm
      streamReplaceAllPanic := fun rdr spare w replaceWith minFactor defaultCap hl =>
        ⟨topStreamReplaceAll_panic s rdr spare w replaceWith minFactor defaultCap hl,
          fun h => by unfold topStreamReplaceAll; rw [gate_err h]; rfl⟩ }

/-- **C13 at the top level**, for a searcher built with any prefilter function (no hypothesis on
the prefilter: rejection never consults it) -/
theorem TopP_rejection_iff (cfg : BuildCfg) (pre : Option (Prefilter UInt8))
    (P : List (List UInt8)) {s : Searcher} (hs : acBuild {} cfg pre P = .ok s) :
    TopReject cfg P s := by
  obtain ⟨b, rfl, hg⟩ := acBuild_eq (Nat.le_refl _) hs
  exact { hg.reject with }

theorem Top_rejection_iff (cfg : BuildCfg) (P : List (List UInt8)) {s : Searcher}
    (hs : acBuild {} cfg none P = .ok s) : TopReject cfg P s :=
  TopP_rejection_iff cfg none P hs

theorem TopB_rejection_iff (K : Consts) (cfg : BuildCfg) (freq : UInt8 → Nat) (avx2 ssse3 : Bool)
    (P : List (List UInt8)) {s : Searcher}
    (hs : acBuildP {} K cfg freq avx2 ssse3 P = .ok s) : TopReject cfg P s :=
  TopP_rejection_iff cfg _ P hs

/-- `gate`, written out for each group of methods: the anchoring gate
(`enforce_anchored_consistency`, `Top_gate`) first; then, for the overlapping methods, the match
kind and (iterator only) the anchored request; for the stream methods, the match kind and the empty
pattern.  `C13_rejected_iff` states the same as the four clauses of the property. -/
theorem gate_explicit (mk : MatchKind) (sk : StartKind) (a he : Bool) :
    (gate .find mk sk a he = anchoredGate sk a ∧
      gate .isMatch mk sk a he = anchoredGate sk a ∧
      gate .findIter mk sk a he = anchoredGate sk a ∧
      gate .replaceAllBytes mk sk a he = anchoredGate sk false ∧
      gate .replaceAllWithBytes mk sk a he = anchoredGate sk false) ∧
    (gate .findOverlapping mk sk a he =
      match anchoredGate sk a with
      | some e => some e
      | none => if mk != .std then some .unsupportedOverlapping else none) ∧
    (gate .findOverlappingIter mk sk a he =
      match anchoredGate sk a with
      | some e => some e
      | none =>
        if mk != .std then some .unsupportedOverlapping
        else if a then some .invalidInputAnchored else none) ∧
    (∀ api : Api, api.isStream = true →
      gate api mk sk a he =
        match anchoredGate sk false with
        | some e => some e
        | none =>
          if mk != .std then some .unsupportedStream
          else if he then some .unsupportedEmpty else none) :=
  ⟨gate_plain mk sk a he, gate_overlapping mk sk a he, gate_overlapping_iter mk sk a he,
    fun api hapi => gate_stream api hapi mk sk a he⟩

/-! ## everything as one statement -/

/-- the specification of a searcher for configuration `cfg` and patterns `P`, continued: the
properties (C08, C10, C13, C14, C18) that `TopSpec` of `Theorems/TopLevel.lean` does not contain -/
structure TopSpec2 (cfg : BuildCfg) (P : List (List UInt8)) (s : Searcher) : Prop where
  /-- C08 -/
  streamReplaceAllWith : cfg.matchKind = .std → (∀ p ∈ P, p ≠ []) →
    supportsAnch cfg.startKind false →
    ∀ (data : List UInt8) (sched : List Nat), (∀ x ∈ sched, 1 ≤ x) →
    ∀ (spare : Option Nat) (minFactor defaultCap : Nat),
      (Buffer.new (α := UInt8) (maxPatLen P) spare minFactor defaultCap).min <
        (Buffer.new (α := UInt8) (maxPatLen P) spare minFactor defaultCap).cap →
    ∀ repl : Mat → List UInt8,
      ∃ ms, topFindIter s (Input.whole data) = .ok ms ∧
        topStreamReplaceAllWith s { data := data, sched := sched } spare {} repl minFactor
            defaultCap =
          .ok ({ out := (replaceBytes data ms repl none).1 }, (replaceBytes data ms repl none).2,
            true, 0) ∧
        topReplaceAllWithBytes s data repl none = .ok (replaceBytes data ms repl none) ∧
        (replaceBytes data ms repl none).2 =
          ms.map fun m => (m, (data.take m.stop).drop m.start)
  /-- C08, the table variant and its panic -/
  streamReplaceAll : cfg.matchKind = .std → (∀ p ∈ P, p ≠ []) →
    supportsAnch cfg.startKind false →
    ∀ (data : List UInt8) (sched : List Nat), (∀ x ∈ sched, 1 ≤ x) →
    ∀ (spare : Option Nat) (minFactor defaultCap : Nat),
      (Buffer.new (α := UInt8) (maxPatLen P) spare minFactor defaultCap).min <
        (Buffer.new (α := UInt8) (maxPatLen P) spare minFactor defaultCap).cap →
    ∀ replaceWith : List (List UInt8),
      (replaceWith.length = P.length →
        ∃ ms out, topFindIter s (Input.whole data) = .ok ms ∧
          topReplaceAllBytes s data replaceWith = .ok out ∧
          topStreamReplaceAll s { data := data, sched := sched } spare {} replaceWith minFactor
            defaultCap = .ok (.ret ({ out := out }, true, 0)) ∧
          out = spliceSpec data (fun m => replaceWith.getD m.pid []) 0 ms ∧
          ∀ m ∈ ms, m.pid < replaceWith.length) ∧
      (replaceWith.length ≠ P.length →
        topStreamReplaceAll s { data := data, sched := sched } spare {} replaceWith minFactor
          defaultCap = .ok .panic)
  /-- C18, reader -/
  streamReadFault : cfg.matchKind = .std → (∀ p ∈ P, p ≠ []) →
    supportsAnch cfg.startKind false →
    ∀ (data : List UInt8) (sched : List Nat), (∀ x ∈ sched, 1 ≤ x) →
    ∀ (spare : Option Nat) (minFactor defaultCap : Nat),
      (Buffer.new (α := UInt8) (maxPatLen P) spare minFactor defaultCap).min <
        (Buffer.new (α := UInt8) (maxPatLen P) spare minFactor defaultCap).cap →
    ∀ k : Nat,
      ∃ ms ms' err er,
        topFindIter s (Input.whole data) = .ok ms ∧
        topStreamFind s { data := data, sched := sched } spare minFactor defaultCap =
          .ok (ms, false, 0) ∧
        topStreamFind s { data := data, sched := sched, failAt := some k } spare minFactor
          defaultCap = .ok (ms', err, er) ∧
        ms' <+: ms ∧ er = 0 ∧ (err = false → ms' = ms)
  /-- C18, writer -/
  streamWriteFault : cfg.matchKind = .std → (∀ p ∈ P, p ≠ []) →
    supportsAnch cfg.startKind false →
    ∀ (data : List UInt8) (sched : List Nat), (∀ x ∈ sched, 1 ≤ x) →
    ∀ (spare : Option Nat) (minFactor defaultCap : Nat),
      (Buffer.new (α := UInt8) (maxPatLen P) spare minFactor defaultCap).min <
        (Buffer.new (α := UInt8) (maxPatLen P) spare minFactor defaultCap).cap →
    ∀ (repl : Mat → List UInt8) (l : Nat),
      ∃ out log w' log' ok',
        topReplaceAllWithBytes s data repl none = .ok (out, log) ∧
        topStreamReplaceAllWith s { data := data, sched := sched } spare {} repl minFactor
          defaultCap = .ok ({ out := out }, log, true, 0) ∧
        topStreamReplaceAllWith s { data := data, sched := sched } spare { limit := some l } repl
          minFactor defaultCap = .ok (w', log', ok', 0) ∧
        w'.out <+: out ∧ w'.out.length ≤ l ∧ (ok' = true → w'.out = out)
  /-- C10 -/
  findSpan : ∀ i : Input UInt8, i.s ≤ i.e →
    (supportsAnch cfg.startKind i.anch → (cfg.matchKind = .std ∨ i.earliest = false) →
      ∃ r, topFind s i.slice = .ok r ∧ topFind s i = .ok (r.map (·.shift i.s))) ∧
    (¬ supportsAnch cfg.startKind i.anch →
      topFind s i.slice = .error (anchErr i.anch) ∧ topFind s i = .error (anchErr i.anch))
  findFrame : ∀ i i' : Input UInt8, i'.s = i.s → i'.e = i.e → i'.anch = i.anch →
    i'.earliest = i.earliest → (i.hay.take i.e).drop i.s = (i'.hay.take i.e).drop i.s →
    (cfg.matchKind = .std ∨ i.earliest = false) → topFind s i = topFind s i'
  findIterSpan : ∀ i : Input UInt8, i.s ≤ i.e →
    (supportsAnch cfg.startKind i.anch → (cfg.matchKind = .std ∨ i.earliest = false) →
      ∃ l, topFindIter s i.slice = .ok l ∧ topFindIter s i = .ok (l.map (·.shift i.s))) ∧
    (¬ supportsAnch cfg.startKind i.anch →
      topFindIter s i.slice = .error (anchErr i.anch) ∧
        topFindIter s i = .error (anchErr i.anch))
  findIterFrame : ∀ i i' : Input UInt8, i'.s = i.s → i'.e = i.e → i'.anch = i.anch →
    i'.earliest = i.earliest → (i.hay.take i.e).drop i.s = (i'.hay.take i.e).drop i.s →
    (cfg.matchKind = .std ∨ i.earliest = false) → topFindIter s i = topFindIter s i'
  /-- C14 -/
  findEarliest : cfg.matchKind ≠ .std → ∀ i : Input UInt8, supportsAnch cfg.startKind i.anch →
    ∃ r r', topFind s { i with earliest := true } = .ok r ∧
      topFind s { i with earliest := false } = .ok r' ∧
      IsFind cfg.matchKind (specPats cfg.fold P) (specHay cfg.fold i.hay) i.s i.e i.anch r' ∧
      r.isSome = r'.isSome ∧
      (r.isSome = true ↔
        ∃ m, IsOccA (specPats cfg.fold P) (specHay cfg.fold i.hay) i.s i.e i.anch m) ∧
      ∀ m, r = some m →
        IsOccA (specPats cfg.fold P) (specHay cfg.fold i.hay) i.s i.e i.anch m ∧
          ∀ m', r' = some m' → m.stop ≤ m'.stop
  /-- C13 -/
  reject : TopReject cfg P s

/-- C08 / C18 from `streamRef_ref` through `Good.tied`; C10 by comparing THE answers of both sides
(`IsFind_unique`); C14 from `ref_earliest_pre` -/
theorem TopP.Good.spec2 {s : Searcher} {kd : AcKind} (hg : Good s kd)
    (hok : PreOK s.cfg.fold s.cfg.matchKind s.pats s.pre) : TopSpec2 s.cfg s.pats s where
  streamReplaceAllWith hk hne h data sched hsch spare minFactor defaultCap hcap repl := by
    obtain ⟨F, _, h1, h2, h3, _, h5⟩ := api_stream_replace_with hg hok hk hne h data sched hsch
      spare minFactor defaultCap hcap repl
    exact ⟨_, h1, h2, h3, h5⟩
  streamReplaceAll hk hne h data sched hs spare minFactor defaultCap hcap replaceWith := by
    refine ⟨fun hl => ?_, fun hl => topStreamReplaceAll_panic s _ spare {} _ _ _ hl h⟩
    obtain ⟨ms, hi, hr, hpid⟩ := (api_replace_bytes hg hok data replaceWith).1 h
    obtain ⟨F, _, hi', h2, _, hb, _⟩ := api_stream_replace_with hg hok hk hne h data sched hs spare
      minFactor defaultCap hcap (fun m => replaceWith.getD m.pid [])
    cases hi.symm.trans hi'
    refine ⟨_, _, hi, hr, ?_, rfl, fun m hm => hl ▸ hpid m hm⟩
    unfold topStreamReplaceAllWith at h2
    rw [gate_none h] at h2
    have hpl : s.aut.patternsLen = s.pats.length := toAut_patternsLen _ _ _
    unfold topStreamReplaceAll
    rw [gate_none h]
    simp only [hpl, hl, ne_eq, not_true_eq_false, if_false, h2, hb]
  streamReadFault hk hne h data sched hs spare minFactor defaultCap hcap k := by
    obtain ⟨F, _, hi, hsf⟩ :=
      api_stream hg hok hk hne h data sched hs spare minFactor defaultCap hcap
    obtain ⟨ms, ms', err, er, h1, h2, h3⟩ :=
      (streamRef_ref s.cfg.fold hne (supports_autSk s.kind h) data hcap).read_fault hs k
    rw [← hg.topStreamFind_eq hk h] at h1 h2
    cases hsf.symm.trans h1
    exact ⟨_, ms', err, er, hi, hsf, h2, h3⟩
  streamWriteFault hk hne h data sched hs spare minFactor defaultCap hcap repl l := by
    obtain ⟨F, _, _, hsr, hr, _, _⟩ := api_stream_replace_with hg hok hk hne h data sched hs spare
      minFactor defaultCap hcap repl
    obtain ⟨w, w', log, log', ok', h1, h2, h3⟩ :=
      (streamRef_ref s.cfg.fold hne (supports_autSk s.kind h) data hcap).write_fault hs repl l
    rw [← hg.topStreamReplaceAllWith_eq hk h] at h1 h2
    cases hsr.symm.trans h1
    exact ⟨_, _, w', log', ok', hr, hsr, h2, h3⟩
  findSpan i hse := by
    refine ⟨fun h he => ?_, fun h => ⟨(api_find hg hok i.slice).2 h, (api_find hg hok i).2 h⟩⟩
    obtain ⟨r1, h1, f1⟩ := (api_find hg hok i).1 h he
    obtain ⟨r, h2, f2⟩ := (api_find hg hok i.slice).1 h he
    refine ⟨r, h2, ?_⟩
    have f2' : IsFind s.cfg.matchKind (specPats s.cfg.fold s.pats)
        (((specHay s.cfg.fold i.hay).take i.e).drop i.s) 0 (i.e - i.s) i.anch r := by
      rw [← specHay_slice]; exact f2
    have f3 := (C10_find_slice _ _ _ i.s i.e hse (by rw [specHay_length]; exact i.valid.1) i.anch
      r).1 f2'
    rw [h1, IsFind_unique _ _ _ _ _ _ _ _ f1 f3]
  findFrame i i' hs' he' ha hea hsame hk := by
    by_cases h : supportsAnch s.cfg.startKind i.anch
    · obtain ⟨r, h1, f1⟩ := (api_find hg hok i).1 h hk
      obtain ⟨r', h2, f2⟩ := (api_find hg hok i').1 (ha ▸ h) (hea ▸ hk)
      rw [hs', he', ha] at f2
      have f3 := (C10_find_frame _ _ _ _ i.s i.e (by rw [specHay_length]; exact i.valid.1)
        (by rw [specHay_length, ← he']; exact i'.valid.1) (specHay_same _ hsame) i.anch r').2 f2
      rw [h1, h2, IsFind_unique _ _ _ _ _ _ _ _ f1 f3]
    · rw [(api_find hg hok i).2 h, (api_find hg hok i').2 (ha ▸ h), ha]
  findIterSpan i hse := by
    refine ⟨fun h he => ?_, fun h => ⟨(api_iter hg hok i.slice).2 h, (api_iter hg hok i).2 h⟩⟩
    obtain ⟨F, hF, h1⟩ := (api_iter hg hok i).1 h he
    obtain ⟨F', hF', h2⟩ := (api_iter hg hok i.slice).1 h he
    refine ⟨_, h2, ?_⟩
    have hF'' : ∀ st, st ≤ (i.e - i.s) + 1 → IsFind s.cfg.matchKind (specPats s.cfg.fold s.pats)
        (((specHay s.cfg.fold i.hay).take i.e).drop i.s) st (i.e - i.s) i.anch (F' st) := by
      intro st hst
      rw [← specHay_slice]; exact hF' st hst
    rw [h1]
    exact congrArg Except.ok (iter_slice hse hF hF'')
  findIterFrame i i' hs' he' ha hea hsame hk := by
    by_cases h : supportsAnch s.cfg.startKind i.anch
    · obtain ⟨F, hF, h1⟩ := (api_iter hg hok i).1 h hk
      obtain ⟨F', hF', h2⟩ := (api_iter hg hok i').1 (ha ▸ h) (hea ▸ hk)
      rw [hs', he'] at h2
      rw [he', ha] at hF'
      rw [h1, h2]
      exact congrArg Except.ok (iter_frame (specHay_same _ hsame) i.valid.2 hF hF')
    · rw [(api_iter hg hok i).2 h, (api_iter hg hok i').2 (ha ▸ h), ha]
  findEarliest hk i h := by
    obtain ⟨r, r', h1, h2, h3, h4, h5⟩ := ref_earliest_pre hk hok _ i (supports_autSk s.kind h)
    refine ⟨r, r', ?_, ?_, h3, h4, h4 ▸ isFind_isSome_iff h3, h5⟩
    · rw [hg.topFind_eq (i := { i with earliest := true }) h, h1]
    · rw [hg.topFind_eq (i := { i with earliest := false }) h, h2]
  reject := hg.reject

/-- whatever a successful build with a sound prefilter (or none) returns meets `TopSpec2` -/
theorem TopP_spec2 (cfg : BuildCfg) (pre : Option (Prefilter UInt8)) (P : List (List UInt8))
    {s : Searcher} (hs : acBuild {} cfg pre P = .ok s) (hok : PreOK cfg.fold cfg.matchKind P pre) :
    TopSpec2 cfg P s := by
  obtain ⟨b, rfl, hg⟩ := acBuild_eq (Nat.le_refl _) hs
  exact { hg.spec2 hok with reject := { hg.reject with } }

theorem Top_spec2 (cfg : BuildCfg) (P : List (List UInt8)) {s : Searcher}
    (hs : acBuild {} cfg none P = .ok s) : TopSpec2 cfg P s :=
  TopP_spec2 cfg none P hs trivial

theorem TopB_spec2 (K : Consts) (cfg : BuildCfg) (freq : UInt8 → Nat) (avx2 ssse3 : Bool)
    (P : List (List UInt8)) {s : Searcher}
    (hs : acBuildP {} K cfg freq avx2 ssse3 P = .ok s) : TopSpec2 cfg P s :=
  TopP_spec2 cfg _ P hs (Top_builder_prefilter_sound K cfg freq avx2 ssse3 P).1

/-! ## earliest mode on the leftmost kinds (C14), for any sound prefilter -/

section anypre
variable (cfg : BuildCfg) (pre : Option (Prefilter UInt8)) (P : List (List UInt8)) {s : Searcher}
  (hs : acBuild {} cfg pre P = .ok s)
include hs

/-- **`try_find` with `earliest(true)` on a leftmost searcher** (the case `Top_find` excludes): it
succeeds; it reports something exactly when the normal search does, i.e. exactly when an admissible
occurrence exists; what it reports is a genuine admissible occurrence, and it ends no later than
THE leftmost answer `r'` of the normal search.  (With a confirming – packed – prefilter the
reported match may be the normal one instead of the earliest; the statement covers it: it ends no
later than itself.) -/
theorem TopP_find_earliest (hok : PreOK cfg.fold cfg.matchKind P pre)
    (hk : cfg.matchKind ≠ .std) (i : Input UInt8) (h : supportsAnch cfg.startKind i.anch) :
    ∃ r r', topFind s { i with earliest := true } = .ok r ∧
      topFind s { i with earliest := false } = .ok r' ∧
      IsFind cfg.matchKind (specPats cfg.fold P) (specHay cfg.fold i.hay) i.s i.e i.anch r' ∧
      r.isSome = r'.isSome ∧
      (r.isSome = true ↔
        ∃ m, IsOccA (specPats cfg.fold P) (specHay cfg.fold i.hay) i.s i.e i.anch m) ∧
      ∀ m, r = some m →
        IsOccA (specPats cfg.fold P) (specHay cfg.fold i.hay) i.s i.e i.anch m ∧
          ∀ m', r' = some m' → m.stop ≤ m'.stop :=
  (TopP_spec2 cfg pre P hs hok).findEarliest hk i h

end anypre

/-! ## the methods are functions of (searcher, input) (C17) -/

/-- **Purity.**  The builder is a function – two builds from the same arguments return the same
searcher –, and the answers to a family of inputs do not depend on the order in which they are
asked: along any permutation of the inputs the (input, answers) pairs are permuted alike, and the
`j`-th answer of a batch is the stand-alone answer to the `j`-th input. -/
theorem Top_pure (L : Limits) (cfg : BuildCfg) (pre : Option (Prefilter UInt8))
    (P : List (List UInt8)) {s : Searcher} (hs : acBuild L cfg pre P = .ok s) :
    (∀ s', acBuild L cfg pre P = .ok s' → s' = s) ∧
    (∀ l l' : List (Input UInt8), l.Perm l' →
      (l.map fun i => (i, topFind s i, topIsMatch s i, topFindIter s i)).Perm
        (l'.map fun i => (i, topFind s i, topIsMatch s i, topFindIter s i))) ∧
    (∀ (l : List (Input UInt8)) (j : Nat) (h : j < l.length),
      (l.map (topFind s))[j]? = some (topFind s l[j])) := by
  refine ⟨fun s' hs' => ?_, fun l l' hp => hp.map _, fun l j h => ?_⟩
  · rw [hs] at hs'; injection hs' with hs'; exact hs'.symm
  · rw [List.getElem?_map, List.getElem?_eq_getElem h]; rfl

/-- **A clone answers identically**: the methods read nothing but the record -/
theorem Top_clone (s s' : Searcher) (h : s' = s) :
    topFind s' = topFind s ∧ topIsMatch s' = topIsMatch s ∧ topFindIter s' = topFindIter s ∧
    topOverlapping s' = topOverlapping s ∧ topOverlappingIter s' = topOverlappingIter s ∧
    topReplaceAllWithBytes s' = topReplaceAllWithBytes s ∧
    topReplaceAllBytes s' = topReplaceAllBytes s ∧
    @topStreamFind s' = @topStreamFind s ∧
    @topStreamReplaceAllWith s' = @topStreamReplaceAllWith s ∧
    @topStreamReplaceAll s' = @topStreamReplaceAll s := by
  subst h
  exact ⟨rfl, rfl, rfl, rfl, rfl, rfl, rfl, rfl, rfl, rfl⟩

/-! ## the searcher without prefilter: `Top_*` -/

section nopre
variable (cfg : BuildCfg) (P : List (List UInt8)) {s : Searcher}
  (hs : acBuild {} cfg none P = .ok s)
include hs

/-- **`AhoCorasick::try_stream_replace_all_with`** (C08) -/
theorem Top_stream_replace_all_with (hk : cfg.matchKind = .std) (hne : ∀ p ∈ P, p ≠ [])
    (h : supportsAnch cfg.startKind false) (data : List UInt8) (sched : List Nat)
    (hsch : ∀ x ∈ sched, 1 ≤ x) (spare : Option Nat) (minFactor defaultCap : Nat)
    (hcap : (Buffer.new (α := UInt8) (maxPatLen P) spare minFactor defaultCap).min <
        (Buffer.new (α := UInt8) (maxPatLen P) spare minFactor defaultCap).cap)
    (repl : Mat → List UInt8) :
    ∃ F, (∀ st, st ≤ data.length + 1 →
        IsFind .std (specPats cfg.fold P) (specHay cfg.fold data) st data.length false (F st)) ∧
      topFindIter s (Input.whole data) = .ok (iterSpec F 0 data.length) ∧
      topStreamReplaceAllWith s { data := data, sched := sched } spare {} repl minFactor
          defaultCap =
        .ok ({ out := (replaceBytes data (iterSpec F 0 data.length) repl none).1 },
          (replaceBytes data (iterSpec F 0 data.length) repl none).2, true, 0) ∧
      topReplaceAllWithBytes s data repl none =
        .ok (replaceBytes data (iterSpec F 0 data.length) repl none) ∧
      (replaceBytes data (iterSpec F 0 data.length) repl none).1 =
        spliceSpec data repl 0 (iterSpec F 0 data.length) ∧
      (replaceBytes data (iterSpec F 0 data.length) repl none).2 =
        (iterSpec F 0 data.length).map fun m => (m, (data.take m.stop).drop m.start) := by
  obtain ⟨b, rfl, hg⟩ := acBuild_eq (Nat.le_refl _) hs
  exact api_stream_replace_with hg trivial hk hne h data sched hsch spare minFactor defaultCap hcap
    repl

/-- the production constants: capacity `max(8·min, 64 KiB)`, or `min` plus explicit spare room -/
theorem Top_stream_replace_all_with_default (hk : cfg.matchKind = .std) (hne : ∀ p ∈ P, p ≠ [])
    (h : supportsAnch cfg.startKind false) (data : List UInt8) (sched : List Nat)
    (hsch : ∀ x ∈ sched, 1 ≤ x) (spare : Option Nat) (repl : Mat → List UInt8) :
    ∃ ms, topFindIter s (Input.whole data) = .ok ms ∧
      topStreamReplaceAllWith s { data := data, sched := sched } spare {} repl =
        .ok ({ out := (replaceBytes data ms repl none).1 }, (replaceBytes data ms repl none).2,
          true, 0) ∧
      topReplaceAllWithBytes s data repl none = .ok (replaceBytes data ms repl none) := by
  obtain ⟨F, _, h1, h2, h3, _⟩ := Top_stream_replace_all_with cfg P hs hk hne h data sched hsch
    spare 8 (64 * 1024) (StreamP.hcap_default _ spare) repl
  exact ⟨_, h1, h2, h3⟩

/-- **`AhoCorasick::try_stream_replace_all`** (C08; the `assert_eq!` panic) -/
theorem Top_stream_replace_all (hk : cfg.matchKind = .std) (hne : ∀ p ∈ P, p ≠ [])
    (h : supportsAnch cfg.startKind false) (data : List UInt8) (sched : List Nat)
    (hsch : ∀ x ∈ sched, 1 ≤ x) (spare : Option Nat) (minFactor defaultCap : Nat)
    (hcap : (Buffer.new (α := UInt8) (maxPatLen P) spare minFactor defaultCap).min <
        (Buffer.new (α := UInt8) (maxPatLen P) spare minFactor defaultCap).cap)
    (replaceWith : List (List UInt8)) :
    (replaceWith.length = P.length →
      ∃ ms out, topFindIter s (Input.whole data) = .ok ms ∧
        topReplaceAllBytes s data replaceWith = .ok out ∧
        topStreamReplaceAll s { data := data, sched := sched } spare {} replaceWith minFactor
          defaultCap = .ok (.ret ({ out := out }, true, 0)) ∧
        out = spliceSpec data (fun m => replaceWith.getD m.pid []) 0 ms ∧
        ∀ m ∈ ms, m.pid < replaceWith.length) ∧
    (replaceWith.length ≠ P.length →
      topStreamReplaceAll s { data := data, sched := sched } spare {} replaceWith minFactor
        defaultCap = .ok .panic) :=
  (Top_spec2 cfg P hs).streamReplaceAll hk hne h data sched hsch spare minFactor defaultCap hcap
    replaceWith

/-- **a read failure at call `k`** (C18) -/
theorem Top_stream_read_fault (hk : cfg.matchKind = .std) (hne : ∀ p ∈ P, p ≠ [])
    (h : supportsAnch cfg.startKind false) (data : List UInt8) (sched : List Nat)
    (hsch : ∀ x ∈ sched, 1 ≤ x) (spare : Option Nat) (minFactor defaultCap : Nat)
    (hcap : (Buffer.new (α := UInt8) (maxPatLen P) spare minFactor defaultCap).min <
        (Buffer.new (α := UInt8) (maxPatLen P) spare minFactor defaultCap).cap)
    (k : Nat) :
    ∃ ms ms' err er,
      topFindIter s (Input.whole data) = .ok ms ∧
      topStreamFind s { data := data, sched := sched } spare minFactor defaultCap =
        .ok (ms, false, 0) ∧
      topStreamFind s { data := data, sched := sched, failAt := some k } spare minFactor
        defaultCap = .ok (ms', err, er) ∧
      ms' <+: ms ∧ er = 0 ∧ (err = false → ms' = ms) :=
  (Top_spec2 cfg P hs).streamReadFault hk hne h data sched hsch spare minFactor defaultCap hcap k

/-- **a writer that accepts only `l` bytes** (C18) -/
theorem Top_stream_write_fault (hk : cfg.matchKind = .std) (hne : ∀ p ∈ P, p ≠ [])
    (h : supportsAnch cfg.startKind false) (data : List UInt8) (sched : List Nat)
    (hsch : ∀ x ∈ sched, 1 ≤ x) (spare : Option Nat) (minFactor defaultCap : Nat)
    (hcap : (Buffer.new (α := UInt8) (maxPatLen P) spare minFactor defaultCap).min <
        (Buffer.new (α := UInt8) (maxPatLen P) spare minFactor defaultCap).cap)
    (repl : Mat → List UInt8) (l : Nat) :
    ∃ out log w' log' ok',
      topReplaceAllWithBytes s data repl none = .ok (out, log) ∧
      topStreamReplaceAllWith s { data := data, sched := sched } spare {} repl minFactor
        defaultCap = .ok ({ out := out }, log, true, 0) ∧
      topStreamReplaceAllWith s { data := data, sched := sched } spare { limit := some l } repl
        minFactor defaultCap = .ok (w', log', ok', 0) ∧
      w'.out <+: out ∧ w'.out.length ≤ l ∧ (ok' = true → w'.out = out) :=
  (Top_spec2 cfg P hs).streamWriteFault hk hne h data sched hsch spare minFactor defaultCap hcap
    repl l

/-- **`try_find` on a span is `try_find` on the sub-slice** (C10) -/
theorem Top_find_span (i : Input UInt8) (hse : i.s ≤ i.e) :
    (supportsAnch cfg.startKind i.anch → (cfg.matchKind = .std ∨ i.earliest = false) →
      ∃ r, topFind s i.slice = .ok r ∧ topFind s i = .ok (r.map (·.shift i.s))) ∧
    (¬ supportsAnch cfg.startKind i.anch →
      topFind s i.slice = .error (anchErr i.anch) ∧ topFind s i = .error (anchErr i.anch)) :=
  (Top_spec2 cfg P hs).findSpan i hse

/-- **`try_find` does not depend on the bytes outside the span** (C10) -/
theorem Top_find_frame (i i' : Input UInt8)
    (hs' : i'.s = i.s) (he' : i'.e = i.e) (ha : i'.anch = i.anch)
    (hea : i'.earliest = i.earliest)
    (hsame : (i.hay.take i.e).drop i.s = (i'.hay.take i.e).drop i.s)
    (hk : cfg.matchKind = .std ∨ i.earliest = false) :
    topFind s i = topFind s i' :=
  (Top_spec2 cfg P hs).findFrame i i' hs' he' ha hea hsame hk

/-- `Top_find_frame` in **every** mode, `earliest(true)` on a leftmost searcher included: the
prefilter-free search loop reads the haystack only inside the span -/
theorem Top_find_frame_any (i i' : Input UInt8)
    (hs' : i'.s = i.s) (he' : i'.e = i.e) (ha : i'.anch = i.anch)
    (hea : i'.earliest = i.earliest)
    (hsame : (i.hay.take i.e).drop i.s = (i'.hay.take i.e).drop i.s) :
    topFind s i = topFind s i' :=
  topFind_frame_nopre s (acBuild_good (Nat.le_refl _) hs).2.2.2 i i' hs' he' ha hea hsame

/-- **`try_find_iter` on a span is `try_find_iter` on the sub-slice** (C10) -/
theorem Top_find_iter_span (i : Input UInt8) (hse : i.s ≤ i.e) :
    (supportsAnch cfg.startKind i.anch → (cfg.matchKind = .std ∨ i.earliest = false) →
      ∃ l, topFindIter s i.slice = .ok l ∧ topFindIter s i = .ok (l.map (·.shift i.s))) ∧
    (¬ supportsAnch cfg.startKind i.anch →
      topFindIter s i.slice = .error (anchErr i.anch) ∧
        topFindIter s i = .error (anchErr i.anch)) :=
  (Top_spec2 cfg P hs).findIterSpan i hse

/-- **`try_find_iter` does not depend on the bytes outside the span** (C10) -/
theorem Top_find_iter_frame (i i' : Input UInt8)
    (hs' : i'.s = i.s) (he' : i'.e = i.e) (ha : i'.anch = i.anch)
    (hea : i'.earliest = i.earliest)
    (hsame : (i.hay.take i.e).drop i.s = (i'.hay.take i.e).drop i.s)
    (hk : cfg.matchKind = .std ∨ i.earliest = false) :
    topFindIter s i = topFindIter s i' :=
  (Top_spec2 cfg P hs).findIterFrame i i' hs' he' ha hea hsame hk

/-- **`try_find` with `earliest(true)` on a leftmost searcher** (C14) -/
theorem Top_find_earliest (hk : cfg.matchKind ≠ .std) (i : Input UInt8)
    (h : supportsAnch cfg.startKind i.anch) :
    ∃ r r', topFind s { i with earliest := true } = .ok r ∧
      topFind s { i with earliest := false } = .ok r' ∧
      IsFind cfg.matchKind (specPats cfg.fold P) (specHay cfg.fold i.hay) i.s i.e i.anch r' ∧
      r.isSome = r'.isSome ∧
      (r.isSome = true ↔
        ∃ m, IsOccA (specPats cfg.fold P) (specHay cfg.fold i.hay) i.s i.e i.anch m) ∧
      ∀ m, r = some m →
        IsOccA (specPats cfg.fold P) (specHay cfg.fold i.hay) i.s i.e i.anch m ∧
          ∀ m', r' = some m' → m.stop ≤ m'.stop :=
  (Top_spec2 cfg P hs).findEarliest hk i h

end nopre

/-! ## the capstones -/

/-- **The capstone, both halves.**  For every configuration and every collection of at most 1000
patterns with at most 10^6 bytes in total, `AhoCorasick::builder().prefilter(false)…build(patterns)`
succeeds, with the kind the configuration asks for, and the result meets `TopSpec` and `TopSpec2`. -/
theorem Top_capstone2 (cfg : BuildCfg) (P : List (List UInt8))
    (hP : P.length ≤ 1000) (hT : totalLen P ≤ 1000000) :
    ∃ s, acBuild {} cfg none P = .ok s ∧ s.kind = chosenKind cfg P.length ∧
      TopSpec cfg P s ∧ TopSpec2 cfg P s := by
  obtain ⟨s, hs, hk, _⟩ := Top_build cfg P hP hT
  exact ⟨s, hs, hk, Top_spec cfg P hs, Top_spec2 cfg P hs⟩

/-- **The capstone with prefilters, both halves.** -/
theorem TopB_capstone2 (K : Consts) (cfg : BuildCfg) (freq : UInt8 → Nat) (avx2 ssse3 : Bool)
    (P : List (List UInt8)) (hP : P.length ≤ 1000) (hT : totalLen P ≤ 1000000) :
    ∃ s, acBuildP {} K cfg freq avx2 ssse3 P = .ok s ∧ s.kind = chosenKind cfg P.length ∧
      TopSpec cfg P s ∧ TopSpec2 cfg P s := by
  obtain ⟨s, hs, hk, _⟩ := TopB_build K cfg freq avx2 ssse3 P hP hT
  exact ⟨s, hs, hk, TopB_spec K cfg freq avx2 ssse3 P hs, TopB_spec2 K cfg freq avx2 ssse3 P hs⟩

end AcVerif
