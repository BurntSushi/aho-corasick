import AcVerif.Cost
import AcVerif.Fold
import AcVerif.Engine.Overlap
import AcVerif.Proofs.CostBounds
/-!
# C19 – bounded work per haystack byte

`findCost` is `findLoop` on the ideal automaton with two ghost counters:
`transitions` (number of `next_state` calls) and `fails` (number of
failure-link traversals inside those calls, `Ideal.hops`).

* `C19_result` – the counters do not influence the result.
* `C19_transitions` – at most one `next_state` call per byte of the span.
* `C19_step_potential`, `C19_step_anchored` – one call: every failure hop is
  paid for by a decrease of the depth of the current state.
* `C19_fails_le`, `C19_search` – hence `fails ≤ transitions ≤ span length` for
  a whole search, whatever the prefilter does (a prefilter jump keeps the
  state and only moves the position forward).
* `C19_anchored` – an anchored search follows no failure link at all (for any
  automaton record `A`).
* `C19_overlap_monotone`, `C19_overlap_in_span` – one call of the overlapping
  loop only moves the position forward (and stays inside the span when the
  prefilter does); `C19_overlap_cost` – the counters of one call, with the depth of
  the stored state as the potential handed to the next call.
* `C19_hops_sound` – `Ideal.hops` counts the links of the failure walk that ends in
  `Ideal.next`.
-/
namespace AcVerif
open AcVerif.CostP AcVerif.ScanP
set_option linter.unusedSectionVars false
variable {α : Type} [DecidableEq α]

theorem C19_result (k : MatchKind) (Q : PatSet α) (A : Aut (St α) α) (g : α → α)
    (hay : List α) (s e : Nat) (he : e ≤ hay.length) (pre : Option (Prefilter α))
    (anch earliest : Bool) (sid : St α) (at_ : Nat) (mat : Option Mat) (cost : Cost) :
    (findCost k Q A g hay s e he pre anch earliest sid at_ mat cost).1 =
      findLoop A hay s e he pre anch earliest sid at_ mat :=
  findCost_fst

theorem C19_transitions (k : MatchKind) (Q : PatSet α) (A : Aut (St α) α) (g : α → α)
    (hay : List α) (s e : Nat) (he : e ≤ hay.length) (pre : Option (Prefilter α))
    (anch earliest : Bool) (sid : St α) (at_ : Nat) (mat : Option Mat) (cost : Cost) :
    (findCost k Q A g hay s e he pre anch earliest sid at_ mat cost).2.transitions ≤
      cost.transitions + (e - at_) := by
  rw [findCost_snd]; exact sweep_transitions_le

theorem C19_transitions_mono (k : MatchKind) (Q : PatSet α) (A : Aut (St α) α) (g : α → α)
    (hay : List α) (s e : Nat) (he : e ≤ hay.length) (pre : Option (Prefilter α))
    (anch earliest : Bool) (sid : St α) (at_ : Nat) (mat : Option Mat) (cost : Cost) :
    cost.transitions ≤
      (findCost k Q A g hay s e he pre anch earliest sid at_ mat cost).2.transitions := by
  rw [findCost_snd]; exact sweep_transitions_ge

theorem C19_step_potential (k : MatchKind) (P : List (List α)) (q : St α) (c : α) :
    (Ideal.next k (patSet k P) false q c).depth + Ideal.hops k (patSet k P) false q c ≤
      q.depth + 1 :=
  step_potential k (patSet k P) q c

theorem C19_step_anchored (k : MatchKind) (P : List (List α)) (q : St α) (c : α) :
    Ideal.hops k (patSet k P) true q c = 0 :=
  step_anchored k (patSet k P) q c

theorem C19_step_potential' (k : MatchKind) (P : List (List α)) (anch : Bool) (q : St α) (c : α) :
    (Ideal.next k (patSet k P) anch q c).depth + Ideal.hops k (patSet k P) anch q c ≤
      q.depth + 1 :=
  step_potential' k (patSet k P) anch q c

/-- Summing `C19_step_potential'` over the loop: `fails` grows by at most the growth of
`transitions` plus the depth (the potential) of the starting state; `g` is the optional case
folding.  The depth term is needed, see the last `findCost` example below. -/
theorem C19_fails_le (k : MatchKind) (P : List (List α)) (sk : StartKind) (hasPre : Bool)
    (g : α → α) (hay : List α) (s e : Nat) (he : e ≤ hay.length) (pre : Option (Prefilter α))
    (anch earliest : Bool) (sid : St α) (at_ : Nat) (mat : Option Mat) (cost : Cost) :
    let A := (ideal k P sk hasPre).comap g
    let r := findCost k (patSet k P) A g hay s e he pre anch earliest sid at_ mat cost
    r.2.fails ≤ cost.fails + sid.depth + (r.2.transitions - cost.transitions) := by
  intro A r
  have h1 : r.2.fails + cost.transitions ≤ cost.fails + sid.depth + r.2.transitions :=
    findCost_fails_le (fun _ _ _ => rfl) rfl
  have h2 : cost.transitions ≤ r.2.transitions :=
    C19_transitions_mono k (patSet k P) A g hay s e he pre anch earliest sid at_ mat cost
  show r.2.fails ≤ cost.fails + sid.depth + (r.2.transitions - cost.transitions)
  omega

/-- A whole search: the start state has depth 0, the counters start at 0, and the loop is
entered at the span start or at a prefilter candidate `j ≥ s` (as `findImp` does). -/
theorem C19_search_from (k : MatchKind) (P : List (List α)) (sk : StartKind) (hasPre : Bool)
    (g : α → α) (hay : List α) (s e : Nat) (he : e ≤ hay.length) (pre : Option (Prefilter α))
    (anch earliest : Bool) (j : Nat) (hj : s ≤ j) (mat : Option Mat) :
    let A := (ideal k P sk hasPre).comap g
    let r := findCost k (patSet k P) A g hay s e he pre anch earliest (.at []) j mat {}
    r.2.fails ≤ r.2.transitions ∧ r.2.transitions ≤ e - s := by
  intro A r
  have h1 : r.2.fails + 0 ≤ 0 + 0 + r.2.transitions :=
    findCost_fails_le (fun _ _ _ => rfl) rfl
  have h2 : r.2.transitions ≤ 0 + (e - j) :=
    C19_transitions k (patSet k P) A g hay s e he pre anch earliest (.at []) j mat {}
  exact ⟨by omega, by omega⟩

theorem C19_search (k : MatchKind) (P : List (List α)) (sk : StartKind) (hasPre : Bool)
    (g : α → α) (hay : List α) (s e : Nat) (he : e ≤ hay.length) (pre : Option (Prefilter α))
    (anch earliest : Bool) (mat : Option Mat) :
    let A := (ideal k P sk hasPre).comap g
    let r := findCost k (patSet k P) A g hay s e he pre anch earliest (.at []) s mat {}
    r.2.fails ≤ r.2.transitions ∧ r.2.transitions ≤ e - s :=
  C19_search_from k P sk hasPre g hay s e he pre anch earliest s (Nat.le_refl s) mat

theorem C19_anchored (k : MatchKind) (Q : PatSet α) (A : Aut (St α) α) (g : α → α)
    (hay : List α) (s e : Nat) (he : e ≤ hay.length) (pre : Option (Prefilter α))
    (earliest : Bool) (sid : St α) (at_ : Nat) (mat : Option Mat) (cost : Cost) :
    (findCost k Q A g hay s e he pre true earliest sid at_ mat cost).2.fails = cost.fails := by
  rw [findCost_snd]; exact sweep_anchored

theorem C19_anchored_ideal (k : MatchKind) (P : List (List α)) (sk : StartKind) (hasPre : Bool)
    (g : α → α) (hay : List α) (s e : Nat) (he : e ≤ hay.length) (pre : Option (Prefilter α))
    (earliest : Bool) (sid : St α) (at_ : Nat) (mat : Option Mat) (cost : Cost) :
    let A := (ideal k P sk hasPre).comap g
    let r := findCost k (patSet k P) A g hay s e he pre true earliest sid at_ mat cost
    r.2.fails = cost.fails :=
  C19_anchored k (patSet k P) _ g hay s e he pre earliest sid at_ mat cost

/-! ## without case folding: the plain ideal automaton (`g = id`) -/

theorem ideal_comap_id (k : MatchKind) (P : List (List α)) (sk : StartKind) (hasPre : Bool) :
    (ideal k P sk hasPre).comap id = ideal k P sk hasPre := rfl

theorem C19_fails_le_plain (k : MatchKind) (P : List (List α)) (sk : StartKind) (hasPre : Bool)
    (hay : List α) (s e : Nat) (he : e ≤ hay.length) (pre : Option (Prefilter α))
    (anch earliest : Bool) (sid : St α) (at_ : Nat) (mat : Option Mat) (cost : Cost) :
    let r := findCost k (patSet k P) (ideal k P sk hasPre) id hay s e he pre anch earliest
      sid at_ mat cost
    r.2.fails ≤ cost.fails + sid.depth + (r.2.transitions - cost.transitions) :=
  C19_fails_le k P sk hasPre id hay s e he pre anch earliest sid at_ mat cost

theorem C19_search_plain (k : MatchKind) (P : List (List α)) (sk : StartKind) (hasPre : Bool)
    (hay : List α) (s e : Nat) (he : e ≤ hay.length) (pre : Option (Prefilter α))
    (anch earliest : Bool) (mat : Option Mat) :
    let r := findCost k (patSet k P) (ideal k P sk hasPre) id hay s e he pre anch earliest
      (.at []) s mat {}
    r.2.fails ≤ r.2.transitions ∧ r.2.transitions ≤ e - s :=
  C19_search k P sk hasPre id hay s e he pre anch earliest mat

/-! ## the overlapping loop -/

theorem C19_overlap_monotone {σ : Type} (A : Aut σ α) (hay : List α) (s e : Nat)
    (he : e ≤ hay.length) (pre : Option (Prefilter α)) (anch : Bool) (sid : σ) (at_ : Nat) :
    at_ ≤ (ovlLoop A hay s e he pre anch sid at_).at_ :=
  ovlLoop_at_ge A hay s e he pre anch sid at_

/-- `PreInSpan`: the prefilter only reports positions inside the span it was given (trivially
true without a prefilter).  Without that proviso the statement is false, see the
counterexample below. -/
theorem C19_overlap_in_span {σ : Type} (A : Aut σ α) (hay : List α) (s e : Nat)
    (he : e ≤ hay.length) (pre : Option (Prefilter α)) (hpre : PreInSpan pre) (anch : Bool)
    (sid : σ) (at_ : Nat) :
    (ovlLoop A hay s e he pre anch sid at_).at_ ≤ max at_ e :=
  ovlLoop_at_le A hpre sid at_

theorem C19_overlap_in_span_nopre {σ : Type} (A : Aut σ α) (hay : List α) (s e : Nat)
    (he : e ≤ hay.length) (anch : Bool) (sid : σ) (at_ : Nat) :
    (ovlLoop A hay s e he Option.none anch sid at_).at_ ≤ max at_ e :=
  C19_overlap_in_span A hay s e he Option.none preInSpan_none anch sid at_

/-- `CostP.ovlCost` is `ovlLoop` with the two counters of `findCost`. -/
theorem C19_overlap_result (k : MatchKind) (Q : PatSet α) (A : Aut (St α) α) (g : α → α)
    (hay : List α) (s e : Nat) (he : e ≤ hay.length) (pre : Option (Prefilter α)) (anch : Bool)
    (sid : St α) (at_ : Nat) (cost : Cost) :
    (ovlCost k Q A g hay s e he pre anch sid at_ cost).1 = ovlLoop A hay s e he pre anch sid at_ :=
  ovlCost_fst

/-- One call (`CostP.ovlCost_bounds`).  In the third conjunct the potential
`odepth r.1`, the depth of the state the call stores, is handed to the next call, which
resumes from that state. -/
theorem C19_overlap_cost (k : MatchKind) (P : List (List α)) (sk : StartKind) (hasPre : Bool)
    (g : α → α) (hay : List α) (s e : Nat) (he : e ≤ hay.length) (pre : Option (Prefilter α))
    (anch : Bool) (sid : St α) (at_ : Nat) (cost : Cost) :
    let A := (ideal k P sk hasPre).comap g
    let r := ovlCost k (patSet k P) A g hay s e he pre anch sid at_ cost
    cost.transitions ≤ r.2.transitions ∧
    r.2.transitions + at_ ≤ cost.transitions + r.1.at_ + 1 ∧
    r.2.fails + odepth r.1 + cost.transitions ≤ cost.fails + sid.depth + r.2.transitions :=
  ovlCost_bounds (fun _ _ _ => rfl) rfl

/-- the per-call counters the driver reports (`CostP.tryOvlCost`, compared call by call with the
instrumented real code) are ghost state of exactly `try_find_overlapping_fwd` -/
theorem C19_overlap_call_result (k : MatchKind) (Q : PatSet α) (A : Aut (St α) α) (g : α → α)
    (pre : Option (Prefilter α)) (i : Input α) (st : OState (St α)) :
    (tryOvlCost k Q A g pre i st).map (·.1) = tryFindOverlappingFwd A pre i st :=
  tryOvlCost_fst k Q A g pre i st

/-! ## `hops` is coherent with `Ideal.next` -/

/-- `CostP.walk` follows the failure links (`lsp Q u.tail`, or the dead state for a blocked
leftmost node) from `u` until a node with a goto on `c`, the root or the dead state is reached.
The state it ends in is the model's `Ideal.next`, and the number of links followed is
`Ideal.hops`: the closed-form transition function and the hop counter describe the same walk. -/
theorem C19_hops_sound (k : MatchKind) (P : List (List α)) (u : List α) (c : α) :
    walk k (patSet k P) c u.length u =
      (Ideal.next k (patSet k P) false (.at u) c, Ideal.hops k (patSet k P) false (.at u) c) :=
  walk_eq_of_le k (patSet k P) c u.length u (Nat.le_refl _)

theorem C19_hops_fuel (k : MatchKind) (Q : PatSet α) (c : α) (fuel : Nat) (u : List α)
    (h : u.length ≤ fuel) : hops k Q c fuel u = hops k Q c u.length u :=
  hops_fuel k Q c fuel u.length u h (Nat.le_refl _)

/-! ## non-vacuity and tightness -/

/-- the `a^k b` family: from node `aaa` a byte that is neither `a` nor `b` costs 3 hops … -/
example : hops .std (patSet .std [[1, 1, 1, 2]]) 3 3 [1, 1, 1] = 3 := by decide
example : Ideal.hops .std (patSet .std [[1, 1, 1, 2]]) false (.at [1, 1, 1]) 3 = 3 := by decide
/-- … and lands in the root, so `C19_step_potential` is tight here: `0 + 3 = 3 + 1 - 1` -/
example : Ideal.next .std (patSet .std [[1, 1, 1, 2]]) false (.at [1, 1, 1]) 3 = .at [] := by
  decide
/-- a byte `a` costs one hop and stays at depth 3: `3 + 1 = 3 + 1` (tight) -/
example : Ideal.hops .std (patSet .std [[1, 1, 1, 2]]) false (.at [1, 1, 1]) 1 = 1 ∧
    Ideal.next .std (patSet .std [[1, 1, 1, 2]]) false (.at [1, 1, 1]) 1 = .at [1, 1, 1] := by
  decide
/-- leftmost-first: the failure link of `aaa` is the dead state once `a` has matched -/
example : Ideal.hops .lf (patSet .lf [[1, 1, 1, 2], [1]]) false (.at [1, 1, 1]) 3 = 1 ∧
    Ideal.next .lf (patSet .lf [[1, 1, 1, 2], [1]]) false (.at [1, 1, 1]) 3 = .dead := by
  decide
/-- a whole search: 4 bytes, 4 transitions, 3 failure hops -/
example : findCost .std (patSet .std [[1, 1, 1, 2]]) (ideal .std [[1, 1, 1, 2]] .unanchored false)
    id [1, 1, 1, 3] 0 4 (by decide) Option.none false true (.at []) 0 Option.none {} =
    (Option.none, ⟨4, 3⟩) := by decide +kernel
/-- the depth term of `C19_fails_le` is needed: started at depth 3, one byte costs 3 hops -/
example : findCost .std (patSet .std [[1, 1, 1, 2]]) (ideal .std [[1, 1, 1, 2]] .unanchored false)
    id [3] 0 1 (by decide) Option.none false true (.at [1, 1, 1]) 0 Option.none {} =
    (Option.none, ⟨1, 3⟩) := by decide +kernel

/-- Counterexample to the unconditional `(ovlLoop …).at_ ≤ max at_ e`: a prefilter that
reports a candidate beyond the span end (here `5 > e = 1`) makes the loop store that position. -/
example : (ovlLoop (ideal .std [[1]] .unanchored true) [0, 0] 0 1 (by decide)
    (some fun _ _ _ => .pos 5) false (.at []) 0).at_ = 5 := by decide +kernel

end AcVerif
