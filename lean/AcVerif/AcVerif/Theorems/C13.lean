import AcVerif.Engine.Gates
import AcVerif.Proofs.ListArray
/-!
# C13 – search rejection depends only on configuration

`gate` mentions neither the automaton kind, nor the pattern list (beyond
"contains the empty pattern"), nor the haystack: so the verdict cannot depend
on them.  `C13_rejected_iff` states the property's four clauses (`clauseA` …
`clauseD`) outright.
-/
namespace AcVerif

/-- The anchoring mode is not covered by the start kind. -/
def clauseA (api : Api) (sk : StartKind) (anch : Bool) : Prop :=
  (sk = .unanchored ∧ api.takesInput = true ∧ anch = true) ∨
  (sk = .anchored ∧ ¬ (api.takesInput = true ∧ anch = true))
def clauseB (api : Api) (mk : MatchKind) : Prop :=
  (api.isOverlapping = true ∨ api.isStream = true) ∧ mk ≠ .std
def clauseC (api : Api) (anch : Bool) : Prop := api = .findOverlappingIter ∧ anch = true
def clauseD (api : Api) (hasEmpty : Bool) : Prop := api.isStream = true ∧ hasEmpty = true

theorem anchoredGate_of_clauseA {api : Api} {sk : StartKind} {anch : Bool}
    (h : clauseA api sk anch) :
    anchoredGate sk (api.takesInput && anch) =
      some (if api.takesInput && anch then .invalidInputAnchored else .invalidInputUnanchored) := by
  rcases h with ⟨rfl, h1, h2⟩ | ⟨rfl, h⟩
  · rw [h1, h2]; rfl
  · have : (api.takesInput && anch) = false := by simpa using h
    rw [this]; rfl

theorem anchoredGate_isSome_iff (api : Api) (sk : StartKind) (anch : Bool) :
    (anchoredGate sk (api.takesInput && anch)).isSome = true ↔ clauseA api sk anch := by
  unfold clauseA
  rw [← Bool.and_eq_true]
  cases sk <;> cases (api.takesInput && anch) <;> simp [anchoredGate]

/-- `gateAut`: a request made directly on an automaton. -/
theorem C13_rejected_iff_lowlevel (api : Api) (mk : MatchKind) (sk : StartKind) (anch hasEmpty : Bool) :
    (gateAut api mk sk anch hasEmpty).isSome = true ↔
      clauseA api sk anch ∨ clauseB api mk ∨ clauseC api anch ∨ clauseD api hasEmpty := by
  -- `findOverlappingIter` takes an `Input`, so its gate on `want` is a gate on `anch`
  have hC : (api == Api.findOverlappingIter && (api.takesInput && anch)) = true ↔
      clauseC api anch := by
    unfold clauseC
    rw [Bool.and_eq_true, beq_iff_eq]
    constructor
    · rintro ⟨rfl, h⟩; exact ⟨rfl, h⟩
    · rintro ⟨rfl, h⟩; exact ⟨rfl, h⟩
  -- each `if` of `gateAut` contributes its condition as one disjunct
  unfold gateAut
  simp only [Option.isSome_ite_some, anchoredGate_isSome_iff, hC, clauseB, clauseD,
    Bool.and_eq_true, bne_iff_ne, ne_eq]
  -- the same five conditions, grouped as the four clauses
  generalize clauseA api sk anch = a, clauseC api anch = c
  grind

/-- `gate`: a request on the top-level searcher, where the checks happen in a different
order; the *set* of rejected requests is the same. -/
theorem C13_rejected_iff (api : Api) (mk : MatchKind) (sk : StartKind) (anch hasEmpty : Bool) :
    (gate api mk sk anch hasEmpty).isSome = true ↔
      clauseA api sk anch ∨ clauseB api mk ∨ clauseC api anch ∨ clauseD api hasEmpty := by
  rw [← C13_rejected_iff_lowlevel]
  unfold gate
  -- the top-level check is the automaton's last one, performed first
  cases h : anchoredGate sk (api.takesInput && anch) with
  | none => rfl
  | some e =>
    have hA := (anchoredGate_isSome_iff api sk anch).1 (by rw [h]; rfl)
    exact iff_of_true rfl ((C13_rejected_iff_lowlevel ..).2 (Or.inl hA))

theorem C13_anchor_error (api : Api) (mk : MatchKind) (sk : StartKind) (anch hasEmpty : Bool)
    (h : clauseA api sk anch) :
    gate api mk sk anch hasEmpty =
      some (if api.takesInput && anch then .invalidInputAnchored else .invalidInputUnanchored) := by
  unfold gate
  rw [anchoredGate_of_clauseA h]

/-- non-vacuity: each clause is met by some request, and some request is accepted -/
example : (gate .find .lf .unanchored true false).isSome = true ∧
    (gate .findOverlapping .lf .both false false).isSome = true ∧
    (gate .findOverlappingIter .std .both true false).isSome = true ∧
    (gate .streamFindIter .std .both false true).isSome = true ∧
    (gate .streamFindIter .std .both false false).isSome = false := by decide

end AcVerif
