import AcVerif.Proofs.PreScanBounds
import AcVerif.Proofs.PreBuilderFacts
import AcVerif.Theorems.C06
import AcVerif.Ideal
/-!
# C19 – the prefilter work of one search is linear in the span

`findScan A pre i` (AcVerif/PreScan.lean) is the total haystack extent the prefilter answers of
one non-overlapping search account for.  For ANY automaton record `A`:

* `C19_prescan_le`: a prefilter whose answers stay inside the span it is given (`PreWithin`) and
  that never mixes candidates with confirmed matches (`PreUniform`: it never answers `.pos`, or
  it never answers `.mtch`) does at most `i.e - i.s` work (tight: `C19_prescan_exact`).
* `C19_prescan_le_len`: `PreWithin` and confirmed matches at most `L` long (`PreMtchLen L`):
  at most `(i.e - i.s) + L * (i.e - i.s - 2)` (attained for `L = 1`).  The in-loop branch resumes
  at `m.start` while the stretch is counted up to `m.stop`, so consecutive stretches may overlap
  by one match.
* `C19_prescan_le_quad`: `PreWithin` alone: `2 * work ≤ n * (n + 1)` with `n = i.e - i.s`.
* `C19_prescan_mixed_exceeds`, `C19_prescan_unbounded_len_quadratic`,
  `C19_prescan_needs_within_*`: the linear bound is FALSE under `PreWithin` alone (a prefilter
  answering `.pos` first and `.mtch` inside the loop), without a length bound the work does grow
  quadratically, and every clause of `PreWithin` is needed.
* `C19_choice_uniform`, `C19_builder_within`, `C19_builder_prescan_le`: every prefilter of the
  builder model satisfies both hypotheses, unconditionally (any patterns, frequency table,
  constants, CPU features, case-insensitive or not), hence `findScan ≤ i.e - i.s`.
-/
namespace AcVerif
open AcVerif.ScanP
variable {σ α : Type}

/-- the answers stay inside the span the prefilter is given (`a ≤ e ≤ |hay|`, as in every call
of the search loops) -/
def PreWithin (pre : Option (Prefilter α)) : Prop :=
  ∀ p, pre = some p → ∀ (hay : List α) (a e : Nat), a ≤ e → e ≤ hay.length →
    match p hay a e with
    | .none => True
    | .pos i => a ≤ i ∧ i ≤ e
    | .mtch m => m.stop ≤ e

/-- the prefilter never reports a candidate, or it never confirms a match -/
def PreUniform (pre : Option (Prefilter α)) : Prop :=
  ∀ p, pre = some p →
    (∀ hay a e j, p hay a e ≠ .pos j) ∨ (∀ hay a e m, p hay a e ≠ .mtch m)

/-- confirmed matches are at most `L` long -/
def PreMtchLen (L : Nat) (pre : Option (Prefilter α)) : Prop :=
  ∀ p, pre = some p → ∀ hay a e m, p hay a e = .mtch m → m.stop ≤ m.start + L

theorem PreWithin.loopOk {pre : Option (Prefilter α)} (hw : PreWithin pre) {L : Nat}
    (hl : PreMtchLen L pre) (hay : List α) (e : Nat) (he : e ≤ hay.length) :
    LoopOk L pre hay e := by
  intro p hp a hae
  have h := hw p hp hay a e hae he
  cases hc : p hay a e with
  | none => trivial
  | pos i => rw [hc] at h; exact h.2
  | mtch m => rw [hc] at h; exact ⟨h, hl p hp hay a e m hc⟩

theorem PreWithin.loopIn {pre : Option (Prefilter α)} (hw : PreWithin pre)
    (hay : List α) (e : Nat) (he : e ≤ hay.length) : LoopIn pre hay e := by
  intro p hp a hae
  have h := hw p hp hay a e hae he
  cases hc : p hay a e with
  | none => trivial
  | pos i => rw [hc] at h; exact h.2
  | mtch m => rw [hc] at h; exact h

/-- Prefilter work with confirmed matches of bounded length: one match length of overlap per
in-loop call after the first two calls (the initial call has nothing before it to overlap with,
and the first in-loop call either repeats the initial call or starts where its stretch ended). -/
theorem C19_prescan_le_len (A : Aut σ α) (pre : Option (Prefilter α)) (L : Nat)
    (hpre : PreWithin pre) (hlen : PreMtchLen L pre) (i : Input α) :
    findScan A pre i ≤ (i.e - i.s) + L * (i.e - i.s - 2) := by
  refine findScan_le_of A pre i _ ?_ ?_ ?_
  · intro p _ _ _
    exact Nat.le_add_right _ _
  · intro p m hp hse hc
    have h := hpre p hp i.hay i.s i.e hse i.valid.1
    rw [hc] at h
    exact Nat.le_trans (show m.stop - i.s ≤ i.e - i.s by omega) (Nat.le_add_right _ _)
  · intro p j hp hse hc earliest sid
    have h := hpre p hp i.hay i.s i.e hse i.valid.1
    rw [hc] at h
    have hok := hpre.loopOk hlen i.hay i.e i.valid.1
    rcases Nat.eq_or_lt_of_le h.1 with hjs | hjs
    · -- the loop starts at `i.s`: its first call is the initial call again
      subst hjs
      refine Nat.le_trans (scanLoop_le_first A i.hay i.s i.e i.valid.1 pre L hok false earliest
        sid i.s (i.s - i.s) ?_) ?_
      · intro p' hp'
        rw [hp] at hp'
        cases hp'
        exact hc
      · unfold scanBound
        rw [show i.e - i.s - 1 - 1 = i.e - i.s - 2 by omega]
        omega
    · refine Nat.le_trans (scanLoop_le A i.hay i.s i.e i.valid.1 pre L hok false earliest sid j
        (j - i.s)) ?_
      unfold scanBound
      have : L * (i.e - j - 1) ≤ L * (i.e - i.s - 2) := Nat.mul_le_mul_left L (by omega)
      omega

/-- **C19, prefilter work.**  For any automaton record, the extents of the prefilter answers of
one search sum to at most the length of the span. -/
theorem C19_prescan_le (A : Aut σ α) (pre : Option (Prefilter α)) (hpre : PreWithin pre)
    (huni : PreUniform pre) (i : Input α) :
    findScan A pre i ≤ i.e - i.s := by
  cases hp0 : pre with
  | none =>
    refine findScan_le_of A none i _ ?_ ?_ ?_ <;> intro p <;> intros <;> contradiction
  | some p =>
    rw [← hp0]
    rcases huni p hp0 with hnp | hnm
    · -- never a candidate: the loop is not entered
      refine findScan_le_of A pre i _ ?_ ?_ ?_
      · intro _ _ _ _; exact Nat.le_refl _
      · intro p' m hp' hse hc
        have h := hpre p' hp' i.hay i.s i.e hse i.valid.1
        rw [hc] at h
        show m.stop - i.s ≤ i.e - i.s
        omega
      · intro p' j hp' _ hc
        rw [hp0] at hp'
        cases hp'
        exact absurd hc (hnp _ _ _ _)
    · -- never a confirmed match: `PreMtchLen 0`
      have hl : PreMtchLen 0 pre := by
        intro p' hp' hay a e m hc
        rw [hp0] at hp'
        cases hp'
        exact absurd hc (hnm _ _ _ _)
      have := C19_prescan_le_len A pre 0 hpre hl i
      simpa using this

theorem C19_prescan_le_quad (A : Aut σ α) (pre : Option (Prefilter α)) (hpre : PreWithin pre)
    (i : Input α) :
    2 * findScan A pre i ≤ (i.e - i.s) * (i.e - i.s + 1) := by
  suffices h : findScan A pre i ≤ (i.e - i.s) * (i.e - i.s + 1) / 2 by
    have := Nat.mul_div_le ((i.e - i.s) * (i.e - i.s + 1)) 2
    omega
  -- an initial stretch `x` followed by a loop over the last `n'` bytes of the span
  have tri : ∀ {x n' : Nat}, n' ≤ i.e - i.s → x + n' ≤ i.e - i.s →
      x + n' * (n' + 1) / 2 ≤ (i.e - i.s) * (i.e - i.s + 1) / 2 := by
    intro x n' hn hx
    rcases Nat.eq_zero_or_pos x with rfl | hpos
    · rw [Nat.zero_add]
      exact Nat.div_le_div_right (tri_mono hn)
    · exact tri_step_half (by omega) (by omega)
  refine findScan_le_of A pre i _ ?_ ?_ ?_
  · intro p _ _ _
    exact tri (n' := 0) (Nat.zero_le _) (Nat.le_refl _)
  · intro p m hp hse hc
    have h := hpre p hp i.hay i.s i.e hse i.valid.1
    rw [hc] at h
    exact tri (n' := 0) (Nat.zero_le _) (show m.stop - i.s + 0 ≤ i.e - i.s by omega)
  · intro p j hp hse hc earliest sid
    have h := hpre p hp i.hay i.s i.e hse i.valid.1
    rw [hc] at h
    exact Nat.le_trans
      (scanLoop_le_quad A i.hay i.s i.e i.valid.1 pre (hpre.loopIn i.hay i.e i.valid.1) false
        earliest sid j (j - i.s))
      (tri (by omega) (by omega))

end AcVerif

/-! ## the prefilters of the builder model -/
namespace AcVerif
open AcVerif.ScanP AcVerif.PreP
variable {σ : Type}

/-- `memmem` and the packed searcher only confirm matches; the byte-set prefilters only report
candidates.  (True of every `PreChoice`, whatever built it.) -/
theorem C19_choice_shape (c : PreChoice) :
    match c with
    | .memmem _ | .packed _ => ∀ hay a e j, c.findIn hay a e ≠ .pos j
    | .startBytes _ | .rareBytes _ _ => ∀ hay a e m, c.findIn hay a e ≠ .mtch m := by
  cases c <;>
  · intro hay a e x h
    simp only [PreChoice.findIn] at h
    split at h <;> cases h

theorem C19_choice_uniform (c : PreChoice) : PreUniform (some c.findIn) := by
  intro p hp
  cases hp
  have h := C19_choice_shape c
  cases c with
  | memmem needle => exact Or.inl h
  | startBytes bs => exact Or.inr h
  | rareBytes bs offs => exact Or.inr h
  | packed srch => exact Or.inl h

/-- the answers of a `PreChoice` stay inside the span; for the packed searcher this is what
remains to be shown of its `find_in` -/
theorem C19_choice_within (c : PreChoice)
    (hpk : ∀ srch, c = .packed srch → ∀ hay a e m, a ≤ e → e ≤ hay.length →
      srch.findIn hay a e = some m → m.stop ≤ e) : PreWithin (some c.findIn) := by
  intro p hp hay a e hae he
  injection hp with hp
  subst hp
  cases c with
  | memmem needle =>
    simp only [PreChoice.findIn]
    cases hm : memmemIn needle hay a e with
    | none => trivial
    | some q => exact (memmemIn_some hm).2.1
  | startBytes bs =>
    simp only [PreChoice.findIn]
    cases hm : memchrIn bs.contains hay a e with
    | none => trivial
    | some q =>
      obtain ⟨h1, h2, _⟩ := memchrIn_some hm
      exact ⟨h1, Nat.le_of_lt h2⟩
  | rareBytes bs offs =>
    simp only [PreChoice.findIn]
    cases hm : memchrIn bs.contains hay a e with
    | none => trivial
    | some q =>
      obtain ⟨h1, h2, _⟩ := memchrIn_some hm
      simp only
      omega
  | packed srch =>
    simp only [PreChoice.findIn]
    cases hm : srch.findIn hay a e with
    | none => trivial
    | some m => exact hpk srch rfl hay a e m hae he hm

/-- **Every prefilter of the builder model keeps its answers inside the span and never mixes
candidates with confirmed matches** – for every pattern list (empty patterns included: the
builder then returns no prefilter), frequency table, constant set, CPU feature combination,
match kind, case-insensitive or not. -/
theorem C19_builder_within (K : Consts) (k : MatchKind) (fold : Bool) (freq : UInt8 → Nat)
    (pats : List (List UInt8)) (avx2 ssse3 : Bool) (ch : PreChoice)
    (hb : buildPrefilter K k fold freq pats avx2 ssse3 = some ch) :
    PreWithin (some ch.findIn) ∧ PreUniform (some ch.findIn) := by
  refine ⟨C19_choice_within ch ?_, C19_choice_uniform ch⟩
  intro srch hch hay a e m hae he hm
  subst hch
  obtain ⟨kind, ps, _, _, hpb⟩ := build_packed_shape hb
  obtain ⟨hne, hnz, v, rfl⟩ := packedBuild_some hpb
  exact (C15_packed_match_wf kind ps hne hnz v hay a e ⟨hae, he⟩ m hm).2.2.2

/-- **C19 for the builder's prefilters**: whatever the automaton record, the prefilter work of
one search is at most the span length. -/
theorem C19_builder_prescan_le (K : Consts) (k : MatchKind) (fold : Bool) (freq : UInt8 → Nat)
    (pats : List (List UInt8)) (avx2 ssse3 : Bool) (ch : PreChoice)
    (hb : buildPrefilter K k fold freq pats avx2 ssse3 = some ch)
    (A : Aut σ UInt8) (i : Input UInt8) :
    findScan A (some ch.findIn) i ≤ i.e - i.s :=
  have h := C19_builder_within K k fold freq pats avx2 ssse3 ch hb
  C19_prescan_le A _ h.1 h.2 i

theorem C19_builder_prescan_le' (K : Consts) (k : MatchKind) (fold : Bool) (freq : UInt8 → Nat)
    (pats : List (List UInt8)) (avx2 ssse3 : Bool) (A : Aut σ UInt8) (i : Input UInt8) :
    findScan A ((buildPrefilter K k fold freq pats avx2 ssse3).map PreChoice.findIn) i ≤
      i.e - i.s := by
  cases hb : buildPrefilter K k fold freq pats avx2 ssse3 with
  | none => exact C19_prescan_le A _ (fun _ hp => by cases hp) (fun _ hp => by cases hp) i
  | some ch => exact C19_builder_prescan_le K k fold freq pats avx2 ssse3 ch hb A i

end AcVerif

/-! ## non-vacuity, exactness, necessity

The automaton is `ideal .std [[1, 2], [3]] .unanchored true`; on a haystack of zeros it stays in
its start state, so the prefilter is consulted at every position the loop visits.  The counter is
ghost state (`findScan` returns only a number), so there is nothing to prove about the search
result. -/
namespace AcVerif
open AcVerif.ScanP

private def exA : Aut (St UInt8) UInt8 := ideal .std [[1, 2], [3]] .unanchored true

private def zeros6 : Input UInt8 := ⟨[0, 0, 0, 0, 0, 0], 0, 6, false, false, by decide⟩
private def zeros5 : Input UInt8 := ⟨[0, 0, 0, 0, 0], 0, 5, false, false, by decide⟩
private def zeros26 : Input UInt8 := ⟨[0, 0, 0, 0, 0, 0], 2, 6, false, false, by decide⟩

/-- a candidate two bytes further on, as long as there is room -/
private def stepPre : Prefilter UInt8 := fun _ a e => if a + 2 ≤ e then .pos (a + 2) else .none

private theorem stepPre_ok : PreWithin (some stepPre) ∧ PreUniform (some stepPre) := by
  constructor
  · intro p hp hay a e hae he
    injection hp with hp; subst hp
    unfold stepPre
    by_cases h : a + 2 ≤ e
    · rw [if_pos h]; exact ⟨by omega, h⟩
    · rw [if_neg h]; trivial
  · intro p hp
    injection hp with hp; subst hp
    right; intro hay a e m h
    unfold stepPre at h
    split at h <;> cases h

/-- three prefilter calls (at 0, 2 and 4), stretches `0..2`, `2..4`, `4..6`: the total is the
span length exactly – `C19_prescan_le` is tight -/
theorem C19_prescan_exact :
    PreWithin (some stepPre) ∧ PreUniform (some stepPre) ∧
    findScan exA (some stepPre) zeros6 = 6 ∧ zeros6.e - zeros6.s = 6 :=
  ⟨stepPre_ok.1, stepPre_ok.2, by decide +kernel, rfl⟩

private def hay013 : Input UInt8 := ⟨[0, 0, 1, 0, 0, 3], 0, 6, false, false, by decide⟩

/-- the start-byte prefilter of the builder model (it is what the builder chooses for these
patterns): calls at 0 (candidate 2) and 3 (candidate 5), the search ends with the match of `[3]`;
the bytes the automaton walks between a candidate and its next start state are not prefilter
work -/
theorem C19_prescan_startBytes :
    (buildPrefilter {} .std false (fun _ => 0) [[1, 2], [3]] false false).map PreChoice.name =
      some "start2" ∧
    findScan exA (some (PreChoice.startBytes [1, 3]).findIn) hay013 = 4 ∧
    hay013.e - hay013.s = 6 :=
  ⟨by decide, by decide +kernel, rfl⟩

/-! ### every clause of `PreWithin` is needed -/

/-- a candidate beyond the end of the span -/
private def farPre : Prefilter UInt8 := fun _ _ e => .pos (e + 3)

theorem C19_prescan_needs_within_pos_upper :
    PreUniform (some farPre) ∧ findScan exA (some farPre) zeros6 = 9 ∧ zeros6.e - zeros6.s = 6 :=
  ⟨fun p hp => by
      injection hp with hp; subst hp
      exact Or.inr (fun _ _ _ _ h => by cases h),
    by decide +kernel, rfl⟩

/-- a candidate before the start of the span (only on the initial call `2..6`; every other answer
is inside its span): the loop starts at 0 and its first call reports the stretch `0..6` -/
private def backPre : Prefilter UInt8 := fun _ a _ => if a = 2 then .pos 0 else .none

theorem C19_prescan_needs_within_pos_lower :
    PreUniform (some backPre) ∧
    (∀ hay a e j, backPre hay a e = .pos j → j ≤ e) ∧
    findScan exA (some backPre) zeros26 = 6 ∧ zeros26.e - zeros26.s = 4 := by
  refine ⟨?_, ?_, by decide +kernel, rfl⟩
  · intro p hp
    injection hp with hp; subst hp
    right; intro hay a e m h
    unfold backPre at h
    split at h <;> cases h
  · intro hay a e j h
    unfold backPre at h
    split at h
    · injection h with h; omega
    · cases h

/-- a confirmed match ending beyond the span -/
private def farMtch : Prefilter UInt8 := fun _ _ e => .mtch ⟨0, e, e + 3⟩

theorem C19_prescan_needs_within_mtch :
    PreUniform (some farMtch) ∧ findScan exA (some farMtch) zeros6 = 9 ∧
    zeros6.e - zeros6.s = 6 :=
  ⟨fun p hp => by
      injection hp with hp; subst hp
      exact Or.inl (fun _ _ _ _ h => by cases h),
    by decide +kernel, rfl⟩

/-! ### `PreWithin` alone is not enough: candidates first, confirmed matches inside the loop -/

/-- a candidate on the call at 0, then confirmed matches of length ≤ 1 starting one byte after
the start of the span -/
private def mixPre : Prefilter UInt8 := fun _ a e =>
  if a = 0 then (if 1 ≤ e then .pos 1 else .none) else .mtch ⟨0, a + 1, min (a + 2) e⟩

private theorem mixPre_ok : PreWithin (some mixPre) ∧ PreMtchLen 1 (some mixPre) := by
  constructor
  · intro p hp hay a e hae he
    injection hp with hp; subst hp
    unfold mixPre
    by_cases h0 : a = 0
    · rw [if_pos h0]
      by_cases h : 1 ≤ e
      · rw [if_pos h]; exact ⟨by omega, h⟩
      · rw [if_neg h]; trivial
    · rw [if_neg h0]; exact Nat.min_le_right _ _
  · intro p hp hay a e m h
    injection hp with hp; subst hp
    unfold mixPre at h
    split at h
    · split at h <;> cases h
    · injection h with h
      subst h
      exact Nat.min_le_left _ _

/-- The linear bound `i.e - i.s` is FALSE under `PreWithin` alone: the in-loop branch resumes at
`m.start` and counts up to `m.stop`.  Calls at 1, 2, 3, 4 report the stretches `1..3`, `2..4`,
`3..5`, `4..5`; with the initial stretch `0..1` the total is `8 = 5 + 1 * (5 - 2)`: the bound of
`C19_prescan_le_len` is attained. -/
theorem C19_prescan_mixed_exceeds :
    PreWithin (some mixPre) ∧ PreMtchLen 1 (some mixPre) ∧
    findScan exA (some mixPre) zeros5 = 8 ∧ zeros5.e - zeros5.s = 5 :=
  ⟨mixPre_ok.1, mixPre_ok.2, by decide +kernel, rfl⟩

theorem C19_prescan_not_le_of_within :
    ¬ ∀ (A : Aut (St UInt8) UInt8) (pre : Option (Prefilter UInt8)), PreWithin pre →
        ∀ i : Input UInt8, findScan A pre i ≤ i.e - i.s := by
  intro h
  have := h exA (some mixPre) mixPre_ok.1 zeros5
  rw [C19_prescan_mixed_exceeds.2.2.1] at this
  exact absurd this (by decide)

/-- confirmed matches reaching to the end of the span -/
private def quadPre : Prefilter UInt8 := fun _ a e =>
  if a = 0 then (if 1 ≤ e then .pos 1 else .none) else .mtch ⟨0, a + 1, e⟩

/-- without a length bound the work is quadratic: stretches `0..1`, `1..5`, `2..5`, `3..5`,
`4..5`, total `11 = 1 + 5 * 4 / 2` (the bound of `C19_prescan_le_quad` is `15`, the bound of
`C19_prescan_le_len` for `L = 1` would be `8`) -/
theorem C19_prescan_unbounded_len_quadratic :
    PreWithin (some quadPre) ∧ findScan exA (some quadPre) zeros5 = 11 ∧
    zeros5.e - zeros5.s = 5 := by
  refine ⟨?_, by decide +kernel, rfl⟩
  intro p hp hay a e hae he
  injection hp with hp; subst hp
  unfold quadPre
  by_cases h0 : a = 0
  · rw [if_pos h0]
    by_cases h : 1 ≤ e
    · rw [if_pos h]; exact ⟨by omega, h⟩
    · rw [if_neg h]; trivial
  · rw [if_neg h0]; exact Nat.le_refl _

end AcVerif
