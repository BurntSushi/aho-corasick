import AcVerif.Cost
import AcVerif.Fold
import AcVerif.CostOverlap
import AcVerif.CostOverlapIter
import AcVerif.Engine.Overlap
import AcVerif.Proofs.CostBounds
import AcVerif.Proofs.CostTotal
/-!
# C19 – bounded work per haystack byte, over a whole sequence of overlapping calls

`ovlCallsCost … n OState.start` are the per-call counters of `n` successive calls of
`try_find_overlapping_fwd` on one `OverlappingState` (what the instrumented real code reports,
call by call).  Over the whole sequence

* every byte of the span is fed to the automaton at most once, plus at most ONE redundant
  transition per call after the first: `T ≤ (e - s) + (n - 1)`;
* the total number of failure-link traversals never exceeds the total number of transitions:
  `F ≤ T`.

The redundant transition is real (examples at the end, where the bound is attained for every
`n ≥ 1`): a call that stops inside the span without a match – the dead state, or the prefilter
reporting no further candidate – leaves `at` on the byte it has just fed, and the next call feeds
that byte again.  The overlapping ITERATOR never calls again after a call that reports nothing,
so for it the slack disappears: `T ≤ e - s` (`C19_overlap_iter_total`).

Neither statement needs an assumption on the prefilter (not even `PreInSpan`): a candidate beyond
the end of the span merely ends the loop, it does not feed a byte.
-/
namespace AcVerif
open AcVerif.CostP
variable {α : Type} [DecidableEq α]

/-- `totalTransitions` / `totalFails` are the sums over the successful calls -/
example (cs : List (Except MatchErr Cost)) :
    totalTransitions cs =
      (cs.filterMap (fun r => match r with
        | .ok c => some c.transitions
        | .error _ => Option.none)).sum := rfl
example (cs : List (Except MatchErr Cost)) :
    totalFails cs =
      (cs.filterMap (fun r => match r with
        | .ok c => some c.fails
        | .error _ => Option.none)).sum := rfl

/-- One successful call, from ANY overlapping state `st` to `st'` with counters `c`
(`CostP.CallInv`): with `fed` the number of leading span positions already fed (as an absolute
position: `s` before the first loop, `at + 1` when a loop stopped inside the span, `e` at the end)
and `slack st = 1` iff the call re-enters the loop AT `st.at_` (a state is stored and no match list
is being drained),
`c.transitions + fed st ≤ fed st' + slack st`, `c.fails + depth st' ≤ depth st + c.transitions`,
and a reported match always comes with a match index (so the next call has no slack).
This covers the `isDone` branch (the call costs nothing and keeps the state); the error branches
(unsupported match kind, unsupported anchoring) return no counters at all. -/
theorem C19_overlap_call_bound (k : MatchKind) (P : List (List α)) (sk : StartKind)
    (hasPre : Bool) (g : α → α) (pre : Option (Prefilter α)) (i : Input α)
    (st st' : OState (St α)) (c : Cost)
    (h : tryOvlCost k (patSet k P) ((ideal k P sk hasPre).comap g) g pre i st = .ok (st', c)) :
    c.transitions + fed i.s i.e st ≤ fed i.s i.e st' + slack st ∧
    c.fails + odepth st' ≤ odepth st + c.transitions ∧
    (st'.mat.isSome = true → st'.nextIdx.isSome = true) :=
  tryOvlCost_call k P sk hasPre g pre i st st' c h

/-- The induction on `n` needs an arbitrary starting state; `fed st` and `slack st` account for
what it has consumed already. -/
theorem C19_overlap_calls_total_from (k : MatchKind) (P : List (List α)) (sk : StartKind)
    (hasPre : Bool) (g : α → α) (pre : Option (Prefilter α)) (i : Input α) (n : Nat)
    (st : OState (St α)) :
    let A := (ideal k P sk hasPre).comap g
    let cs := ovlCallsCost k (patSet k P) A g pre i n st
    totalTransitions cs + fed i.s i.e st ≤ max i.e i.s + (n - 1) + slack st ∧
    totalFails cs ≤ odepth st + totalTransitions cs := by
  dsimp only
  induction n generalizing st with
  | zero =>
    have := fed_le i.s i.e st
    refine ⟨?_, Nat.zero_le _⟩
    show 0 + fed i.s i.e st ≤ _
    omega
  | succ n ih =>
    rw [ovlCallsCost]
    split
    · have := fed_le i.s i.e st
      refine ⟨?_, Nat.zero_le _⟩
      show 0 + fed i.s i.e st ≤ _
      omega
    · rename_i st' c hc
      obtain ⟨h1, h2, _⟩ := tryOvlCost_call k P sk hasPre g pre i st st' c hc
      obtain ⟨ih1, ih2⟩ := ih st'
      have := fed_le i.s i.e st'
      have := slack_le st'
      have h0 : n = 0 → totalTransitions
          (ovlCallsCost k (patSet k P) ((ideal k P sk hasPre).comap g) g pre i n st') = 0 := by
        intro hn; subst hn; rfl
      rw [totalTransitions_ok, totalFails_ok]
      exact ⟨by omega, by omega⟩

/-- **C19 for a whole call sequence.**  `n` successive calls of `try_find_overlapping_fwd` on a
fresh `OverlappingState`: at most one transition per byte of the span plus one redundant
transition per call after the first, and no more failure-link traversals than transitions.
Holds for every prefilter (or none), every match kind / start kind / anchoring mode (the calls
that return an error contribute nothing), with or without case folding (`g`). -/
theorem C19_overlap_calls_total (k : MatchKind) (P : List (List α)) (sk : StartKind)
    (hasPre : Bool) (g : α → α) (pre : Option (Prefilter α)) (i : Input α) (n : Nat) :
    let A := (ideal k P sk hasPre).comap g
    let cs := ovlCallsCost k (patSet k P) A g pre i n OState.start
    totalTransitions cs ≤ (i.e - i.s) + (n - 1) ∧ totalFails cs ≤ totalTransitions cs := by
  intro A cs
  obtain ⟨h1, h2⟩ := C19_overlap_calls_total_from k P sk hasPre g pre i n OState.start
  have h1' : totalTransitions cs + i.s ≤ max i.e i.s + (n - 1) + 0 := h1
  have h2' : totalFails cs ≤ 0 + totalTransitions cs := h2
  exact ⟨by omega, by omega⟩

/-- `C19_overlap_calls_total` under the hypothesis `PreInSpan pre` that `C19_overlap_in_span` needs;
here it is not used. -/
theorem C19_overlap_calls_total_inspan (k : MatchKind) (P : List (List α)) (sk : StartKind)
    (hasPre : Bool) (g : α → α) (pre : Option (Prefilter α)) (_hpre : PreInSpan pre)
    (i : Input α) (n : Nat) :
    let A := (ideal k P sk hasPre).comap g
    let cs := ovlCallsCost k (patSet k P) A g pre i n OState.start
    totalTransitions cs ≤ (i.e - i.s) + (n - 1) ∧ totalFails cs ≤ totalTransitions cs :=
  C19_overlap_calls_total k P sk hasPre g pre i n

theorem C19_overlap_calls_total_plain (k : MatchKind) (P : List (List α)) (sk : StartKind)
    (hasPre : Bool) (pre : Option (Prefilter α)) (i : Input α) (n : Nat) :
    let cs := ovlCallsCost k (patSet k P) (ideal k P sk hasPre) id pre i n OState.start
    totalTransitions cs ≤ (i.e - i.s) + (n - 1) ∧ totalFails cs ≤ totalTransitions cs :=
  C19_overlap_calls_total k P sk hasPre id pre i n

/-! ## the overlapping iterator -/

theorem C19_overlap_iter_result (k : MatchKind) (Q : PatSet α) (A : Aut (St α) α) (g : α → α)
    (pre : Option (Prefilter α)) (i : Input α) (n : Nat) (st : OState (St α)) :
    (ovlIterCost k Q A g pre i n st).filterMap (·.1) = ovlIterAux A pre i n st :=
  ovlIterCost_fst k Q A g pre i n st

/-- **C19 for the overlapping iterator** (call until a call reports nothing): over all the calls
it makes, the last (fruitless) one included, at most one transition per byte of the span – no
slack – and no more failure-link traversals than transitions. -/
theorem C19_overlap_iter_total (k : MatchKind) (P : List (List α)) (sk : StartKind)
    (hasPre : Bool) (g : α → α) (pre : Option (Prefilter α)) (i : Input α) (n : Nat) :
    let A := (ideal k P sk hasPre).comap g
    let cs := ovlIterCost k (patSet k P) A g pre i n OState.start
    iterTransitions cs ≤ i.e - i.s ∧ iterFails cs ≤ iterTransitions cs := by
  intro A cs
  obtain ⟨h1, h2⟩ := ovlIterCost_total k P sk hasPre g pre i n OState.start rfl
  have h1' : iterTransitions cs + i.s ≤ max i.e i.s := h1
  have h2' : iterFails cs ≤ 0 + iterTransitions cs := h2
  exact ⟨by omega, by omega⟩

/-- `iterTransitions` / `iterFails` are the plain sums -/
example (cs : List (Option Mat × Cost)) :
    iterTransitions cs = (cs.map (·.2.transitions)).sum ∧
    iterFails cs = (cs.map (·.2.fails)).sum := ⟨rfl, rfl⟩

/-! ## the `+ (n - 1)` cannot be dropped, and the bound is attained -/

/-- the per-call transition counters (`none` for a call that returned an error) -/
def callTransitions (cs : List (Except MatchErr Cost)) : List (Option Nat) :=
  cs.map (fun r => match r with
    | .ok c => some c.transitions
    | .error _ => Option.none)

/-- Anchored search, pattern `ab`, haystack `ac`: the first call feeds `a`, `c` and ends in the
dead state at `at = 1`; every further call feeds `c` again (dead → dead).  Five calls: 2 + 4
transitions `= (e - s) + (n - 1)` with `e - s = 2`, `n = 5`. -/
example :
    callTransitions (ovlCallsCost .std (patSet .std [[1, 2]]) (ideal .std [[1, 2]] .both false) id
      Option.none { hay := [1, 3], s := 0, e := 2, anch := true, valid := by decide }
      5 OState.start) = [some 2, some 1, some 1, some 1, some 1] := by decide +kernel

example :
    totalTransitions (ovlCallsCost .std (patSet .std [[1, 2]]) (ideal .std [[1, 2]] .both false) id
      Option.none { hay := [1, 3], s := 0, e := 2, anch := true, valid := by decide }
      5 OState.start) = (2 - 0) + (5 - 1) := by decide +kernel

/-- the same inside a longer haystack (`ac..`, span `[0, 4)`): the dead state is entered at
`at = 1` and every later call costs one transition although no new byte is ever fed -/
example :
    callTransitions (ovlCallsCost .std (patSet .std [[1, 2]]) (ideal .std [[1, 2]] .both false) id
      Option.none { hay := [1, 3, 0, 0], s := 0, e := 4, anch := true, valid := by decide }
      5 OState.start) = [some 2, some 1, some 1, some 1, some 1] := by decide +kernel

/-- Unanchored search with a prefilter that reports no candidate: the call stops in the start
state with `at` on the byte just fed, and every further call feeds that byte again (and asks the
prefilter again).  `e - s = 1`, `n = 4`, `1 + 3` transitions. -/
example :
    callTransitions (ovlCallsCost .std (patSet .std [[1]]) (ideal .std [[1]] .unanchored true) id
      (some fun _ _ _ => .none) { hay := [0, 0], s := 0, e := 1, valid := by decide }
      4 OState.start) = [some 1, some 1, some 1, some 1] := by decide +kernel

/-- without those two stops there is no redundant transition: unanchored, no prefilter, the
calls after the end of the span cost nothing (`abab`, patterns `ab`, `b`: 3 matches) -/
example :
    callTransitions (ovlCallsCost .std (patSet .std [[1, 2], [2]])
      (ideal .std [[1, 2], [2]] .unanchored false) id
      Option.none { hay := [1, 2, 1], s := 0, e := 3, valid := by decide }
      5 OState.start) = [some 2, some 0, some 1, some 0, some 0] := by decide +kernel

/-- the iterator on the dead-state example stops after the fruitless first call: 2 transitions -/
example :
    (ovlIterCost .std (patSet .std [[1, 2]]) (ideal .std [[1, 2]] .both false) id
      Option.none { hay := [1, 3], s := 0, e := 2, anch := true, valid := by decide }
      5 OState.start).map (·.2.transitions) = [2] := by decide +kernel

end AcVerif
