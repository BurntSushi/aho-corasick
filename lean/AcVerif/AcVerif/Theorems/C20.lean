import AcVerif.Ideal
import AcVerif.Proofs.Common
import AcVerif.Proofs.Meta
import AcVerif.Proofs.LmBasic
/-!
# C20 – metadata accessors of the searcher

For the ideal automaton of pattern list `P` (any match kind, start kind and
prefilter flag): `patterns_len`, `pattern_len(pid)`, `match_kind`,
`min_pattern_len` / `max_pattern_len` and which anchoring modes have a start
state (`start_kind`).
-/
namespace AcVerif
open AcVerif.MiscP
variable {α : Type} [DecidableEq α]

theorem C20_patterns_len (k : MatchKind) (P : List (List α)) (sk : StartKind) (hasPre : Bool) :
    (ideal k P sk hasPre).patternsLen = P.length := rfl

theorem C20_pattern_len (k : MatchKind) (P : List (List α)) (sk : StartKind) (hasPre : Bool)
    (i : Nat) : (ideal k P sk hasPre).patLen i = (P[i]?.getD []).length := by
  show (P.getD i []).length = _
  rw [List.getD_eq_getElem?_getD]

theorem C20_pattern_len' (k : MatchKind) (P : List (List α)) (sk : StartKind) (hasPre : Bool)
    (i : Nat) : (ideal k P sk hasPre).patLen i = (P.getD i []).length := rfl

theorem C20_pattern_len_valid (k : MatchKind) (P : List (List α)) (sk : StartKind)
    (hasPre : Bool) (i : Nat) (h : i < P.length) :
    (ideal k P sk hasPre).patLen i = (P[i]).length := by
  rw [C20_pattern_len k P sk hasPre i, List.getElem?_eq_getElem h]; rfl

theorem C20_kind (k : MatchKind) (P : List (List α)) (sk : StartKind) (hasPre : Bool) :
    (ideal k P sk hasPre).kind = k := rfl

/-- `min_pattern_len` / `max_pattern_len` bound every pattern length and, for a
non-empty pattern list, are attained.  (`min_pattern_len` starts at
`usize::MAX`; it is attained provided the lengths fit in a `usize`.) -/
theorem C20_min_max (k : MatchKind) (P : List (List α)) (sk : StartKind) (hasPre : Bool) :
    (∀ p ∈ P, (ideal k P sk hasPre).minLen ≤ p.length ∧
        p.length ≤ (ideal k P sk hasPre).maxLen) ∧
    (P ≠ [] → ∃ p ∈ P, p.length = (ideal k P sk hasPre).maxLen) ∧
    (P ≠ [] → (∀ p ∈ P, p.length < 2 ^ 64) →
      ∃ p ∈ P, p.length = (ideal k P sk hasPre).minLen) := by
  have hmin : (ideal k P sk hasPre).minLen =
      (P.map List.length).foldl min 18446744073709551615 := rfl
  have hmax : (ideal k P sk hasPre).maxLen = (P.map List.length).foldl max 0 := rfl
  rw [hmin, hmax]
  refine ⟨fun p hp => ⟨minLen_le P _ hp,
    le_foldl_max _ _ _ (List.mem_map_of_mem hp)⟩, fun hne => ?_, fun hne hlt => ?_⟩
  · rcases foldl_max_mem (P.map List.length) 0 with h | h
    · cases P with
      | nil => exact absurd rfl hne
      | cons p P' =>
        refine ⟨p, List.mem_cons_self, ?_⟩
        have := le_foldl_max ((p :: P').map List.length) 0 p.length
          (List.mem_map_of_mem List.mem_cons_self)
        omega
    · obtain ⟨p, hp, hl⟩ := List.mem_map.mp h
      exact ⟨p, hp, hl⟩
  · rcases foldl_min_mem (P.map List.length) 18446744073709551615 with h | h
    · cases P with
      | nil => exact absurd rfl hne
      | cons p P' =>
        refine ⟨p, List.mem_cons_self, ?_⟩
        have h1 := foldl_min_le ((p :: P').map List.length) 18446744073709551615 p.length
          (List.mem_map_of_mem List.mem_cons_self)
        have h2 := hlt p List.mem_cons_self
        omega
    · obtain ⟨p, hp, hl⟩ := List.mem_map.mp h
      exact ⟨p, hp, hl⟩

theorem C20_start_kind (k : MatchKind) (P : List (List α)) (sk : StartKind) (hasPre : Bool)
    (anch : Bool) :
    (∃ q, (ideal k P sk hasPre).start anch = some q) ↔ supportsAnch sk anch := by
  refine ⟨fun ⟨q, hq⟩ => ?_, fun h => ⟨_, LmP.start_root k P hasPre h⟩⟩
  cases sk with
  | both => exact Or.inl rfl
  | unanchored =>
    cases anch with
    | false => exact Or.inr (Or.inl ⟨rfl, rfl⟩)
    | true => cases hq
  | anchored =>
    cases anch with
    | false => cases hq
    | true => exact Or.inr (Or.inr ⟨rfl, rfl⟩)

theorem C20_start_root (k : MatchKind) (P : List (List α)) (sk : StartKind) (hasPre : Bool)
    (anch : Bool) (h : supportsAnch sk anch) :
    (ideal k P sk hasPre).start anch = some (.at []) :=
  LmP.start_root k P hasPre h

/-! ## non-vacuity -/

example : (ideal .lf [[1, 2, 3], [4], [5, 6]] .both true).minLen = 1 ∧
    (ideal .lf [[1, 2, 3], [4], [5, 6]] .both true).maxLen = 3 := by decide

end AcVerif
