import AcVerif.Proofs.Layers
import AcVerif.Proofs.NfaIdsSim
import AcVerif.Proofs.SearchEquiv
import AcVerif.Proofs.NfaIdsDense
import AcVerif.Proofs.NfaIdsRemapper
import AcVerif.Theorems.L1c
import AcVerif.Theorems.L1cFold
import AcVerif.Theorems.L1cDense
import AcVerif.Proofs.TableEval
/-!
# L1c-ids – the noncontiguous NFA *as stored* (shuffled ids, `Special` id ranges) agrees with the
compiled NFA and the ideal automaton, and never reads out of bounds

`buildNfaIds N hasPre` (`AcVerif/NfaIds.lean`) is what `noncontiguous::Compiler::compile` returns:
the states of `N = CNfa.compile k fold P` permuted by `shuffle` (`DEAD, FAIL, MATCH…, START-U,
START-A, NON-MATCH…`), every stored id (transition targets, failure links, dense rows) rewritten by
`Remapper::remap`, and the four `Special` ids; `is_special` / `is_match` / `is_dead` / `is_start`
are id comparisons, `next_state` is the `follow_transition` / failure-link loop on the stored
states.  For **every** pattern list `P`, match kind `k`, both anchoring modes, with or without
prefilter, and `M = buildNfaIds N hasPre` (`fold = false`, except that `L1cIds_run`,
`L1cIds_isMatch_*` and `L1cIds_remapper` take `fold`):

* `L1cIds_run`: the run of `M` is the image of the run of `N` under the id map `pos`
  (`posOf N`, the table `shufflePos`), and its start ids are the images of `SU` / `SA`;
* `L1cIdsG_obsEquiv` (`Proofs/Layers.lean`), `L1cIds_obsEquiv_ideal`, `L1cIds_startEquiv`: the
  start state of `M.toAut` is observationally equivalent (flags and *ordered* match lists after
  every input) to that of `N.toAut` and hence (L1c) to the ideal automaton
  `ideal k P .both hasPre`;
* `L1cIds_find`, `L1cIds_iter`, `L1cIds_overlap`, `L1cIds_overlap_iter`: every engine result
  transfers; `L1cIds_find_std`: … and meets the specification;
* `L1cIds_special_contract`: at every reachable id `q`:
  `is_special q ⇔ is_dead q ∨ is_match q ∨ (prefilter ∧ is_start q)`; the id-range test
  `is_match q` coincides with the per-state flag `states[q].matches ≠ []`; the dead state is
  absorbing in either mode;
* `L1cIds_inbounds`: at every reachable `q`: `q < states.len()`; the bounds-checked `next_state`
  (`NfaI.next?`: every `states[sid]` along the failure chain is checked, and the loop must return
  within `states.len() + 1` iterations) returns exactly what the unchecked one returns; the match
  list read is in bounds and holds pattern ids `< P.length`;
* `L1cIds_isMatch_all`, `L1cIds_isMatch_fail`: for **every** id `q < states.len()` other than
  `FAIL` – reachable or not – `is_match q ⇔ states[q].matches ≠ []`; and `is_match(FAIL)` is `true`
  although `FAIL` is no match state (the "N.B." in the crate's `is_match`; `FAIL` is never
  returned by `start_state` / `next_state`, which is part of `L1cIds_run`: `pos s ≠ FAIL`);
* `L1cIds_remapper`: the cycle-chasing loop of `Remapper::remap` (`remapperMap`), run on the
  `map` vector that `Remapper::swap` maintains (= `shuffleOrder`), yields exactly the inverse
  table `shufflePos` that `buildNfaIds` rewrites the ids with;
* `L1cIds_dense_toAut` (+ `_obsEquiv`, `_startEquiv`, `_find`): reading transitions through the
  *stored* dense rows (`buildDenseIds`: the rows of `densify`, permuted and remapped) gives the
  same automaton record, for every dense depth;
* `L1cIdsG_*` (`L1cIdsG_live`, `L1cIdsG_searchEquiv`, … in `Proofs/Layers.lean`) are stated for
  both values of `fold`; `L1cIdsFold_*` are the instances for `ascii_case_insensitive`
  (`CNfa.compile k true P`) against the specification of L1cFold (the ideal automaton of the
  folded patterns fed folded bytes); the contract and the bounds are those of any `N` with `NLive`
  (`NLive.special_contract`, `NLive.inbounds`).

The model was compared with the crate itself (`format!("{:?}", nfa)` – every state with its id,
failure link, transitions, match list and indicator – plus `next_state` in both modes on every id
and byte, the four flags, `match_pattern`, `start_state`) on 14 pattern lists × 3 match kinds ×
prefilter on/off × case folding on/off × dense depth 0/2 (336 automata): identical, up to the three
failure links described in `NfaIds.lean`.  Some of the dumps are reproduced at the end.

Structure of the proof (`AcVerif/Proofs/NfaIds*.lean` and `NfaLive.lean`, namespace
`AcVerif.L1cIdsP`):
`idStates_getD` (the state stored at `pos s` is `remapState pos N[s]`), `follow_ids`,
`nextState_ids`, `next?_ids` (the loops commute with `pos`), `NLive` (what is needed of `N`) with
`NLive.next` / `.isMatch` / `.isSpecial` / `.obs` / `.run` / `.contract`, `NLive_of_spec`
(the specification `NfaSpec f` of the compiled NFA provides it, with and without case folding; the
bound on the loop comes from the potential lemma `CostP.step_potential`), `followD_stored`,
`orbit_closes` / `remapperMap_inv`.
-/
namespace AcVerif
open AcVerif.L1cP AcVerif.L1dP AcVerif.L1eP AcVerif.L1dIdsP AcVerif.L1cIdsP AcVerif.L1cFoldP
open AcVerif.DenseP AcVerif.CNfa

/-! ## the run, as the image of the run of the compiled NFA -/

/-- the start ids are the images of the start states, and after any input the stored NFA is at
the image of the state the compiled NFA is at – which is never `FAIL` and lies inside the table -/
theorem L1cIds_run (k : MatchKind) (P : List (List UInt8)) (fold hasPre anch : Bool)
    (w : List UInt8) :
    let N := CNfa.compile k fold P
    let M := buildNfaIds N hasPre
    (M.toAut k P hasPre).start anch = some (posOf N (if anch then SA else SU)) ∧
      (M.toAut k P hasPre).runFrom anch (posOf N (if anch then SA else SU)) w =
        posOf N ((N.toAut k P hasPre).runFrom anch (if anch then SA else SU) w) ∧
      (M.toAut k P hasPre).runFrom anch (posOf N (if anch then SA else SU)) w ≠ FAIL ∧
      (M.toAut k P hasPre).runFrom anch (posOf N (if anch then SA else SU)) w < M.states.size := by
  intro N M
  obtain ⟨L, _, hL⟩ := L1cIdsG_live k fold P anch
  have h0 := hL.toAut_start hasPre k P
  obtain ⟨hv, hr⟩ := hL.run hasPre k P w _ hL.start
  have hr' : (M.toAut k P hasPre).runFrom anch (posOf N (if anch then SA else SU)) w =
      posOf N ((N.toAut k P hasPre).runFrom anch (if anch then SA else SU) w) := hr
  refine ⟨h0, hr', ?_, ?_⟩
  · rw [hr']
    exact posOf_ne_one hL.shuf (hL.lt _ hv) (hL.ne1 _ hv)
  · rw [hr']
    exact hL.pos_lt hasPre hv

/-! ## stored NFA = ideal automaton, `fold = false` -/

theorem L1cIds_obsEquiv_ideal (k : MatchKind) (P : List (List UInt8)) (hasPre anch : Bool) :
    ObsEquiv ((buildNfaIds (CNfa.compile k false P) hasPre).toAut k P hasPre)
      (ideal k P .both hasPre) false anch
      (if anch then (buildNfaIds (CNfa.compile k false P) hasPre).startA
        else (buildNfaIds (CNfa.compile k false P) hasPre).startU) (.at []) := by
  have := L1cIdsG_obsEquiv_ideal k false P hasPre anch
  rwa [List.map_id'' map_foldIf_false] at this

theorem L1cIds_searchEquiv (k : MatchKind) (P : List (List UInt8)) (hasPre : Bool) :
    SearchEquiv ((buildNfaIds (CNfa.compile k false P) hasPre).toAut k P hasPre)
      (ideal k P .both hasPre) := by
  have := L1cIdsG_searchEquiv k false P hasPre
  rwa [List.map_id'' map_foldIf_false] at this

theorem L1cIds_startEquiv (k : MatchKind) (P : List (List UInt8)) (hasPre anch : Bool) :
    StartEquiv ((buildNfaIds (CNfa.compile k false P) hasPre).toAut k P hasPre)
      (ideal k P .both hasPre) false anch :=
  (L1cIds_searchEquiv k P hasPre).start anch

/-! ## corollaries: every search result transfers -/

theorem L1cIds_find (k : MatchKind) (P : List (List UInt8)) (hasPre : Bool)
    (pre : Option (Prefilter UInt8)) (i : Input UInt8) :
    tryFindFwd ((buildNfaIds (CNfa.compile k false P) hasPre).toAut k P hasPre) pre i =
      tryFindFwd (ideal k P .both hasPre) pre i :=
  (L1cIds_searchEquiv k P hasPre).find pre i

theorem L1cIds_iter (k : MatchKind) (P : List (List UInt8)) (hasPre : Bool)
    (pre : Option (Prefilter UInt8)) (i : Input UInt8) :
    findIter ((buildNfaIds (CNfa.compile k false P) hasPre).toAut k P hasPre) pre i =
      findIter (ideal k P .both hasPre) pre i :=
  (L1cIds_searchEquiv k P hasPre).iter pre i

theorem L1cIds_overlap (k : MatchKind) (P : List (List UInt8)) (hasPre : Bool)
    (pre : Option (Prefilter UInt8)) (i : Input UInt8) (n : Nat) :
    ovlCalls ((buildNfaIds (CNfa.compile k false P) hasPre).toAut k P hasPre) pre i n
        OState.start =
      ovlCalls (ideal k P .both hasPre) pre i n OState.start :=
  (L1cIds_searchEquiv k P hasPre).overlap pre i n

theorem L1cIds_overlap_iter (k : MatchKind) (P : List (List UInt8)) (hasPre : Bool)
    (pre : Option (Prefilter UInt8)) (i : Input UInt8) (fuel : Nat) :
    ovlIterAux ((buildNfaIds (CNfa.compile k false P) hasPre).toAut k P hasPre) pre i fuel
        OState.start =
      ovlIterAux (ideal k P .both hasPre) pre i fuel OState.start :=
  (L1cIds_searchEquiv k P hasPre).overlap_iter pre i fuel

/-- … and the stored NFA meets the specification (standard semantics, C02) -/
theorem L1cIds_find_std (P : List (List UInt8)) (i : Input UInt8) :
    ∃ r, tryFindFwd ((buildNfaIds (CNfa.compile .std false P) false).toAut .std P false) none i =
        .ok r ∧ IsFind .std P i.hay i.s i.e i.anch r := by
  rw [L1cIds_find]
  exact C02_find P .both i (Or.inl rfl)

/-! ## the `is_special` contract -/

/-- at every id reachable from a start state: `is_special` holds exactly for the dead state, the
match states and (with a prefilter) the start states; the id-range test `is_match` is the
per-state flag; every transition of the dead state leads to the dead state, in either mode -/
theorem L1cIds_special_contract (k : MatchKind) (P : List (List UInt8)) (hasPre anch : Bool)
    (s0 : Nat)
    (hs : ((buildNfaIds (CNfa.compile k false P) hasPre).toAut k P hasPre).start anch = some s0)
    (w : List UInt8) :
    let M := buildNfaIds (CNfa.compile k false P) hasPre
    let q := (M.toAut k P hasPre).runFrom anch s0 w
    (M.isSpecial q = true ↔
        (M.isDead q = true ∨ M.isMatch q = true ∨ (hasPre = true ∧ M.isStart q = true))) ∧
      (M.isMatch q = true ↔ (M.states.getD q {}).matches_ ≠ []) ∧
      (M.isDead q = true → ∀ a b, M.next a (M.states.size + 1) q b = 0) :=
  have ⟨_, _, hL⟩ := L1cIdsG_live k false P anch
  hL.special_contract hasPre k P s0 hs w

/-! ## every read is in bounds -/

/-- at every id `q` reachable from a start state: `q` indexes `states`; for every byte the
bounds-checked `next_state` returns what the unchecked one returns (no `states[·]` read along the
failure chain is out of range, and the loop returns within `states.len() + 1` iterations); the
match-list read is in bounds and yields valid pattern ids -/
theorem L1cIds_inbounds (k : MatchKind) (P : List (List UInt8)) (hasPre anch : Bool) (s0 : Nat)
    (hs : ((buildNfaIds (CNfa.compile k false P) hasPre).toAut k P hasPre).start anch = some s0)
    (w : List UInt8) :
    let M := buildNfaIds (CNfa.compile k false P) hasPre
    let q := (M.toAut k P hasPre).runFrom anch s0 w
    q < M.states.size ∧
      (∀ b, M.next? anch (M.states.size + 1) q b = some (M.next anch (M.states.size + 1) q b)) ∧
      M.matchList? q = some (M.matchList q) ∧ ∀ p ∈ M.matchList q, p < P.length :=
  have ⟨_, h, hL⟩ := L1cIdsG_live k false P anch
  hL.inbounds hasPre k P (fun _ ⟨_, hr⟩ => List.length_map (as := P) _ ▸ h.mats_lt hr) s0 hs w

/-! ## all ids, reachable or not -/

/-- for every id of the table other than `FAIL`, `is_match` (an id comparison) is the per-state
flag -/
theorem L1cIds_isMatch_all (k : MatchKind) (P : List (List UInt8)) (fold hasPre : Bool) (q : Nat)
    (hq : q < (buildNfaIds (CNfa.compile k fold P) hasPre).states.size) (h1 : q ≠ CNfa.FAIL) :
    (buildNfaIds (CNfa.compile k fold P) hasPre).isMatch q = true ↔
      ((buildNfaIds (CNfa.compile k fold P) hasPre).states.getD q {}).matches_ ≠ [] := by
  obtain ⟨L, _, hL⟩ := L1cIdsG_live k fold P false
  exact isMatch_all hL.shuf hL.mm hL.dead_mats hasPre hq h1

/-- … whereas `is_match(FAIL)` is `true`: `max_match_id ≥ 1` always (it *is* `1 = FAIL` when no
pattern is given).  Harmless: `FAIL` is never reached (`L1cIds_run`). -/
theorem L1cIds_isMatch_fail (k : MatchKind) (P : List (List UInt8)) (fold hasPre : Bool) :
    (buildNfaIds (CNfa.compile k fold P) hasPre).isMatch CNfa.FAIL = true := by
  obtain ⟨L, _, hL⟩ := L1cIdsG_live k fold P false
  exact isMatch_fail hL.shuf hasPre

/-! ## `Remapper::remap` -/

/-- the cycle-chasing loop of `Remapper::remap`, run on the swapped `map` vector, computes the
inverse table through which `buildNfaIds` rewrites every stored id -/
theorem L1cIds_remapper (k : MatchKind) (P : List (List UInt8)) (fold : Bool) :
    remapperMap (shuffleOrder (CNfa.compile k fold P)).1 =
      shufflePos (CNfa.compile k fold P) (shuffleOrder (CNfa.compile k fold P)).1 := by
  obtain ⟨L, h, _⟩ := L1cIdsG_live k fold P false
  exact remapperMap_shuffle h.four_le_size

/-! ## the stored dense rows -/

/-- the record that reads transitions through the stored dense rows is the record that scans the
stored sparse lists, for every dense depth -/
theorem L1cIds_dense_toAut (k : MatchKind) (P : List (List UInt8)) (dd : Nat) (hasPre : Bool) :
    (buildNfaIds (CNfa.compile k false P) hasPre).toAutD (nClass (CNfa.compile k false P))
        (buildDenseIds (CNfa.compile k false P) dd) k P hasPre =
      (buildNfaIds (CNfa.compile k false P) hasPre).toAut k P hasPre := by
  obtain ⟨L, _, hL⟩ := L1cIdsG_live k false P false
  exact toAutD_stored hL.shuf hasPre dd (L1cDense_follow k P dd) k P

/-- `follow_transition` through the stored rows agrees with the stored sparse lists at every id -/
theorem L1cIds_dense_follow (k : MatchKind) (P : List (List UInt8)) (dd : Nat) (hasPre : Bool)
    (q : Nat) (b : UInt8) :
    (buildNfaIds (CNfa.compile k false P) hasPre).followD (nClass (CNfa.compile k false P))
        (buildDenseIds (CNfa.compile k false P) dd) q b =
      CNfa.follow (buildNfaIds (CNfa.compile k false P) hasPre).states q b := by
  obtain ⟨L, _, hL⟩ := L1cIdsG_live k false P false
  exact followD_stored hL.shuf hasPre dd (L1cDense_follow k P dd) q b

theorem L1cIds_dense_obsEquiv (k : MatchKind) (P : List (List UInt8)) (dd : Nat)
    (hasPre anch : Bool) :
    ObsEquiv ((buildNfaIds (CNfa.compile k false P) hasPre).toAutD
        (nClass (CNfa.compile k false P)) (buildDenseIds (CNfa.compile k false P) dd) k P hasPre)
      (ideal k P .both hasPre) false anch
      (if anch then (buildNfaIds (CNfa.compile k false P) hasPre).startA
        else (buildNfaIds (CNfa.compile k false P) hasPre).startU) (.at []) := by
  rw [L1cIds_dense_toAut]
  exact L1cIds_obsEquiv_ideal k P hasPre anch

theorem L1cIds_dense_startEquiv (k : MatchKind) (P : List (List UInt8)) (dd : Nat)
    (hasPre anch : Bool) :
    StartEquiv ((buildNfaIds (CNfa.compile k false P) hasPre).toAutD
        (nClass (CNfa.compile k false P)) (buildDenseIds (CNfa.compile k false P) dd) k P hasPre)
      (ideal k P .both hasPre) false anch := by
  rw [L1cIds_dense_toAut]
  exact L1cIds_startEquiv k P hasPre anch

theorem L1cIds_dense_find (k : MatchKind) (P : List (List UInt8)) (dd : Nat) (hasPre : Bool)
    (pre : Option (Prefilter UInt8)) (i : Input UInt8) :
    tryFindFwd ((buildNfaIds (CNfa.compile k false P) hasPre).toAutD
        (nClass (CNfa.compile k false P)) (buildDenseIds (CNfa.compile k false P) dd) k P hasPre)
        pre i =
      tryFindFwd (ideal k P .both hasPre) pre i := by
  rw [L1cIds_dense_toAut]
  exact L1cIds_find k P hasPre pre i

/-! ## `ascii_case_insensitive` -/

theorem L1cIdsFold_searchEquiv (k : MatchKind) (P : List (List UInt8)) (hasPre : Bool) :
    SearchEquiv ((buildNfaIds (CNfa.compile k true P) hasPre).toAut k P hasPre)
      ((ideal k (P.map (·.map foldByte)) .both hasPre).comap foldByte) :=
  L1cIdsG_searchEquiv k true P hasPre

theorem L1cIdsFold_startEquiv (k : MatchKind) (P : List (List UInt8)) (hasPre anch : Bool) :
    StartEquiv ((buildNfaIds (CNfa.compile k true P) hasPre).toAut k P hasPre)
      ((ideal k (P.map (·.map foldByte)) .both hasPre).comap foldByte) false anch :=
  (L1cIdsFold_searchEquiv k P hasPre).start anch

theorem L1cIdsFold_find (k : MatchKind) (P : List (List UInt8)) (hasPre : Bool)
    (pre : Option (Prefilter UInt8)) (i : Input UInt8) :
    tryFindFwd ((buildNfaIds (CNfa.compile k true P) hasPre).toAut k P hasPre) pre i =
      tryFindFwd ((ideal k (P.map (·.map foldByte)) .both hasPre).comap foldByte) pre i :=
  (L1cIdsFold_searchEquiv k P hasPre).find pre i

theorem L1cIdsFold_iter (k : MatchKind) (P : List (List UInt8)) (hasPre : Bool)
    (pre : Option (Prefilter UInt8)) (i : Input UInt8) :
    findIter ((buildNfaIds (CNfa.compile k true P) hasPre).toAut k P hasPre) pre i =
      findIter ((ideal k (P.map (·.map foldByte)) .both hasPre).comap foldByte) pre i :=
  (L1cIdsFold_searchEquiv k P hasPre).iter pre i

theorem L1cIdsFold_overlap (k : MatchKind) (P : List (List UInt8)) (hasPre : Bool)
    (pre : Option (Prefilter UInt8)) (i : Input UInt8) (n : Nat) :
    ovlCalls ((buildNfaIds (CNfa.compile k true P) hasPre).toAut k P hasPre) pre i n
        OState.start =
      ovlCalls ((ideal k (P.map (·.map foldByte)) .both hasPre).comap foldByte) pre i n
        OState.start :=
  (L1cIdsFold_searchEquiv k P hasPre).overlap pre i n

theorem L1cIdsFold_overlap_iter (k : MatchKind) (P : List (List UInt8)) (hasPre : Bool)
    (pre : Option (Prefilter UInt8)) (i : Input UInt8) (fuel : Nat) :
    ovlIterAux ((buildNfaIds (CNfa.compile k true P) hasPre).toAut k P hasPre) pre i fuel
        OState.start =
      ovlIterAux ((ideal k (P.map (·.map foldByte)) .both hasPre).comap foldByte) pre i fuel
        OState.start :=
  (L1cIdsFold_searchEquiv k P hasPre).overlap_iter pre i fuel

theorem L1cIdsFold_special_contract (k : MatchKind) (P : List (List UInt8)) (hasPre anch : Bool)
    (s0 : Nat)
    (hs : ((buildNfaIds (CNfa.compile k true P) hasPre).toAut k P hasPre).start anch = some s0)
    (w : List UInt8) :
    let M := buildNfaIds (CNfa.compile k true P) hasPre
    let q := (M.toAut k P hasPre).runFrom anch s0 w
    (M.isSpecial q = true ↔
        (M.isDead q = true ∨ M.isMatch q = true ∨ (hasPre = true ∧ M.isStart q = true))) ∧
      (M.isMatch q = true ↔ (M.states.getD q {}).matches_ ≠ []) ∧
      (M.isDead q = true → ∀ a b, M.next a (M.states.size + 1) q b = 0) :=
  have ⟨_, _, hL⟩ := L1cIdsG_live k true P anch
  hL.special_contract hasPre k P s0 hs w

theorem L1cIdsFold_inbounds (k : MatchKind) (P : List (List UInt8)) (hasPre anch : Bool) (s0 : Nat)
    (hs : ((buildNfaIds (CNfa.compile k true P) hasPre).toAut k P hasPre).start anch = some s0)
    (w : List UInt8) :
    let M := buildNfaIds (CNfa.compile k true P) hasPre
    let q := (M.toAut k P hasPre).runFrom anch s0 w
    q < M.states.size ∧
      (∀ b, M.next? anch (M.states.size + 1) q b = some (M.next anch (M.states.size + 1) q b)) ∧
      M.matchList? q = some (M.matchList q) ∧ ∀ p ∈ M.matchList q, p < P.length :=
  have ⟨_, h, hL⟩ := L1cIdsG_live k true P anch
  hL.inbounds hasPre k P (fun _ ⟨_, hr⟩ => List.length_map (as := P) _ ▸ h.mats_lt hr) s0 hs w

/-! ## non-vacuity: automata as the crate builds them

(the values below were read off `format!("{:?}", nfa)` and the `Automaton` methods of the NFA built
by the crate itself) -/

/-- `"a"`, `"ab"`, `"b"`, standard semantics, no prefilter.  Pre-shuffle: 4 = `a`, 5 = `ab`,
6 = `b`.  Stored: 0 dead, 1 fail, 2 = `ab` (failure link 3, matches 1, 2), 3 = `b`, 4 = `a` (edge
`b → 2`), 5 unanchored start, 6 anchored start; `max_match_id = max_special_id = 4`.  (The failure
links of states 0, 1, 5 are `0` in the crate, see `NfaIds.lean`.) -/
example :
    let M := buildNfaIds (CNfa.compile .std false [[97], [97, 98], [98]]) false
    (M.states.toList.map fun s => (s.fail, s.matches_)) =
        [(5, []), (5, []), (3, [1, 2]), (5, [2]), (5, [0]), (5, []), (0, [])] ∧
      (M.states.toList.map fun s => s.trans.filter fun t => decide (97 ≤ t.1.toNat ∧ t.1.toNat ≤ 99))
        = [[(97, 0), (98, 0), (99, 0)], [], [], [], [(98, 2)], [(97, 4), (98, 3), (99, 5)],
            [(97, 4), (98, 3), (99, 1)]] ∧
      (M.maxSpecialId, M.maxMatchId, M.startU, M.startA) = (4, 4, 5, 6) ∧
      -- a search: after `a b` the NFA is at id 2 (`ab`), a match state listing patterns 1 and 2;
      -- from there `a` follows two failure links (2 → 3 → 5) and takes the start state's edge
      (M.toAut .std [[97], [97, 98], [98]] false).runFrom false 5 [97, 98] = 2 ∧
      M.nextState false 8 2 97 0 = (4, 2) ∧ M.next? false 8 2 97 = some 4 ∧
      M.isMatch 2 = true ∧ M.isSpecial 2 = true ∧ M.isSpecial 5 = false ∧
      M.matchList? 2 = some [1, 2] ∧ M.matchList? 7 = none ∧ M.next? false 8 7 97 = none ∧
      -- `FAIL` passes the id-range test although it has no matches
      M.isMatch 1 = true ∧ M.matchList 1 = [] ∧
      -- the remapper loop computes `pos`
      remapperMap (shuffleOrder (CNfa.compile .std false [[97], [97, 98], [98]])).1 =
        #[0, 1, 5, 6, 4, 2, 3] := by
  decide +kernel

/-- the same patterns with a prefilter: only `max_special_id` changes, to the anchored start id -/
example :
    let M := buildNfaIds (CNfa.compile .std false [[97], [97, 98], [98]]) true
    (M.maxSpecialId, M.maxMatchId, M.startU, M.startA) = (6, 4, 5, 6) ∧
      M.isSpecial 5 = true ∧ M.isSpecial 6 = true ∧ M.isMatch 5 = false := by
  decide +kernel

/-- `"ab"`, `""`, `"b"`, standard semantics: the start states are match states (the empty
pattern), so `max_match_id` is the anchored start id and *every* state is a match state -/
example :
    let M := buildNfaIds (CNfa.compile .std false [[97, 98], [], [98]]) false
    (M.states.toList.map fun s => (s.fail, s.matches_)) =
        [(5, []), (5, []), (3, [0, 2, 1]), (5, [2, 1]), (5, [1]), (5, [1]), (0, [1])] ∧
      (M.maxSpecialId, M.maxMatchId, M.startU, M.startA) = (6, 6, 5, 6) ∧
      M.isMatch 5 = true ∧ M.isStart 5 = true := by
  decide +kernel

/-- no patterns at all: nothing is moved, `max_match_id = max_special_id = 1 = FAIL` -/
example :
    let M := buildNfaIds (CNfa.compile .std false []) false
    (M.states.size, M.maxSpecialId, M.maxMatchId, M.startU, M.startA) = (4, 1, 1, 2, 3) ∧
      M.isSpecial 2 = false ∧ M.isMatch 1 = true := by
  decide +kernel

/-- `""`, `"a"`, leftmost-first: `"a"` is never added to the trie; both start states are match
states and, after `close_start_state_loop_for_leftmost`, the unanchored one leads to `DEAD` -/
example :
    let M := buildNfaIds (CNfa.compile .lf false [[], [97]]) false
    (M.states.toList.map fun s => (s.fail, s.matches_)) = [(2, []), (2, []), (2, [0]), (0, [0])] ∧
      (M.maxSpecialId, M.maxMatchId, M.startU, M.startA) = (3, 3, 2, 3) ∧
      M.next false 5 2 97 = 0 ∧ M.next true 5 3 97 = 0 := by
  decide +kernel

/-- the stored dense rows of the first automaton at dense depth 1 (classes: below `a`, `a`, `b`,
above `b`): the rows of the start states and of the depth-0 nodes `a` (id 4), `b` (id 3), remapped.
(The crate does not print its rows; in the comparison they were exercised through `next_state`,
dense depth 2, on every id and byte.) -/
example :
    (buildDenseIds (CNfa.compile .std false [[97], [97, 98], [98]]) 1).toList =
      [none, none, none, some #[1, 1, 1, 1], some #[1, 1, 2, 1], some #[5, 4, 3, 5],
        some #[1, 4, 3, 1]] := by
  unfold buildDenseIds denseRows
  rw [classOfMarks_eq_classLt]
  decide +kernel

end AcVerif
