import AcVerif.Proofs.Splice
/-!
# C12 – `replace_all_with(_bytes)` APPEND to the caller's buffer

Whatever the buffer already holds stays in front, untouched, and what is appended is exactly the
spliced haystack (the result for an empty buffer); the closure log does not depend on the buffer.
The harness exercises this with pre-filled buffers of chosen spare capacity.
-/
namespace AcVerif
open AcVerif.MiscP
variable {α : Type}

theorem C12_bytes_append (hay : List α) (ms : List Mat) (repl : Mat → List α) (stop : Option Nat)
    (dst0 : List α) :
    spliceLoop hay repl stop (fun _ => true) 0 0 ms dst0 [] =
      (dst0 ++ (replaceBytes hay ms repl stop).1, (replaceBytes hay ms repl stop).2) := by
  rw [replaceBytes_eq, spliceLoop_eq hay repl stop _ ms 0 0 dst0 [] (fun _ _ => Nat.zero_le _),
    filter_const_true]
  rfl

theorem C12_str_append (hay : List UInt8) (ms : List Mat) (repl : Mat → List UInt8) (stop : Option Nat)
    (dst0 : List UInt8) :
    spliceLoop hay repl stop (fun m => isCharBoundary hay m.start && isCharBoundary hay m.stop) 0 0 ms dst0 [] =
      (dst0 ++ (replaceStr hay ms repl stop).1, (replaceStr hay ms repl stop).2) := by
  rw [replaceStr_eq, spliceLoop_eq hay repl stop _ ms 0 0 dst0 [] (fun _ _ => Nat.zero_le _)]
  rfl

end AcVerif
