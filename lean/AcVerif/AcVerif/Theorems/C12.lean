import AcVerif.Proofs.Splice
import AcVerif.Proofs.IterFacts
/-!
# C12 – `replace_all*`

The in-memory replace routines, given the list `ms` of matches the
non-overlapping iterator yields, produce the splice `spliceSpec`: the haystack
bytes before each match, the closure's output for it, and so on, then the
remaining bytes.  When the closure returns `false` at its `k`-th call
(counting from 0) the first `k + 1` matches are spliced and the rest of the
haystack is copied verbatim.  The closure sees exactly the match and the
matched bytes, in iterator order.  Splicing back the matched bytes themselves
reproduces the haystack, so untouched bytes are preserved in order.  The
string variant replaces exactly the matches whose two bounds are character
boundaries, and every `&str` slice it takes is legal.
-/
namespace AcVerif
open AcVerif.MiscP
variable {α : Type}

theorem C12_bytes (hay : List α) (ms : List Mat) (repl : Mat → List α) :
    (replaceBytes hay ms repl none).1 = spliceSpec hay repl 0 ms := by
  rw [replaceBytes_eq]; rfl

theorem C12_with_stop (hay : List α) (ms : List Mat) (repl : Mat → List α) (k : Nat) :
    (replaceBytes hay ms repl (some k)).1 = spliceSpec hay repl 0 (ms.take (k + 1)) := by
  rw [replaceBytes_eq]; rfl

theorem C12_log (hay : List α) (ms : List Mat) (repl : Mat → List α) :
    (replaceBytes hay ms repl none).2 = ms.map fun m => (m, (hay.take m.stop).drop m.start) := by
  rw [replaceBytes_eq]; rfl

theorem C12_log_with_stop (hay : List α) (ms : List Mat) (repl : Mat → List α) (k : Nat) :
    (replaceBytes hay ms repl (some k)).2 =
      (ms.take (k + 1)).map fun m => (m, (hay.take m.stop).drop m.start) := by
  rw [replaceBytes_eq]; rfl

/-- The hypotheses hold for iterator outputs (`C12_iter_hyps`).  `m.stop ≤ hay.length` is
not needed; it is kept because it is what the iterator guarantees. -/
theorem C12_identity (hay : List α) (ms : List Mat)
    (hsorted : ms.Pairwise (fun a b => a.stop ≤ b.start))
    (hin : ∀ m ∈ ms, m.start ≤ m.stop ∧ m.stop ≤ hay.length) :
    spliceSpec hay (fun m => (hay.take m.stop).drop m.start) 0 ms = hay :=
  spliceSpec_identity hay ms 0 hsorted (fun m hm => (hin m hm).1) (fun _ _ => Nat.zero_le _)

theorem C12_str (hay : List UInt8) (ms : List Mat) (repl : Mat → List UInt8) :
    (replaceStr hay ms repl none).1 =
      spliceSpec hay repl 0
        (ms.filter fun m => isCharBoundary hay m.start && isCharBoundary hay m.stop) := by
  rw [replaceStr_eq]; rfl

theorem C12_str_with_stop (hay : List UInt8) (ms : List Mat) (repl : Mat → List UInt8) (k : Nat) :
    (replaceStr hay ms repl (some k)).1 =
      spliceSpec hay repl 0
        ((ms.filter fun m => isCharBoundary hay m.start && isCharBoundary hay m.stop).take
          (k + 1)) := by
  rw [replaceStr_eq]; rfl

/-- **No `&str` slice of the string routine can panic.**

`SlicesOK hay last l` lists the slices taken while splicing the match list `l`
starting with `last_match = last`: for each match `&hay[last..m.start]` (the
copied gap) and `&hay[m.start..m.stop]` (the closure argument), then
`last := m.stop`, and at the end `&hay[last..]`.  `SliceOK hay a b` is the
exact non-panic condition of `&hay[a..b]` on a `str`: `a ≤ b ≤ len` and both
are character boundaries.  For any ascending, non-overlapping, well-formed
match list (iterator outputs are, by `C12_iter_hyps`) the matches that pass
the boundary filter – the ones `C12_str` says are spliced – satisfy it, from
`last = 0`. -/
theorem C12_str_slices_ok (hay : List UInt8) (ms : List Mat)
    (hsorted : ms.Pairwise (fun a b => a.stop ≤ b.start))
    (hin : ∀ m ∈ ms, m.start ≤ m.stop ∧ m.stop ≤ hay.length) :
    SlicesOK hay 0
      (ms.filter fun m => isCharBoundary hay m.start && isCharBoundary hay m.stop) :=
  slicesOK_filter hay ms 0 hsorted (fun m hm => (hin m hm).1) (fun _ _ => Nat.zero_le _)
    (isCharBoundary_zero hay)

/-- `take n`: the closure stops the loop early. -/
theorem C12_str_slices_ok_gen (hay : List UInt8) (ms : List Mat) (last n : Nat)
    (hsorted : ms.Pairwise (fun a b => a.stop ≤ b.start))
    (hin : ∀ m ∈ ms, m.start ≤ m.stop ∧ m.stop ≤ hay.length)
    (hlast : isCharBoundary hay last = true) (hle : ∀ m ∈ ms, last ≤ m.start) :
    SlicesOK hay last
      ((ms.filter fun m => isCharBoundary hay m.start && isCharBoundary hay m.stop).take n) :=
  slicesOK_take hay _ last n
    (slicesOK_filter hay ms last hsorted (fun m hm => (hin m hm).1) hle hlast)

theorem C12_slicesOK_unfold (hay : List UInt8) (last : Nat) (m : Mat) (l : List Mat)
    (h : SlicesOK hay last (m :: l)) :
    isCharBoundary hay last = true ∧ isCharBoundary hay m.start = true ∧
      isCharBoundary hay m.stop = true ∧ last ≤ m.start ∧ m.start ≤ m.stop ∧
      m.stop ≤ hay.length ∧ SlicesOK hay m.stop l :=
  ⟨h.1.1, h.1.2.1, h.2.1.2.1, h.1.2.2.1, h.2.1.2.2.1, h.2.1.2.2.2, h.2.2⟩

/-- the hypotheses of `C12_identity` / `C12_str_slices_ok` hold for every
iterator output over `IsFind` answers (in particular for `C02_iter`) -/
theorem C12_iter_hyps {k : MatchKind} {P : List (List α)} {hay : List α} {s e : Nat} {anch : Bool}
    {F : Nat → Option Mat} (hF : ∀ st, st ≤ e + 1 → IsFind k P hay st e anch (F st))
    (hs : s ≤ e + 1) (he : e ≤ hay.length) :
    (iterSpec F s e).Pairwise (fun a b => a.stop ≤ b.start) ∧
      ∀ m ∈ iterSpec F s e, m.start ≤ m.stop ∧ m.stop ≤ hay.length :=
  ⟨iter_nonoverlap hF hs, fun m hm =>
    have q := iter_in_range hF hs m hm
    ⟨q.2.1, Nat.le_trans q.2.2 he⟩⟩

/-! ## non-vacuity -/

example : (replaceBytes [1, 2, 3, 4, 5] [⟨0, 1, 2⟩, ⟨0, 3, 4⟩] (fun _ => [9, 9]) none).1
    = [1, 9, 9, 3, 9, 9, 5] := by decide
example : (replaceBytes [1, 2, 3, 4, 5] [⟨0, 1, 2⟩, ⟨0, 3, 4⟩] (fun _ => [9, 9]) (some 0)).1
    = [1, 9, 9, 3, 4, 5] := by decide

end AcVerif
