import AcVerif.Proofs.Std
/-!
# C03 – overlapping search

On the ideal standard automaton (no prefilter) successive calls of
`try_find_overlapping_fwd` (Lean `tryFindOverlappingFwd`, iterated by `ovlCalls`) on
one state report exactly the overlapping enumeration (every admissible
occurrence once, ordered by end, then longer first, then supply order) and then
`None` for ever; the iterator built on it (`ovlIterAux`) yields that list.
-/
namespace AcVerif
open AcVerif.StdP
variable {α : Type} [DecidableEq α]

theorem C03_calls (P : List (List α)) (sk : StartKind) (i : Input α)
    (h : supportsAnch sk i.anch) :
    ∃ l, IsOverlapList P i.hay i.s i.e i.anch l ∧
      ∀ n, ovlCalls (ideal .std P sk false) none i n OState.start =
        (l.take n).map (fun m => Except.ok (some m)) ++
          List.replicate (n - l.length) (Except.ok none) := by
  cases hd : i.isDone with
  | true =>
    refine ⟨[], isOverlapList_nil_of_done P i hd, ?_⟩
    intro n
    simp [ovlCalls_done (stdLike_ideal P sk) i (LmP.start_root .std P false h) hd]
  | false =>
    refine ⟨_, isOverlapList_allMatches P sk i hd, ?_⟩
    intro n
    rw [ovlCalls_eq (stdLike_ideal P sk) i (LmP.start_root .std P false h) hd, pending_start]

theorem C03_iter (P : List (List α)) (sk : StartKind) (i : Input α)
    (h : supportsAnch sk i.anch) :
    ∃ l, IsOverlapList P i.hay i.s i.e i.anch l ∧
      ∀ fuel, l.length < fuel →
        ovlIterAux (ideal .std P sk false) none i fuel OState.start = l := by
  obtain ⟨l, hl, hc⟩ := C03_calls P sk i h
  exact ⟨l, hl, fun fuel hf => by rw [ovlIterAux_eq_yielded, hc, yielded_calls l fuel hf]⟩

/-! ## non-vacuity: concrete instances (nested, duplicate and empty patterns)

Evaluated through `ovlCalls_eq` (the call sequence is read off the structural
`allMatches`; the iterator is `yielded` of it) and closed by `rfl`. -/

private def ex1 : Input Nat := ⟨[0, 1, 2], 0, 3, false, false, by decide⟩
private def ex2 : Input Nat := ⟨[0, 1, 2], 1, 3, true, false, by decide⟩

/-- the hypotheses of `C03_calls` / `C03_iter` are satisfiable -/
example : ∃ l, IsOverlapList [[1, 2], [2], [], [2]] ex1.hay ex1.s ex1.e ex1.anch l ∧
    ∀ fuel, l.length < fuel →
      ovlIterAux (ideal .std [[1, 2], [2], [], [2]] .both false) none ex1 fuel OState.start = l :=
  C03_iter _ _ ex1 (Or.inl rfl)

example : ovlCalls (ideal .std [[1, 2], [2], [], [2]] .both false) none ex1 9 OState.start =
    [.ok (some ⟨2, 0, 0⟩), .ok (some ⟨2, 1, 1⟩), .ok (some ⟨2, 2, 2⟩), .ok (some ⟨0, 1, 3⟩),
     .ok (some ⟨1, 2, 3⟩), .ok (some ⟨3, 2, 3⟩), .ok (some ⟨2, 3, 3⟩), .ok none, .ok none] := by
  rw [ovlCalls_eq (stdLike_ideal _ _) ex1 (q0 := .at []) rfl rfl, pending_start]; rfl

example : ovlIterAux (ideal .std [[1, 2], [2], [], [2]] .both false) none ex1 9 OState.start =
    [⟨2, 0, 0⟩, ⟨2, 1, 1⟩, ⟨2, 2, 2⟩, ⟨0, 1, 3⟩, ⟨1, 2, 3⟩, ⟨3, 2, 3⟩, ⟨2, 3, 3⟩] := by
  rw [ovlIterAux_eq_yielded, ovlCalls_eq (stdLike_ideal _ _) ex1 (q0 := .at []) rfl rfl,
    pending_start]; rfl

/-- anchored at 1: only occurrences starting at 1, longest-first at equal end -/
example : ovlCalls (ideal .std [[2], [1, 2], [1], [1], []] .both false) none ex2 6 OState.start =
    [.ok (some ⟨4, 1, 1⟩), .ok (some ⟨2, 1, 2⟩), .ok (some ⟨3, 1, 2⟩), .ok (some ⟨1, 1, 3⟩),
     .ok none, .ok none] := by
  rw [ovlCalls_eq (stdLike_ideal _ _) ex2 (q0 := .at []) rfl rfl, pending_start]; rfl

end AcVerif
