import AcVerif.Proofs.Layers
import AcVerif.Proofs.DfaBoth
import AcVerif.Proofs.SearchEquiv
import AcVerif.Theorems.L1c
import AcVerif.Proofs.TableEval
/-!
# L1d – the transcribed DFA builder agrees with the NFA it was built from, and with the ideal automaton

`buildDfa N sk byteClasses` (`dfa::Builder::build_from_noncontiguous`: byte classes from the
`ByteClassSet` of the trie or singletons, `sparse_iter`, resolution of `FAIL` entries through
`nnfa.next_state(Anchored::No, fail, byte)`, one row per state for the start kinds `Unanchored` /
`Anchored`, interleaved unanchored / anchored rows with remap tables for `Both`) applied to the
compiled noncontiguous NFA `N = CNfa.compile k false P` is, for **every** pattern list, match
kind, start kind and both settings of `byte_classes`, observationally equivalent to `N`
(`L1d_obsEquiv_*`) and hence (with L1c) to the ideal automaton (`L1d_ideal`, `L1d_startEquiv`);
it supports exactly the anchoring modes of its start kind (`L1d_start`).  So every search result
transfers (`L1d_find`, `L1d_overlap`, `L1d_overlap_iter`, `L1d_iter`), including the error for an
unsupported anchoring mode.

All of it is proved for ANY automaton `N` that meets the specification `NfaSpec f` of the compiler
(`buildDfa_obsEquiv`, `buildDfa_startEquiv`: the DFA built from `N` equals `N`, and the ideal
automaton fed `f b`), hence for `N = CNfa.compile k fold P` (`L1dG_*`); the `L1d_*` statements are
the instance `fold = false`.  The idea (`AcVerif/Proofs/Dfa*.lean`): two different bytes of a class
are both absent from the trie (`classOK_marks`), so byte classes are a congruence of the NFA on the
live states (`nextState_cong`) and a row holds `next_state` (`row_spec`); for `Both` the remap
tables and the interleaved arrays are those of the stored DFA at the placement
`(Array.range n.size, id, 4)` with stride `1` (`Proofs/DfaBoth.lean`).
-/
namespace AcVerif
open AcVerif.L1cP AcVerif.L1dP AcVerif.CNfa

variable {σ : Type}

/-! ## the DFA built from any automaton that meets the specification of the compiler -/

section
variable {f : UInt8 → UInt8} {k : MatchKind} {Q : PatSet UInt8} {L : List (List UInt8)} {N : CNfa}

theorem buildDfa_obsEquiv_both (h : NfaSpec f k Q L N) (P : List (List UInt8)) (hasPre bc : Bool)
    (anch : Bool) :
    ∃ s0, ((buildDfa N .both bc).toAut k P hasPre).start anch = some s0 ∧
      ObsEquiv ((buildDfa N .both bc).toAut k P hasPre) (N.toAut k P hasPre) false anch s0
        (if anch then CNfa.SA else CNfa.SU) := by
  rw [buildDfa_both]
  refine ⟨_, ?_, both_obsEquiv h (classOK_clsOf N bc) P hasPre anch⟩
  cases anch
  · exact both_startU h (clsOf N bc) (ncOf N bc)
  · exact both_startA h (clsOf N bc) (ncOf N bc)

theorem buildDfa_obsEquiv (h : NfaSpec f k Q L N) (P : List (List UInt8)) (hasPre bc : Bool)
    (sk : StartKind) (anch : Bool) (hs : supportsAnch sk anch) :
    ∃ s0, ((buildDfa N sk bc).toAut k P hasPre).start anch = some s0 ∧
      ObsEquiv ((buildDfa N sk bc).toAut k P hasPre) (N.toAut k P hasPre) false anch s0
        (if anch then CNfa.SA else CNfa.SU) := by
  rcases hs with rfl | ⟨rfl, rfl⟩ | ⟨rfl, rfl⟩
  · exact buildDfa_obsEquiv_both h P hasPre bc anch
  · exact ⟨CNfa.SU, rfl, buildOne_obsEquiv h (classOK_clsOf N bc) P hasPre false⟩
  · exact ⟨CNfa.SA, rfl, buildOne_obsEquiv h (classOK_clsOf N bc) P hasPre true⟩

theorem buildDfa_start (h : NfaSpec f k Q L N) (P : List (List UInt8)) (hasPre bc : Bool)
    (sk : StartKind) (anch : Bool) :
    (((buildDfa N sk bc).toAut k P hasPre).start anch).isSome ↔ supportsAnch sk anch := by
  by_cases hs : supportsAnch sk anch
  · obtain ⟨s0, h0, _⟩ := buildDfa_obsEquiv h P hasPre bc sk anch hs
    rw [h0]
    exact ⟨fun _ => hs, fun _ => rfl⟩
  · rw [buildDfa_start_none N k P hasPre bc hs]
    exact ⟨fun h => (by cases h), fun h => absurd h hs⟩

variable {P' : List (List UInt8)}

/-- `P'`: the patterns of the specification, whose ideal automaton is fed `f b` -/
theorem buildDfa_obsEquiv_ideal (h : NfaSpec f k (patSet k P') L N) (P : List (List UInt8))
    (hasPre bc : Bool) (sk : StartKind) (anch : Bool) (hs : supportsAnch sk anch) :
    ∃ s0, ((buildDfa N sk bc).toAut k P hasPre).start anch = some s0 ∧
      ObsEquiv ((buildDfa N sk bc).toAut k P hasPre) ((ideal k P' sk hasPre).comap f) false anch
        s0 (.at []) := by
  obtain ⟨s0, h0, h1⟩ := buildDfa_obsEquiv h P hasPre bc sk anch hs
  exact ⟨s0, h0, (h1.trans (h.obsEquiv_ideal P hasPre anch)).ideal_comap_sk sk⟩

theorem buildDfa_startEquiv (h : NfaSpec f k (patSet k P') L N) (P : List (List UInt8))
    (hasPre bc : Bool) (sk : StartKind) (anch : Bool) :
    StartEquiv ((buildDfa N sk bc).toAut k P hasPre) ((ideal k P' sk hasPre).comap f) false
      anch := by
  unfold StartEquiv
  by_cases hs : supportsAnch sk anch
  · obtain ⟨s0, h0, h1⟩ := buildDfa_obsEquiv_ideal h P hasPre bc sk anch hs
    rw [h0, (ideal_comap_start_eq k P' sk hasPre f anch).1 hs]
    exact h1
  · rw [buildDfa_start_none N k P hasPre bc hs, (ideal_comap_start_eq k P' sk hasPre f anch).2 hs]
    trivial

end

/-! ## `N = CNfa.compile k fold P`, for both settings of `ascii_case_insensitive` -/

theorem L1dG_obsEquiv (k : MatchKind) (fold : Bool) (P : List (List UInt8)) (hasPre bc : Bool)
    (sk : StartKind) (anch : Bool) (hs : supportsAnch sk anch) :
    ∃ s0, ((buildDfa (CNfa.compile k fold P) sk bc).toAut k P hasPre).start anch = some s0 ∧
      ObsEquiv ((buildDfa (CNfa.compile k fold P) sk bc).toAut k P hasPre)
        ((CNfa.compile k fold P).toAut k P hasPre) false anch s0
        (if anch then CNfa.SA else CNfa.SU) := by
  obtain ⟨L, h⟩ := compile_specG k fold P
  exact buildDfa_obsEquiv h P hasPre bc sk anch hs

theorem L1dG_start (k : MatchKind) (fold : Bool) (P : List (List UInt8)) (hasPre bc : Bool)
    (sk : StartKind) (anch : Bool) :
    (((buildDfa (CNfa.compile k fold P) sk bc).toAut k P hasPre).start anch).isSome ↔
      supportsAnch sk anch := by
  obtain ⟨L, h⟩ := compile_specG k fold P
  exact buildDfa_start h P hasPre bc sk anch

theorem L1dG_obsEquiv_ideal (k : MatchKind) (fold : Bool) (P : List (List UInt8))
    (hasPre bc : Bool) (sk : StartKind) (anch : Bool) (hs : supportsAnch sk anch) :
    ∃ s0, ((buildDfa (CNfa.compile k fold P) sk bc).toAut k P hasPre).start anch = some s0 ∧
      ObsEquiv ((buildDfa (CNfa.compile k fold P) sk bc).toAut k P hasPre)
        ((ideal k (P.map (List.map (foldIf fold))) sk hasPre).comap (foldIf fold)) false anch
        s0 (.at []) := by
  obtain ⟨L, h⟩ := compile_specG k fold P
  exact buildDfa_obsEquiv_ideal h P hasPre bc sk anch hs

theorem L1dG_searchEquiv (k : MatchKind) (fold : Bool) (P : List (List UInt8)) (hasPre bc : Bool)
    (sk : StartKind) :
    SearchEquiv ((buildDfa (CNfa.compile k fold P) sk bc).toAut k P hasPre)
      ((ideal k (P.map (List.map (foldIf fold))) sk hasPre).comap (foldIf fold)) := by
  obtain ⟨L, h⟩ := compile_specG k fold P
  exact .of_ideal_comap rfl (fun _ => rfl) (buildDfa_startEquiv h P hasPre bc sk)

/-! ## DFA = NFA, `fold = false` -/

theorem L1d_obsEquiv_unanchored (k : MatchKind) (P : List (List UInt8)) (hasPre bc : Bool) :
    ObsEquiv ((buildDfa (CNfa.compile k false P) .unanchored bc).toAut k P hasPre)
      ((CNfa.compile k false P).toAut k P hasPre) false false CNfa.SU CNfa.SU := by
  obtain ⟨_, h0, h⟩ := L1dG_obsEquiv k false P hasPre bc .unanchored false (.inr (.inl ⟨rfl, rfl⟩))
  cases h0
  exact h

theorem L1d_obsEquiv_anchored (k : MatchKind) (P : List (List UInt8)) (hasPre bc : Bool) :
    ObsEquiv ((buildDfa (CNfa.compile k false P) .anchored bc).toAut k P hasPre)
      ((CNfa.compile k false P).toAut k P hasPre) false true CNfa.SA CNfa.SA := by
  obtain ⟨_, h0, h⟩ := L1dG_obsEquiv k false P hasPre bc .anchored true (.inr (.inr ⟨rfl, rfl⟩))
  cases h0
  exact h

theorem L1d_obsEquiv_both (k : MatchKind) (P : List (List UInt8)) (hasPre bc : Bool) (anch : Bool) :
    ∃ s0, ((buildDfa (CNfa.compile k false P) .both bc).toAut k P hasPre).start anch = some s0 ∧
      ObsEquiv ((buildDfa (CNfa.compile k false P) .both bc).toAut k P hasPre)
        ((CNfa.compile k false P).toAut k P hasPre) false anch s0
        (if anch then CNfa.SA else CNfa.SU) :=
  L1dG_obsEquiv k false P hasPre bc .both anch (.inl rfl)

/-! ## the start states -/

/-- unsupported anchoring modes are rejected by the DFA exactly like the ideal automaton with that
start kind -/
theorem L1d_start (k : MatchKind) (P : List (List UInt8)) (hasPre bc : Bool) (sk : StartKind)
    (anch : Bool) :
    (((buildDfa (CNfa.compile k false P) sk bc).toAut k P hasPre).start anch).isSome ↔
      supportsAnch sk anch :=
  L1dG_start k false P hasPre bc sk anch

theorem L1d_start_none (k : MatchKind) (P : List (List UInt8)) (hasPre bc : Bool) (sk : StartKind)
    (anch : Bool) (h : ¬ supportsAnch sk anch) :
    ((buildDfa (CNfa.compile k false P) sk bc).toAut k P hasPre).start anch = none :=
  Option.not_isSome_iff_eq_none.1 fun hs => h ((L1d_start k P hasPre bc sk anch).1 hs)

/-- a DFA never follows a failure link at search time: `next` is a table lookup, the same for both
anchoring modes -/
theorem L1d_next_ignores_anch (d : DfaM) (k : MatchKind) (P : List (List UInt8)) (hasPre a b : Bool)
    (q : Nat) (c : UInt8) :
    (d.toAut k P hasPre).next a q c = (d.toAut k P hasPre).next b q c := rfl

/-! ## DFA = ideal automaton -/

theorem L1d_obsEquiv_ideal (k : MatchKind) (P : List (List UInt8)) (hasPre bc : Bool)
    (sk : StartKind) (anch : Bool) (h : supportsAnch sk anch) :
    ∃ s0, ((buildDfa (CNfa.compile k false P) sk bc).toAut k P hasPre).start anch = some s0 ∧
      ObsEquiv ((buildDfa (CNfa.compile k false P) sk bc).toAut k P hasPre)
        (ideal k P sk hasPre) false anch s0 (.at []) := by
  have := L1dG_obsEquiv_ideal k false P hasPre bc sk anch h
  rwa [List.map_id'' map_foldIf_false] at this

theorem L1d_searchEquiv (k : MatchKind) (P : List (List UInt8)) (hasPre bc : Bool)
    (sk : StartKind) :
    SearchEquiv ((buildDfa (CNfa.compile k false P) sk bc).toAut k P hasPre)
      (ideal k P sk hasPre) := by
  have := L1dG_searchEquiv k false P hasPre bc sk
  rwa [List.map_id'' map_foldIf_false] at this

/-- `StartEquiv` with the ideal automaton of the same start kind, for **every** anchoring mode:
equivalent start states if the mode is supported, both reject it otherwise -/
theorem L1d_startEquiv (k : MatchKind) (P : List (List UInt8)) (hasPre bc : Bool) (sk : StartKind)
    (anch : Bool) :
    StartEquiv ((buildDfa (CNfa.compile k false P) sk bc).toAut k P hasPre) (ideal k P sk hasPre)
      false anch :=
  (L1d_searchEquiv k P hasPre bc sk).start anch

/-- `L1d_startEquiv` again; the hypothesis on the anchoring mode is not used -/
theorem L1d_ideal (k : MatchKind) (P : List (List UInt8)) (hasPre bc : Bool) (sk : StartKind)
    (anch : Bool) (_h : supportsAnch sk anch) :
    StartEquiv ((buildDfa (CNfa.compile k false P) sk bc).toAut k P hasPre) (ideal k P sk hasPre)
      false anch :=
  L1d_startEquiv k P hasPre bc sk anch

/-! ## corollaries: every search result transfers (for every input: a supported anchoring mode
gives the ideal automaton's result, an unsupported one the same error) -/

theorem L1d_find (k : MatchKind) (P : List (List UInt8)) (hasPre bc : Bool) (sk : StartKind)
    (pre : Option (Prefilter UInt8)) (i : Input UInt8) :
    tryFindFwd ((buildDfa (CNfa.compile k false P) sk bc).toAut k P hasPre) pre i =
      tryFindFwd (ideal k P sk hasPre) pre i :=
  (L1d_searchEquiv k P hasPre bc sk).find pre i

/-- the error case made explicit -/
theorem L1d_find_unsupported (k : MatchKind) (P : List (List UInt8)) (hasPre bc : Bool)
    (sk : StartKind) (pre : Option (Prefilter UInt8)) (i : Input UInt8)
    (h : ¬ supportsAnch sk i.anch) (hd : i.isDone = true) :
    tryFindFwd ((buildDfa (CNfa.compile k false P) sk bc).toAut k P hasPre) pre i =
      .error (if i.anch then .invalidInputAnchored else .invalidInputUnanchored) := by
  unfold tryFindFwd
  rw [if_pos hd, buildDfa_start_none _ k P hasPre bc h]

theorem L1d_iter (k : MatchKind) (P : List (List UInt8)) (hasPre bc : Bool) (sk : StartKind)
    (pre : Option (Prefilter UInt8)) (i : Input UInt8) :
    findIter ((buildDfa (CNfa.compile k false P) sk bc).toAut k P hasPre) pre i =
      findIter (ideal k P sk hasPre) pre i :=
  (L1d_searchEquiv k P hasPre bc sk).iter pre i

theorem L1d_overlap (k : MatchKind) (P : List (List UInt8)) (hasPre bc : Bool) (sk : StartKind)
    (pre : Option (Prefilter UInt8)) (i : Input UInt8) (n : Nat) :
    ovlCalls ((buildDfa (CNfa.compile k false P) sk bc).toAut k P hasPre) pre i n OState.start =
      ovlCalls (ideal k P sk hasPre) pre i n OState.start :=
  (L1d_searchEquiv k P hasPre bc sk).overlap pre i n

theorem L1d_overlap_iter (k : MatchKind) (P : List (List UInt8)) (hasPre bc : Bool) (sk : StartKind)
    (pre : Option (Prefilter UInt8)) (i : Input UInt8) (fuel : Nat) :
    ovlIterAux ((buildDfa (CNfa.compile k false P) sk bc).toAut k P hasPre) pre i fuel OState.start =
      ovlIterAux (ideal k P sk hasPre) pre i fuel OState.start :=
  (L1d_searchEquiv k P hasPre bc sk).overlap_iter pre i fuel

/-- … and the DFA meets the specification (standard semantics, C02) -/
theorem L1d_find_std (P : List (List UInt8)) (bc : Bool) (sk : StartKind) (i : Input UInt8)
    (h : supportsAnch sk i.anch) :
    ∃ r, tryFindFwd ((buildDfa (CNfa.compile .std false P) sk bc).toAut .std P false) none i =
        .ok r ∧ IsFind .std P i.hay i.s i.e i.anch r := by
  rw [L1d_find]
  exact C02_find P sk i h

/-! ## non-vacuity: `[1, 2]`, `[2]`, start kind `Both`, byte classes on

NFA states: 4 = `1`, 5 = `12`, 6 = `2`.  Classes: `0 ↦ 0`, `1 ↦ 1`, `2 ↦ 2`, everything else `3`.
DFA ids: 0 dead, 1 fail, 2 / 3 the start states, then (unanchored, anchored) = (4, 5) for `1`,
(6, 7) for `12`, (8, 9) for `2`. -/

/-- the anchored row of the node `1`: only the trie edge `2 ↦ 12` (anchored id 7), all else dead -/
example : ((buildDfa (CNfa.compile .std false [[1, 2], [2]]) .both true).rows.getD 5 #[]).toList =
    [0, 0, 7, 0] := by
  unfold buildDfa buildBoth dfaRow
  rw [classOfMarks_eq_classLt, sparseIter_eq_sparseIterReps]
  decide +kernel

/-- the unanchored row of the node `12`: byte `1` leads to `1` (id 4) through two failure links
resolved at build time, byte `2` to `2` (id 8), everything else to the unanchored start (id 2) -/
example : ((buildDfa (CNfa.compile .std false [[1, 2], [2]]) .both true).rows.getD 6 #[]).toList =
    [2, 4, 8, 2] := by
  unfold buildDfa buildBoth dfaRow
  rw [classOfMarks_eq_classLt, sparseIter_eq_sparseIterReps]
  decide +kernel

/-- the start states, and the match lists of the two copies of `12` -/
example : (buildDfa (CNfa.compile .std false [[1, 2], [2]]) .both true).startU = some 2 ∧
    (buildDfa (CNfa.compile .std false [[1, 2], [2]]) .both true).startA = some 3 ∧
    (buildDfa (CNfa.compile .std false [[1, 2], [2]]) .both true).matches_.toList =
      [[], [], [], [], [], [], [0, 1], [0, 1], [1], [1]] := by
  unfold buildDfa buildBoth dfaRow
  rw [classOfMarks_eq_classLt, sparseIter_eq_sparseIterReps]
  decide +kernel

end AcVerif
