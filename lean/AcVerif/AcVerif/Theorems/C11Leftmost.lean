import AcVerif.Theorems.C11
/-!
# C11 – case-insensitive search with the leftmost match kinds

The case-insensitive searcher (automaton of the folded patterns, input bytes
folded on the way in) returns THE leftmost-longest / leftmost-first answer of
the specification read on the folded patterns and the folded haystack, in
both anchoring modes.
-/
namespace AcVerif
open AcVerif.MiscP

theorem C11_find_ll (P : List (List UInt8)) (sk : StartKind) (i : Input UInt8)
    (he : i.earliest = false) (h : supportsAnch sk i.anch) :
    ∃ r, tryFindFwd ((ideal .ll (P.map (·.map foldByte)) sk false).comap foldByte) none i
          = .ok r ∧
       IsFind .ll (P.map (·.map foldByte)) (i.hay.map foldByte) i.s i.e i.anch r :=
  EngP.find_ideal_comap foldByte .ll P sk i (Or.inr he) h

theorem C11_find_lf (P : List (List UInt8)) (sk : StartKind) (i : Input UInt8)
    (he : i.earliest = false) (h : supportsAnch sk i.anch) :
    ∃ r, tryFindFwd ((ideal .lf (P.map (·.map foldByte)) sk false).comap foldByte) none i
          = .ok r ∧
       IsFind .lf (P.map (·.map foldByte)) (i.hay.map foldByte) i.s i.e i.anch r :=
  EngP.find_ideal_comap foldByte .lf P sk i (Or.inr he) h

end AcVerif
