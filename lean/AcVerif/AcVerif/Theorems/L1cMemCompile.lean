import AcVerif.Proofs.NfaMemCompileTop
import AcVerif.Theorems.L1cMemCompileDump
import AcVerif.Theorems.C20Build
import AcVerif.Proofs.SearchEquiv
/-!
# L1c-mem, assembly – `Compiler::compile` over the linked-list memory refines `CNfa.compile`

`AcVerif/NfaMemCompile.lean` runs the phases of `Compiler::compile` (`src/nfa/noncontiguous.rs`)
on the storage model of `AcVerif/NfaMem.lean`: the preamble, `build_trie`,
`set_anchored_start_state`, `add_unanchored_start_state_loop`, `fill_failure_transitions` (walking
the transition lists with `next_link`, the queue, the `QueuedSet`, the leftmost special cases, the
failure chase) and `close_start_state_loop_for_leftmost`.  For **every** match kind `k`, both values
of `fold` (`ascii_case_insensitive`) and every pattern list `P`:

* `L1cMem_compile_some` – the `unreachable!()` of `set_anchored_start_state` is not reached;
* `L1cMem_compile` – the result satisfies the representation invariant `MemOK` and represents
  exactly `zeroFail012 (CNfa.compile k fold P)`: the abstract automaton with the failure links of
  `DEAD`, `FAIL` and the unanchored start set to the crate's value `0` (`CNfa.init` has `SU`
  there; the three states are allocated before `special.start_unanchored_id` is assigned).
  `L1cMem_compile_pointwise` says the same state by state on `iter_trans`, `iter_matches`, `fail`;
* `L1cMem_unobservable` – no search can see the three links: the automaton read off the memory and
  `CNfa.compile` are `StartEquiv` (equal flags and equal ORDERED match lists after every input, both
  anchoring modes; `NFA::next_state` returns the same state with the same number of failure hops,
  `L1cMem_next_state`), hence equal results of every engine (`L1cMem_find`, `L1cMem_iter`,
  `L1cMem_overlap`) and all of L1c / L1cFold applies to the memory;
* `L1cMem_sizes` – the three vectors have exactly the lengths `BuildChecked.lean` tests:
  `states.len() = (compile ..).size`, `sparse.len() = sparseLen (buildTrie ..)`
  (`= sparseLen (compile ..)`), `matches.len() = matchesLen (compile ..)`; `L1cMem_trie_sizes` the
  same after `build_trie` (for every `P`, so after every prefix of the pattern list – the points at
  which `trieStepChecked` tests), `L1cMem_trieStep` for one round of the `'PATTERNS` loop from an
  arbitrary related pair.  `L1cMem_build_ok_iff` restates the success condition of the checked
  build (`C20_build_nnc_ok_iff_min`) on the actual vectors;
* `AcVerif/Theorems/L1cMemCompileDump.lean` – `nfa.sparse`, `nfa.matches`, `nfa.states` printed by the
  crate (before `shuffle`) for seven configurations are, cell for cell, the vectors of
  `MemNfa.compile`: tested there by `#guard`, no theorem.

Along the way four things that `Compiler.lean` takes for granted are proved for all inputs
(`AcVerif/Proofs/NfaMemCompile*.lean`, namespace `AcVerif.MemC`):
the case `none` of `L1cP.addPatternG_rule` (`AcVerif/Proofs/TrieRule.lean`: a pattern skipped under
leftmost-first has not allocated anything – the crate keeps the automaton as it is,
`CNfa.buildTrie` falls back to the one before the pattern),
`fillStartU_inert` (the inert `QueuedSet` of the first loop of `fill_failure_transitions` is as good
as the real set `CNfa.fillStart` uses: without case folding the start state's targets are pairwise
different), `forTrans_eq` (walking a list cell by cell while the body writes `fail` and `matches`
sees the list as it was when the loop started), and `L1cP.ChildOK` (established by
`L1cP.procChild_spec` at every call of the inner loop's body): `copy_matches(fail, next)` is never
called with `fail == next` – the case in which the crate's loop does not terminate
(`copy_self_diverges` in `Theorems/L1cMem.lean`) – because the failure target is the dead state or
a node strictly shorter than `next`.
-/
namespace AcVerif
open AcVerif.MemC AcVerif.CNfa AcVerif.BuildP

/-- the `unreachable!()` of `set_anchored_start_state` (noncontiguous.rs:1582) is never reached -/
theorem L1cMem_compile_some (k : MatchKind) (fold : Bool) (P : List (List UInt8)) :
    MemNfa.compile? k fold P = some (MemNfa.compile k fold P) :=
  (compile_rel k fold P).1

/-- the refinement relation holds for the compiled memory -/
theorem L1cMem_compile_Rel (k : MatchKind) (fold : Bool) (P : List (List UInt8)) :
    Rel (MemNfa.compile k fold P) (CNfa.compile k fold P) :=
  (compile_rel k fold P).2.1

/-- **`Compiler::compile` on the linked-list memory refines `CNfa.compile`**, exactly up to the
three failure links of `zeroFail012` -/
theorem L1cMem_compile (k : MatchKind) (fold : Bool) (P : List (List UInt8)) :
    MemOK (MemNfa.compile k fold P) ∧
    absNfa (MemNfa.compile k fold P) = zeroFail012 (CNfa.compile k fold P) :=
  ⟨(L1cMem_compile_Rel k fold P).ok, abs_eq_of_rel (L1cMem_compile_Rel k fold P)⟩

/-- the same, state by state, on what the crate's accessors return: `iter_trans(s)` and
`iter_matches(s)` yield the abstract lists, `states[s].fail` is the abstract failure link for
`s ≥ 3` and `0` for `DEAD`, `FAIL` and the unanchored start -/
theorem L1cMem_compile_pointwise (k : MatchKind) (fold : Bool) (P : List (List UInt8)) :
    (MemNfa.compile k fold P).states.size = (CNfa.compile k fold P).size ∧
    ∀ s, (MemNfa.compile k fold P).iterTrans s = ((CNfa.compile k fold P).getD s {}).trans ∧
      (s < (CNfa.compile k fold P).size →
        (MemNfa.compile k fold P).iterMatches s = ((CNfa.compile k fold P).getD s {}).matches_) ∧
      (3 ≤ s → s < (CNfa.compile k fold P).size →
        ((MemNfa.compile k fold P).st s).fail = ((CNfa.compile k fold P).getD s {}).fail) ∧
      (s < 3 → ((MemNfa.compile k fold P).st s).fail = 0) :=
  ⟨(L1cMem_compile_Rel k fold P).size, (L1cMem_compile_Rel k fold P).pointwise⟩

/-! ## no search sees the difference -/

/-- `NFA::next_state` on the memory's automaton and on `CNfa.compile`: same state, same number of
failure links followed, from every state except `FAIL` – and `FAIL` is never returned -/
theorem L1cMem_next_state (k : MatchKind) (fold : Bool) (P : List (List UInt8)) (anch : Bool)
    (fuel sid : Nat) (b : UInt8) (hops : Nat) (hs : sid ≠ CNfa.FAIL) :
    nextState (absNfa (MemNfa.compile k fold P)) anch fuel sid b hops =
      nextState (CNfa.compile k fold P) anch fuel sid b hops ∧
    (nextState (CNfa.compile k fold P) anch fuel sid b hops).1 ≠ CNfa.FAIL :=
  nextState_failEq (L1cMem_compile_Rel k fold P).eq (compile_rel k fold P).2.2 anch b fuel sid
    hops hs

/-- **the automaton stored in the memory and `CNfa.compile` are observationally equivalent**:
equal flags and equal ordered match lists after every input, from both start states -/
theorem L1cMem_unobservable (k : MatchKind) (fold : Bool) (P : List (List UInt8))
    (hasPre first anch : Bool) :
    StartEquiv ((absNfa (MemNfa.compile k fold P)).toAut k P hasPre)
      ((CNfa.compile k fold P).toAut k P hasPre) first anch :=
  startEquiv_failEq (L1cMem_compile_Rel k fold P).eq (compile_rel k fold P).2.2 k P hasPre first
    anch

/-- … and the two runs visit the same states, for either value of `fold` (`fold = true` is the
automaton `Theorems/L1cFold.lean` is about) -/
theorem L1cMem_run (k : MatchKind) (fold : Bool) (P : List (List UInt8)) (hasPre anch : Bool)
    (w : List UInt8) :
    ((absNfa (MemNfa.compile k fold P)).toAut k P hasPre).runFrom anch
        (if anch then CNfa.SA else CNfa.SU) w =
      ((CNfa.compile k fold P).toAut k P hasPre).runFrom anch
        (if anch then CNfa.SA else CNfa.SU) w :=
  run_failEq (L1cMem_compile_Rel k fold P).eq (compile_rel k fold P).2.2 k P hasPre anch w _
    (by cases anch <;> decide)

theorem L1cMem_searchEquiv (k : MatchKind) (fold : Bool) (P : List (List UInt8))
    (hasPre : Bool) :
    SearchEquiv ((absNfa (MemNfa.compile k fold P)).toAut k P hasPre)
      ((CNfa.compile k fold P).toAut k P hasPre) :=
  ⟨rfl, fun _ => rfl, L1cMem_unobservable k fold P hasPre false⟩

theorem L1cMem_find (k : MatchKind) (fold : Bool) (P : List (List UInt8)) (hasPre : Bool)
    (pre : Option (Prefilter UInt8)) (i : Input UInt8) :
    tryFindFwd ((absNfa (MemNfa.compile k fold P)).toAut k P hasPre) pre i =
      tryFindFwd ((CNfa.compile k fold P).toAut k P hasPre) pre i :=
  (L1cMem_searchEquiv k fold P hasPre).find pre i

theorem L1cMem_iter (k : MatchKind) (fold : Bool) (P : List (List UInt8)) (hasPre : Bool)
    (pre : Option (Prefilter UInt8)) (i : Input UInt8) :
    findIter ((absNfa (MemNfa.compile k fold P)).toAut k P hasPre) pre i =
      findIter ((CNfa.compile k fold P).toAut k P hasPre) pre i :=
  (L1cMem_searchEquiv k fold P hasPre).iter pre i

theorem L1cMem_overlap (k : MatchKind) (fold : Bool) (P : List (List UInt8)) (hasPre : Bool)
    (pre : Option (Prefilter UInt8)) (i : Input UInt8) (n : Nat) :
    ovlCalls ((absNfa (MemNfa.compile k fold P)).toAut k P hasPre) pre i n OState.start =
      ovlCalls ((CNfa.compile k fold P).toAut k P hasPre) pre i n OState.start :=
  (L1cMem_searchEquiv k fold P hasPre).overlap pre i n

/-! ## the lengths of the vectors -/

/-- after `build_trie` (for every pattern list, hence after every prefix of one: these are the
lengths `trieStepChecked` compares with the limits) -/
theorem L1cMem_trie_sizes (k : MatchKind) (fold : Bool) (P : List (List UInt8)) :
    MemOK (MemNfa.init.buildTrie k fold 2 P) ∧
    (MemNfa.init.buildTrie k fold 2 P).states.size = (buildTrie k fold P).size ∧
    (MemNfa.init.buildTrie k fold 2 P).sparse.size = sparseLen (buildTrie k fold P) ∧
    (MemNfa.init.buildTrie k fold 2 P).matches_.size = matchesLen (buildTrie k fold P) :=
  ⟨(sim_buildTrie k fold P).ok, (sim_buildTrie k fold P).sizes⟩

/-- one round of the `'PATTERNS` loop, from any memory that refines an automaton with the trie
shape (`TI`): the memory after the round refines `trieStep` and has its lengths -/
theorem L1cMem_trieStep (k : MatchKind) (fold : Bool) {m : MemNfa} {n : CNfa} {d : Nat → Nat}
    (h : Rel m n) (hT : TI fold n d) (x : List UInt8 × Nat) :
    Rel (memTrieStep k fold m x) (trieStep k fold n x) ∧
    (memTrieStep k fold m x).states.size = (trieStep k fold n x).size ∧
    (memTrieStep k fold m x).sparse.size = sparseLen (trieStep k fold n x) ∧
    (memTrieStep k fold m x).matches_.size = matchesLen (trieStep k fold n x) :=
  ⟨sim_trieStep k fold h hT x, (sim_trieStep k fold h hT x).sizes⟩

/-- **the final vectors**: `nfa.sparse` has the length reached in `build_trie` (no later phase
allocates a transition), `nfa.matches` the final `matchesLen` -/
theorem L1cMem_sizes (k : MatchKind) (fold : Bool) (P : List (List UInt8)) :
    (MemNfa.compile k fold P).states.size = (CNfa.compile k fold P).size ∧
    (MemNfa.compile k fold P).sparse.size = sparseLen (buildTrie k fold P) ∧
    (MemNfa.compile k fold P).sparse.size = sparseLen (CNfa.compile k fold P) ∧
    (MemNfa.compile k fold P).matches_.size = matchesLen (CNfa.compile k fold P) := by
  obtain ⟨s1, s2, s3⟩ := (L1cMem_compile_Rel k fold P).sizes
  exact ⟨s1, s2.trans (compile_sparseLen k fold P), s2, s3⟩

/-- the abstract compiler does not change the number of stored transitions after `build_trie` -/
theorem sparseLen_compile (k : MatchKind) (fold : Bool) (P : List (List UInt8)) :
    sparseLen (CNfa.compile k fold P) = sparseLen (buildTrie k fold P) :=
  compile_sparseLen k fold P

/-- **the limit checks of the checked build are checks on the actual vectors**: the noncontiguous
build succeeds iff the pattern-id and pattern-length tests pass, `nfa.sparse` and `nfa.matches` of the
memory model end within the `StateID` limit, and `densify` can allocate its rows -/
theorem L1cMem_build_ok_iff (L : Limits) (k : MatchKind) (fold : Bool) (dd : Nat)
    (P : List (List UInt8)) (n : CNfa) :
    compileChecked L k fold dd P = .ok n ↔
      n = CNfa.compile k fold P ∧
      P.length ≤ L.patternIdLimit ∧ (∀ p ∈ P, p.length ≤ L.smallIndexMax) ∧
      (MemNfa.compile k fold P).sparse.size ≤ L.stateIdLimit ∧
      (MemNfa.compile k fold P).matches_.size ≤ L.stateIdLimit ∧
      denseAllocOk L (CNfa.compile k fold P) dd = true := by
  obtain ⟨_, h2, _, h4⟩ := L1cMem_sizes k fold P
  rw [C20_build_nnc_ok_iff_min, h2, h4]

/-! ## examples (kernel) -/

section Examples

/-- the crate's value of the three links is really different from `CNfa.init`'s … -/
example : ((zeroFail012 (CNfa.compile .std false [[1, 2], [2]])).toList.map (·.fail)) =
    [0, 0, 0, 0, 2, 6, 2] ∧
    ((CNfa.compile .std false [[1, 2], [2]]).toList.map (·.fail)) = [2, 2, 2, 0, 2, 6, 2] := by
  decide +kernel

/-- … and the theorems turn kernel evaluations of the abstract compiler into facts about the
memory (on which the kernel itself is slow: the 768 allocations of the preamble): for `12`, `2` the
node of `12` (state 5) lists pattern 0, then – inherited through its failure link to state 6 –
pattern 1; `nfa.sparse` has `1 + 3·256 + 1` entries (only `1 → 12` allocates; the two start
transitions overwrite) and `nfa.matches` `1 + 3` -/
example :
    (MemNfa.compile .std false [[1, 2], [2]]).iterMatches 5 = [0, 1] ∧
    ((MemNfa.compile .std false [[1, 2], [2]]).st 5).fail = 6 ∧
    (MemNfa.compile .std false [[1, 2], [2]]).iterTrans 4 = [(2, 5)] ∧
    (MemNfa.compile .std false [[1, 2], [2]]).states.size = 7 ∧
    (MemNfa.compile .std false [[1, 2], [2]]).sparse.size = 770 ∧
    (MemNfa.compile .std false [[1, 2], [2]]).matches_.size = 4 := by
  obtain ⟨hsz, hp⟩ := L1cMem_compile_pointwise .std false [[1, 2], [2]]
  obtain ⟨s1, s2, _, s4⟩ := L1cMem_sizes .std false [[1, 2], [2]]
  have e : (CNfa.compile .std false [[1, 2], [2]]).size = 7 := by decide +kernel
  rw [(hp 5).2.1 (by rw [e]; decide), (hp 5).2.2.1 (by decide) (by rw [e]; decide), (hp 4).1, s1, s2,
    s4]
  decide +kernel

end Examples

end AcVerif
