import AcVerif.Proofs.Layers
import AcVerif.Proofs.ContigRun
import AcVerif.Proofs.SearchEquiv
import AcVerif.Proofs.NfaLive
import AcVerif.Theorems.L1d
import AcVerif.Proofs.TableEval
/-!
# L1e – the word-level contiguous NFA agrees with the noncontiguous NFA it was built from

`buildContig N dd bc hasPre` (`noncontiguous::Compiler::shuffle`: match states first, then the two
start states; `contiguous::Builder::build_from_noncontiguous`: `State::write` with its dense /
one-transition / sparse layouts, classes packed four to a word with the last class repeated as
padding, the match list inline (`2^31 + pid`) or length-prefixed, `State::remap` through the
offset table) applied to the compiled noncontiguous NFA `N = CNfa.compile k false P`, read back
by the contiguous `next_state` (three state kinds, failure link in the second word), `is_match` /
`is_special` by id range and `match_len` / `match_pattern` on the words, is for **every** pattern
list, match kind, dense depth, both settings of `byte_classes`, with or without prefilter, and
both anchoring modes observationally equivalent to `N` (`L1e_obsEquiv`), follows exactly as many
failure links (`L1e_hops`), and hence (with L1c) is equivalent to the ideal automaton
(`L1e_ideal`), so every search result transfers (`L1e_find`, `L1e_iter`, `L1e_overlap`,
`L1e_overlap_iter`).  The `L1eG_*` versions take `fold : Bool` (`ascii_case_insensitive`) and compare
with the ideal automaton of the folded patterns fed folded bytes (`Aut.comap`); `L1eG_live`,
`L1eG_start`, `L1eG_obsEquiv`, `L1eG_obsEquiv_ideal`, `L1eG_searchEquiv` are in
`Proofs/Layers.lean`.

The only size hypothesis is `P.length < 2^31`: the model stores natural numbers, so offsets,
classes and pattern ids always "fit"; but a match list with at least two entries is stored as
`length :: ids` and decoded as such only if `length < 2^31` (a first word `≥ 2^31` is read as a
single inline pattern id).  A match list has at most `P.length` entries (`out_length_le`).
`L1e_hops` needs no hypothesis.

Proof (`AcVerif/Proofs/Contig*.lean`, namespace `AcVerif.L1eP`): the simulation `q = cNewId … s` is
proved for any NFA `N` with a set of states `V` that is closed under `next_state` (`NLive`, as for
L1c-ids) and whose transition lists can be stored by byte class (`CLive`).  The shuffle is a
permutation (`shufOK`), so the words at `cNewId … s` are `State::write` of `s` (`slice_state`) and
no state has offset 1, the `FAIL` sentinel of dense rows (`cNewId_ne_one`); the lookup in these
words is `follow` (`decode_found`; `sparseIdx_spec`: padding never matches first) and the second
word is the failure link (`decode_fail`), hence `CLive.nextState` (hop by hop), `contig_step`,
`contig_run`; the flags by id range (`RangeId`, `rangeId_cNewId`) and the decoded match list
(`decode_matches`) give `CLive.obs` and `contig_obsEquiv`.  The compiled NFA provides both:
`compile_specX` (`NfaSpec` plus the list-level facts `FX`: sorted transition lists, no `FAIL`
targets at trie nodes, full start states), `CLive_of_spec`, `NLive_of_spec`.
-/
namespace AcVerif
open AcVerif.L1cP AcVerif.L1dP AcVerif.L1eP AcVerif.L1cIdsP AcVerif.CNfa

/-! ## for both settings of `ascii_case_insensitive` -/

theorem L1eG_run (k : MatchKind) (fold : Bool) (P : List (List UInt8)) (hasPre bc : Bool)
    (dd : Nat) (anch : Bool) (w : List UInt8) :
    ∃ L q', NfaSpec (foldIf fold) k (patSet k (P.map (List.map (foldIf fold)))) L
        (CNfa.compile k fold P) ∧ FX L (CNfa.compile k fold P) ∧
      Rel L anch (((CNfa.compile k fold P).toAut k P hasPre).runFrom anch
        (if anch then CNfa.SA else CNfa.SU) w) q' ∧
      ((buildContig (CNfa.compile k fold P) dd bc hasPre).toAut k P hasPre).runFrom anch
          (if anch then (buildContig (CNfa.compile k fold P) dd bc hasPre).startA
            else (buildContig (CNfa.compile k fold P) dd bc hasPre).startU) w =
        cNewId (CNfa.compile k fold P) dd bc
          (((CNfa.compile k fold P).toAut k P hasPre).runFrom anch
            (if anch then CNfa.SA else CNfa.SU) w) := by
  obtain ⟨L, h, hX, hL, hC⟩ := L1eG_live k fold P bc anch
  obtain ⟨⟨q', h1⟩, h2⟩ := contig_run hL hC dd hasPre k P w _ hL.start
  exact ⟨L, q', h, hX, h1, by rw [L1eG_start, buildContig_eq]; exact h2⟩

theorem L1eG_hops (k : MatchKind) (fold : Bool) (P : List (List UInt8)) (hasPre bc : Bool)
    (dd : Nat) (w : List UInt8) (c : UInt8) :
    ((buildContig (CNfa.compile k fold P) dd bc hasPre).nextState false
        ((buildContig (CNfa.compile k fold P) dd bc hasPre).repr.size + 1)
        (((buildContig (CNfa.compile k fold P) dd bc hasPre).toAut k P hasPre).runFrom false
          (buildContig (CNfa.compile k fold P) dd bc hasPre).startU w) c (0, 0)).2 =
      (CNfa.nextState (CNfa.compile k fold P) false ((CNfa.compile k fold P).size + 1)
        (((CNfa.compile k fold P).toAut k P hasPre).runFrom false CNfa.SU w) c 0).2 := by
  obtain ⟨L, _, _, hL, hC⟩ := L1eG_live k fold P bc false
  obtain ⟨h1, h2⟩ := contig_run hL hC dd hasPre k P w CNfa.SU hL.start
  have h0 := L1eG_start k fold P hasPre bc dd false
  simp only [Bool.false_eq_true, if_false] at h0
  rw [h0, buildContig_eq, h2, contig_step hL hC dd hasPre h1 c]

theorem L1eG_next (k : MatchKind) (fold : Bool) (P : List (List UInt8)) (hasPre bc : Bool)
    (dd : Nat) (anch : Bool) (w : List UInt8) (c : UInt8) :
    ((buildContig (CNfa.compile k fold P) dd bc hasPre).toAut k P hasPre).next anch
        (((buildContig (CNfa.compile k fold P) dd bc hasPre).toAut k P hasPre).runFrom anch
          (if anch then (buildContig (CNfa.compile k fold P) dd bc hasPre).startA
            else (buildContig (CNfa.compile k fold P) dd bc hasPre).startU) w) c =
      cNewId (CNfa.compile k fold P) dd bc
        (((CNfa.compile k fold P).toAut k P hasPre).next anch
          (((CNfa.compile k fold P).toAut k P hasPre).runFrom anch
            (if anch then CNfa.SA else CNfa.SU) w) c) := by
  obtain ⟨L, _, _, hL, hC⟩ := L1eG_live k fold P bc anch
  obtain ⟨h1, h2⟩ := contig_run hL hC dd hasPre k P w (if anch then CNfa.SA else CNfa.SU) hL.start
  rw [L1eG_start, buildContig_eq, h2, toAut_next, contig_step hL hC dd hasPre h1 c,
    cnfa_toAut_next]

/-! ## without case folding -/

theorem L1e_live (k : MatchKind) (P : List (List UInt8)) (bc anch : Bool) :
    ∃ L, FS k (patSet k P) L (CNfa.compile k false P) ∧ FX L (CNfa.compile k false P) ∧
      NLive (CNfa.compile k false P) anch (RelV L anch) ∧
      CLive (CNfa.compile k false P) bc (RelV L anch) := by
  obtain ⟨L, h, hX, hL, hC⟩ := L1eG_live k false P bc anch
  rw [List.map_id'' map_foldIf_false] at h
  exact ⟨L, h.toFS, hX, hL, hC⟩

theorem L1e_start (k : MatchKind) (P : List (List UInt8)) (hasPre bc : Bool) (dd : Nat) (anch : Bool) :
    (if anch then (buildContig (CNfa.compile k false P) dd bc hasPre).startA
      else (buildContig (CNfa.compile k false P) dd bc hasPre).startU) =
      cNewId (CNfa.compile k false P) dd bc (if anch then CNfa.SA else CNfa.SU) :=
  L1eG_start k false P hasPre bc dd anch

/-- the run of the contiguous NFA is the image under `cNewId` of the run of the noncontiguous NFA,
which stays in the simulation relation of L1c -/
theorem L1e_run (k : MatchKind) (P : List (List UInt8)) (hasPre bc : Bool) (dd : Nat) (anch : Bool)
    (w : List UInt8) :
    ∃ L q', FS k (patSet k P) L (CNfa.compile k false P) ∧ FX L (CNfa.compile k false P) ∧
      Rel L anch (((CNfa.compile k false P).toAut k P hasPre).runFrom anch
        (if anch then CNfa.SA else CNfa.SU) w) q' ∧
      ((buildContig (CNfa.compile k false P) dd bc hasPre).toAut k P hasPre).runFrom anch
          (if anch then (buildContig (CNfa.compile k false P) dd bc hasPre).startA
            else (buildContig (CNfa.compile k false P) dd bc hasPre).startU) w =
        cNewId (CNfa.compile k false P) dd bc
          (((CNfa.compile k false P).toAut k P hasPre).runFrom anch
            (if anch then CNfa.SA else CNfa.SU) w) := by
  obtain ⟨L, q', h, hX, h1, h2⟩ := L1eG_run k false P hasPre bc dd anch w
  rw [List.map_id'' map_foldIf_false] at h
  exact ⟨L, q', h.toFS, hX, h1, h2⟩

/-- the contiguous NFA equals the noncontiguous NFA it was built from, observationally (flags by
id range, ordered match lists decoded from the words), for both anchoring modes -/
theorem L1e_obsEquiv (k : MatchKind) (P : List (List UInt8)) (hasPre bc : Bool) (dd : Nat)
    (hP : P.length < 2147483648) (anch : Bool) :
    ObsEquiv ((buildContig (CNfa.compile k false P) dd bc hasPre).toAut k P hasPre)
      ((CNfa.compile k false P).toAut k P hasPre) false anch
      (if anch then (buildContig (CNfa.compile k false P) dd bc hasPre).startA
        else (buildContig (CNfa.compile k false P) dd bc hasPre).startU)
      (if anch then CNfa.SA else CNfa.SU) :=
  L1eG_obsEquiv k false P hasPre bc dd hP anch

/-- the contiguous `next_state` follows exactly as many failure links as the noncontiguous one (the
second component of `nextState` counts them) -/
theorem L1e_hops (k : MatchKind) (P : List (List UInt8)) (hasPre bc : Bool) (dd : Nat)
    (w : List UInt8) (c : UInt8) :
    ((buildContig (CNfa.compile k false P) dd bc hasPre).nextState false
        ((buildContig (CNfa.compile k false P) dd bc hasPre).repr.size + 1)
        (((buildContig (CNfa.compile k false P) dd bc hasPre).toAut k P hasPre).runFrom false
          (buildContig (CNfa.compile k false P) dd bc hasPre).startU w) c (0, 0)).2 =
      (CNfa.nextState (CNfa.compile k false P) false ((CNfa.compile k false P).size + 1)
        (((CNfa.compile k false P).toAut k P hasPre).runFrom false CNfa.SU w) c 0).2 :=
  L1eG_hops k false P hasPre bc dd w c

/-- the state the contiguous `next_state` reaches is the new id of the state the noncontiguous NFA
reaches -/
theorem L1e_next (k : MatchKind) (P : List (List UInt8)) (hasPre bc : Bool) (dd : Nat) (anch : Bool)
    (w : List UInt8) (c : UInt8) :
    ((buildContig (CNfa.compile k false P) dd bc hasPre).toAut k P hasPre).next anch
        (((buildContig (CNfa.compile k false P) dd bc hasPre).toAut k P hasPre).runFrom anch
          (if anch then (buildContig (CNfa.compile k false P) dd bc hasPre).startA
            else (buildContig (CNfa.compile k false P) dd bc hasPre).startU) w) c =
      cNewId (CNfa.compile k false P) dd bc
        (((CNfa.compile k false P).toAut k P hasPre).next anch
          (((CNfa.compile k false P).toAut k P hasPre).runFrom anch
            (if anch then CNfa.SA else CNfa.SU) w) c) :=
  L1eG_next k false P hasPre bc dd anch w c

/-- composed with L1c: equivalent to the ideal automaton -/
theorem L1e_obsEquiv_ideal (k : MatchKind) (P : List (List UInt8)) (hasPre bc : Bool) (dd : Nat)
    (hP : P.length < 2147483648) (anch : Bool) :
    ObsEquiv ((buildContig (CNfa.compile k false P) dd bc hasPre).toAut k P hasPre)
      (ideal k P .both hasPre) false anch
      (if anch then (buildContig (CNfa.compile k false P) dd bc hasPre).startA
        else (buildContig (CNfa.compile k false P) dd bc hasPre).startU) (.at []) := by
  have := L1eG_obsEquiv_ideal k false P hasPre bc dd hP anch
  rwa [List.map_id'' map_foldIf_false] at this

theorem L1e_searchEquiv (k : MatchKind) (P : List (List UInt8)) (hasPre bc : Bool) (dd : Nat)
    (hP : P.length < 2147483648) :
    SearchEquiv ((buildContig (CNfa.compile k false P) dd bc hasPre).toAut k P hasPre)
      (ideal k P .both hasPre) := by
  have := L1eG_searchEquiv k false P hasPre bc dd hP
  rwa [List.map_id'' map_foldIf_false] at this

/-- hence `StartEquiv`, so every engine result transfers -/
theorem L1e_ideal (k : MatchKind) (P : List (List UInt8)) (hasPre bc : Bool) (dd : Nat)
    (hP : P.length < 2147483648) (anch : Bool) :
    StartEquiv ((buildContig (CNfa.compile k false P) dd bc hasPre).toAut k P hasPre)
      (ideal k P .both hasPre) false anch :=
  (L1e_searchEquiv k P hasPre bc dd hP).start anch

/-! ## corollaries: every search result transfers -/

theorem L1e_find (k : MatchKind) (P : List (List UInt8)) (hasPre bc : Bool) (dd : Nat)
    (hP : P.length < 2147483648) (pre : Option (Prefilter UInt8)) (i : Input UInt8) :
    tryFindFwd ((buildContig (CNfa.compile k false P) dd bc hasPre).toAut k P hasPre) pre i =
      tryFindFwd (ideal k P .both hasPre) pre i :=
  (L1e_searchEquiv k P hasPre bc dd hP).find pre i

theorem L1e_iter (k : MatchKind) (P : List (List UInt8)) (hasPre bc : Bool) (dd : Nat)
    (hP : P.length < 2147483648) (pre : Option (Prefilter UInt8)) (i : Input UInt8) :
    findIter ((buildContig (CNfa.compile k false P) dd bc hasPre).toAut k P hasPre) pre i =
      findIter (ideal k P .both hasPre) pre i :=
  (L1e_searchEquiv k P hasPre bc dd hP).iter pre i

theorem L1e_overlap (k : MatchKind) (P : List (List UInt8)) (hasPre bc : Bool) (dd : Nat)
    (hP : P.length < 2147483648) (pre : Option (Prefilter UInt8)) (i : Input UInt8) (n : Nat) :
    ovlCalls ((buildContig (CNfa.compile k false P) dd bc hasPre).toAut k P hasPre) pre i n
        OState.start =
      ovlCalls (ideal k P .both hasPre) pre i n OState.start :=
  (L1e_searchEquiv k P hasPre bc dd hP).overlap pre i n

theorem L1e_overlap_iter (k : MatchKind) (P : List (List UInt8)) (hasPre bc : Bool) (dd : Nat)
    (hP : P.length < 2147483648) (pre : Option (Prefilter UInt8)) (i : Input UInt8) (fuel : Nat) :
    ovlIterAux ((buildContig (CNfa.compile k false P) dd bc hasPre).toAut k P hasPre) pre i fuel
        OState.start =
      ovlIterAux (ideal k P .both hasPre) pre i fuel OState.start :=
  (L1e_searchEquiv k P hasPre bc dd hP).overlap_iter pre i fuel

/-- the contiguous NFA meets the specification (standard semantics, C02) -/
theorem L1e_find_std (P : List (List UInt8)) (bc : Bool) (dd : Nat) (hP : P.length < 2147483648)
    (i : Input UInt8) :
    ∃ r, tryFindFwd ((buildContig (CNfa.compile .std false P) dd bc false).toAut .std P false) none i =
        .ok r ∧ IsFind .std P i.hay i.s i.e i.anch r := by
  rw [L1e_find _ _ _ _ _ hP]
  exact C02_find P .both i (Or.inl rfl)

/-! ## non-vacuity: `[1, 2]`, `[2]`, dense depth 0, byte classes on, no prefilter

Classes: `0 ↦ 0`, `1 ↦ 1`, `2 ↦ 2`, everything else `3` (alphabet length 4).  Shuffled order
(new position → old id): `0, 1, 5, 6, 2, 3, 4`.  Words:
offset 0 the dead state (dense), 6 the node `12` (sparse, no transition, two matches `0, 1` with a
length prefix), 11 the node `2` (one inline match `2^31 + 1`), 14 / 20 the unanchored / anchored
start state (dense; in the anchored one `1` = `FAIL` marks "no transition"), 26 the node `1`
(`KIND_ONE`, class 2 in bits 8–15, target 6). -/

example : (buildContig (CNfa.compile .std false [[1, 2], [2]]) 0 true false).repr.toList =
    [255, 14, 0, 0, 0, 0,  0, 11, 2, 0, 1,  0, 14, 2147483649,  255, 14, 14, 26, 11, 14,
      255, 0, 1, 26, 11, 1,  766, 14, 6] := by
  rw [buildContig, classOfMarks_eq_classLt, writeState_eq_denseSkip]
  decide +kernel

example :
    let m := buildContig (CNfa.compile .std false [[1, 2], [2]]) 0 true false
    (m.startU, m.startA, m.maxMatchId, m.maxSpecialId, m.alphabetLen) = (14, 20, 11, 11, 4) := by
  rw [buildContig, classOfMarks_eq_classLt, writeState_eq_denseSkip]
  decide +kernel

/-- after `1 2` the automaton is at offset 6 (the node `12`), which lists patterns 0 and 1; on
byte `1` it follows two failure links (6 → 11 → 14) and lands on the node `1` at offset 26 -/
example :
    let m := buildContig (CNfa.compile .std false [[1, 2], [2]]) 0 true false
    (m.toAut .std [[1, 2], [2]] false).runFrom false m.startU [1, 2] = 6 ∧
      m.matchList 6 = [0, 1] ∧ m.nextState false (m.repr.size + 1) 6 1 (0, 0) = (26, 2) := by
  rw [buildContig, classOfMarks_eq_classLt, writeState_eq_denseSkip]
  decide +kernel

end AcVerif
