import AcVerif.Theorems.C02
import AcVerif.Proofs.IterFacts
/-!
# C02 – standard semantics, the non-overlapping iterator

`find_iter` (Lean `findIter`) on the ideal standard automaton (no prefilter) yields exactly the
specification's iterator `iterSpec` over *the* standard answers of the
restarted searches: repeat the search from the end of the previous match; an
empty match at the previous match's end is replaced by the search from one
position later.  Consequences (`C02_iter_props`, from `Proofs/IterFacts.lean`): the
yielded matches are occurrences with strictly increasing ends, and each starts at or
after the end of the previous one.  (That the iterator's bound on the number of matches
is never reached is `MiscP.iter_fuel_any` there.)
-/
namespace AcVerif
open AcVerif.StdP AcVerif.MiscP
variable {α : Type} [DecidableEq α]

theorem C02_iter (P : List (List α)) (sk : StartKind) (i : Input α)
    (h : supportsAnch sk i.anch) :
    ∃ F, (∀ st, st ≤ i.e + 1 → IsFind .std P i.hay st i.e i.anch (F st)) ∧
      findIter (ideal .std P sk false) none i = .ok (iterSpec F i.s i.e) :=
  EngP.iter_ideal .std P sk i (Or.inl rfl) h

theorem C02_iter_props (P : List (List α)) (sk : StartKind) (i : Input α)
    (h : supportsAnch sk i.anch) :
    ∃ l, findIter (ideal .std P sk false) none i = .ok l ∧
      (∀ m ∈ l, IsOcc P i.hay i.s i.e m) ∧
      l.Pairwise (fun a b => a.stop < b.stop) ∧
      l.Pairwise (fun a b => a.stop ≤ b.start) :=
  EngP.iter_ideal_props .std P sk i (Or.inl rfl) h

/-! ## non-vacuity -/

private def ex1 : Input Nat := ⟨[0, 1, 2, 1, 2], 0, 5, false, false, by decide⟩

example : ∃ F, (∀ st, st ≤ ex1.e + 1 → IsFind .std [[1, 2], [2]] ex1.hay st ex1.e ex1.anch (F st)) ∧
    findIter (ideal .std [[1, 2], [2]] .both false) none ex1 = .ok (iterSpec F ex1.s ex1.e) :=
  C02_iter _ _ ex1 (Or.inl rfl)

end AcVerif
