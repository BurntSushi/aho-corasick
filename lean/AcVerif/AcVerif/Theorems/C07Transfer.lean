import AcVerif.Proofs.StreamTransfer
import AcVerif.Theorems.C18
import AcVerif.Theorems.L1dIds
import AcVerif.Theorems.L1cDense
import AcVerif.Proofs.TableEval
/-!
# C07 / C08 / C18 transferred to the compiled automata

`StreamChunkIter::next` reads of the automaton only `next_state(Anchored::No, ·, ·)`,
`is_match(sid)` and `get_match(sid, 0, ·)` (first listed pattern and its length);
`StreamChunkIter::new` reads the match kind, the minimum and maximum pattern length and the
unanchored start state.  It never reads `is_special`, `is_dead` or `is_start`.  Hence

* `C07_stream_transfer`, `C08_stream_replace_transfer`: two automaton records with equal kind,
  pattern lengths, min/max lengths and `StartEquiv · · true false` (first-pattern strength
  suffices; whole-list `StartEquiv · · false false` implies it) give **equal** `streamFind` /
  `streamReplaceWith` results for every reader (any schedule, with or without a fault), writer
  and buffer constants.  (`*_match`: the same under the weaker `StreamX.MStart`, which ignores
  `special` / `dead`.)
* `C07_stream_hasPre`, `C08_stream_replace_hasPre`: on the ideal automaton the stream search does
  not depend on the `hasPre` flag (which only changes `is_special` of the start state).
* `StreamTied X P sk` (`Proofs/StreamTransfer.lean`): what the stream search reads of `X` agrees
  with `ideal .std P sk false`; for a tied automaton `streamFind` / `streamReplaceWith` may be
  rewritten to those of the ideal automaton (`StreamTied.streamFind`,
  `StreamTied.streamReplaceWith`), so the C07 / C08 / C18 statements hold verbatim.
* The transcribed builders are tied for **every** pattern list (`L1c_tied`, `L1cDense_tied`,
  `L1d_tied`, `L1dIds_tied`, `L1e_tied`, from each layer's `*_searchEquiv` by
  `StreamTied.of_searchEquiv`), both settings of the prefilter flag and of `byte_classes`, every
  dense depth, and every start kind supporting unanchored search; so the stream theorems hold for
  the compiled noncontiguous NFA (with sparse or dense rows), the DFA (model level and id level)
  and the contiguous NFA: `L1c_stream`, `L1d_stream`, … , `L1e_write_fault`.

The hypothesis `hcap` is literally that of `C07_stream_eq_iter`; `(ideal .std P sk false).maxLen`
is definitionally the `maxLen` of every `toAut` record (`(P.map List.length).foldl max 0`).
-/
namespace AcVerif
open AcVerif.StreamX AcVerif.StreamP AcVerif.StdP AcVerif.CNfa

/-! ## the transfer theorems -/

section transfer
variable {σ τ α : Type}

/-- the stream search depends on the automaton only through its observations -/
theorem C07_stream_transfer (A : Aut σ α) (B : Aut τ α)
    (hk : A.kind = B.kind) (hl : ∀ pid, A.patLen pid = B.patLen pid)
    (hmin : A.minLen = B.minLen) (hmax : A.maxLen = B.maxLen)
    (h : StartEquiv A B true false)
    (rdr : Reader α) (spare : Option Nat) (minFactor defaultCap : Nat) :
    streamFind A rdr spare minFactor defaultCap = streamFind B rdr spare minFactor defaultCap :=
  StreamTiedTo.streamFind ⟨hk, hl, hmin, hmax, MStart.of_startEquiv h⟩ rdr spare minFactor defaultCap

theorem C08_stream_replace_transfer (A : Aut σ α) (B : Aut τ α)
    (hk : A.kind = B.kind) (hl : ∀ pid, A.patLen pid = B.patLen pid)
    (hmin : A.minLen = B.minLen) (hmax : A.maxLen = B.maxLen)
    (h : StartEquiv A B true false)
    (rdr : Reader α) (spare : Option Nat) (minFactor defaultCap : Nat)
    (w : Writer α) (repl : Mat → List α) :
    streamReplaceWith A rdr spare w repl minFactor defaultCap =
      streamReplaceWith B rdr spare w repl minFactor defaultCap :=
  StreamTiedTo.streamReplaceWith ⟨hk, hl, hmin, hmax, MStart.of_startEquiv h⟩ rdr spare w repl
    minFactor defaultCap

/-- … in fact only through `is_match` and the first listed pattern of the states reachable from
the unanchored start state (`special` / `dead` / `is_start` are not read) -/
theorem C07_stream_transfer_match (A : Aut σ α) (B : Aut τ α)
    (hk : A.kind = B.kind) (hl : ∀ pid, A.patLen pid = B.patLen pid)
    (hmin : A.minLen = B.minLen) (hmax : A.maxLen = B.maxLen) (h : MStart A B)
    (rdr : Reader α) (spare : Option Nat) (minFactor defaultCap : Nat) :
    streamFind A rdr spare minFactor defaultCap = streamFind B rdr spare minFactor defaultCap :=
  StreamTiedTo.streamFind ⟨hk, hl, hmin, hmax, h⟩ rdr spare minFactor defaultCap

theorem C08_stream_replace_transfer_match (A : Aut σ α) (B : Aut τ α)
    (hk : A.kind = B.kind) (hl : ∀ pid, A.patLen pid = B.patLen pid)
    (hmin : A.minLen = B.minLen) (hmax : A.maxLen = B.maxLen) (h : MStart A B)
    (rdr : Reader α) (spare : Option Nat) (minFactor defaultCap : Nat)
    (w : Writer α) (repl : Mat → List α) :
    streamReplaceWith A rdr spare w repl minFactor defaultCap =
      streamReplaceWith B rdr spare w repl minFactor defaultCap :=
  StreamTiedTo.streamReplaceWith ⟨hk, hl, hmin, hmax, h⟩ rdr spare w repl minFactor defaultCap

end transfer

/-! ## the prefilter flag of the ideal automaton is not read -/

section ideal
variable {σ α : Type} [DecidableEq α]

theorem C07_stream_hasPre (k : MatchKind) (P : List (List α)) (sk : StartKind) (hp hp' : Bool)
    (rdr : Reader α) (spare : Option Nat) (minFactor defaultCap : Nat) :
    streamFind (ideal k P sk hp) rdr spare minFactor defaultCap =
      streamFind (ideal k P sk hp') rdr spare minFactor defaultCap :=
  (ideal_tied_hasPre k P sk hp hp').streamFind rdr spare minFactor defaultCap

theorem C08_stream_replace_hasPre (k : MatchKind) (P : List (List α)) (sk : StartKind)
    (hp hp' : Bool) (rdr : Reader α) (spare : Option Nat) (minFactor defaultCap : Nat)
    (w : Writer α) (repl : Mat → List α) :
    streamReplaceWith (ideal k P sk hp) rdr spare w repl minFactor defaultCap =
      streamReplaceWith (ideal k P sk hp') rdr spare w repl minFactor defaultCap :=
  (ideal_tied_hasPre k P sk hp hp').streamReplaceWith rdr spare w repl minFactor defaultCap

/-! ## automata tied to the ideal standard automaton -/

theorem StreamTied.to {X : Aut σ α} {P : List (List α)} {sk : StartKind} (h : StreamTied X P sk) :
    StreamTiedTo X (ideal .std P sk false) :=
  ⟨h.kind, h.patLen, h.minLen, h.maxLen, h.start⟩

theorem StreamTied.streamFind {X : Aut σ α} {P : List (List α)} {sk : StartKind}
    (h : StreamTied X P sk) (rdr : Reader α) (spare : Option Nat) (minFactor defaultCap : Nat) :
    streamFind X rdr spare minFactor defaultCap =
      AcVerif.streamFind (ideal .std P sk false) rdr spare minFactor defaultCap :=
  h.to.streamFind rdr spare minFactor defaultCap

theorem StreamTied.streamReplaceWith {X : Aut σ α} {P : List (List α)} {sk : StartKind}
    (h : StreamTied X P sk) (rdr : Reader α) (spare : Option Nat) (w : Writer α)
    (repl : Mat → List α) (minFactor defaultCap : Nat) :
    streamReplaceWith X rdr spare w repl minFactor defaultCap =
      AcVerif.streamReplaceWith (ideal .std P sk false) rdr spare w repl minFactor defaultCap :=
  h.to.streamReplaceWith rdr spare w repl minFactor defaultCap

end ideal

/-! ## the transcribed builders are tied, for every pattern list -/

/-- the compiled noncontiguous NFA (sparse transitions) is tied to the ideal standard automaton -/
theorem L1c_tied (P : List (List UInt8)) (hasPre : Bool) :
    StreamTied ((CNfa.compile .std false P).toAut .std P hasPre) P .both :=
  StreamTied.of_searchEquiv (L1c_searchEquiv .std P hasPre) rfl rfl

/-- the compiled noncontiguous NFA reading its dense rows (any dense depth) is tied to the ideal standard automaton -/
theorem L1cDense_tied (P : List (List UInt8)) (dd : Nat) (hasPre : Bool) :
    StreamTied ((CNfa.compile .std false P).toAutD (denseRows (CNfa.compile .std false P) dd) .std P hasPre) P .both :=
  StreamTied.of_searchEquiv ⟨rfl, fun _ => rfl, L1cDense_startEquiv .std P dd hasPre⟩ rfl rfl

/-- the transcribed DFA is tied to the ideal standard automaton -/
theorem L1d_tied (P : List (List UInt8)) (hasPre bc : Bool) (sk : StartKind) :
    StreamTied ((buildDfa (CNfa.compile .std false P) sk bc).toAut .std P hasPre) P sk :=
  StreamTied.of_searchEquiv (L1d_searchEquiv .std P hasPre bc sk) rfl rfl

/-- the id-level DFA (premultiplied ids, remapped special states) is tied to the ideal standard automaton -/
theorem L1dIds_tied (P : List (List UInt8)) (sk : StartKind) (bc hasPre : Bool) :
    StreamTied ((buildDfaIds (CNfa.compile .std false P) sk bc hasPre).toAut .std P hasPre) P sk :=
  StreamTied.of_searchEquiv (L1dIds_searchEquiv .std P sk bc hasPre) rfl rfl

/-- the contiguous NFA is tied to the ideal standard automaton -/
theorem L1e_tied (P : List (List UInt8)) (hasPre bc : Bool) (dd : Nat) (hPl : P.length < 2147483648) :
    StreamTied ((buildContig (CNfa.compile .std false P) dd bc hasPre).toAut .std P hasPre) P .both :=
  StreamTied.of_searchEquiv (L1e_searchEquiv .std P hasPre bc dd hPl) rfl rfl

/-! ## … so C07 / C08 / C18 hold for them -/

/-- stream search on the compiled noncontiguous NFA (sparse transitions) = the in-memory iterator (C07) -/
theorem L1c_stream (P : List (List UInt8)) (hP : P ≠ []) (hne : ∀ p ∈ P, p ≠ [])
    (hasPre : Bool)
    (data : List UInt8) (sched : List Nat)
    (hs : ∀ x ∈ sched, 1 ≤ x) (spare : Option Nat) (minFactor defaultCap : Nat)
    (hcap : (Buffer.new (α := UInt8) (ideal .std P .both false).maxLen spare minFactor defaultCap).min <
        (Buffer.new (α := UInt8) (ideal .std P .both false).maxLen spare minFactor defaultCap).cap) :
    ∃ ms,
      findIter (ideal .std P .both false) none
        { hay := data, s := 0, e := data.length, anch := false, earliest := false,
          valid := ⟨Nat.le_refl _, Nat.zero_le _⟩ } = .ok ms ∧
      streamFind ((CNfa.compile .std false P).toAut .std P hasPre) { data := data, sched := sched } spare
        minFactor defaultCap = .ok (ms, false, 0) := by
  rw [(L1c_tied P hasPre).streamFind]
  exact C07_stream_eq_iter P hP hne .both (Or.inl rfl) data sched hs spare minFactor defaultCap hcap

/-- stream search on the compiled noncontiguous NFA (sparse transitions) = the specification's iterator over *the* standard answers -/
theorem L1c_stream_spec (P : List (List UInt8)) (hP : P ≠ []) (hne : ∀ p ∈ P, p ≠ [])
    (hasPre : Bool)
    (data : List UInt8) (sched : List Nat)
    (hs : ∀ x ∈ sched, 1 ≤ x) (spare : Option Nat) (minFactor defaultCap : Nat)
    (hcap : (Buffer.new (α := UInt8) (ideal .std P .both false).maxLen spare minFactor defaultCap).min <
        (Buffer.new (α := UInt8) (ideal .std P .both false).maxLen spare minFactor defaultCap).cap) :
    ∃ F : Nat → Option Mat,
      (∀ st, st ≤ data.length + 1 → IsFind .std P data st data.length false (F st)) ∧
      streamFind ((CNfa.compile .std false P).toAut .std P hasPre) { data := data, sched := sched } spare
        minFactor defaultCap = .ok (iterSpec F 0 data.length, false, 0) := by
  rw [(L1c_tied P hasPre).streamFind]
  exact C07_stream_spec P hP hne .both (Or.inl rfl) data sched hs spare minFactor defaultCap hcap

/-- stream replace on the compiled noncontiguous NFA (sparse transitions) = in-memory replace (C08) -/
theorem L1c_stream_replace (P : List (List UInt8)) (hP : P ≠ []) (hne : ∀ p ∈ P, p ≠ [])
    (hasPre : Bool)
    (data : List UInt8) (sched : List Nat)
    (hs : ∀ x ∈ sched, 1 ≤ x) (spare : Option Nat) (minFactor defaultCap : Nat)
    (hcap : (Buffer.new (α := UInt8) (ideal .std P .both false).maxLen spare minFactor defaultCap).min <
        (Buffer.new (α := UInt8) (ideal .std P .both false).maxLen spare minFactor defaultCap).cap)
    (repl : Mat → List UInt8) :
    ∃ ms,
      findIter (ideal .std P .both false) none
        { hay := data, s := 0, e := data.length, anch := false, earliest := false,
          valid := ⟨Nat.le_refl _, Nat.zero_le _⟩ } = .ok ms ∧
      streamReplaceWith ((CNfa.compile .std false P).toAut .std P hasPre) { data := data, sched := sched } spare {} repl
        minFactor defaultCap =
        .ok ({ out := (replaceBytes data ms repl none).1 },
          (replaceBytes data ms repl none).2, true, 0) := by
  rw [(L1c_tied P hasPre).streamReplaceWith]
  exact C08_replace_eq P hP hne .both (Or.inl rfl) data sched hs spare minFactor defaultCap hcap repl

/-- a read failure at call `k` on the compiled noncontiguous NFA (sparse transitions): a prefix of the fault-free matches (C18) -/
theorem L1c_read_fault (P : List (List UInt8)) (hP : P ≠ []) (hne : ∀ p ∈ P, p ≠ [])
    (hasPre : Bool)
    (data : List UInt8) (sched : List Nat)
    (hs : ∀ x ∈ sched, 1 ≤ x) (spare : Option Nat) (minFactor defaultCap : Nat)
    (hcap : (Buffer.new (α := UInt8) (ideal .std P .both false).maxLen spare minFactor defaultCap).min <
        (Buffer.new (α := UInt8) (ideal .std P .both false).maxLen spare minFactor defaultCap).cap)
    (k : Nat) :
    ∃ ms ms' err er,
      streamFind ((CNfa.compile .std false P).toAut .std P hasPre) { data := data, sched := sched } spare
        minFactor defaultCap = .ok (ms, false, 0) ∧
      streamFind ((CNfa.compile .std false P).toAut .std P hasPre) { data := data, sched := sched, failAt := some k } spare
        minFactor defaultCap = .ok (ms', err, er) ∧
      ms' <+: ms ∧ er = 0 ∧ (err = false → ms' = ms) := by
  simp only [(L1c_tied P hasPre).streamFind]
  exact C18_read_fault P hP hne .both (Or.inl rfl) data sched hs spare minFactor defaultCap hcap k

/-- a writer failing after `l` bytes on the compiled noncontiguous NFA (sparse transitions): a prefix of the fault-free output (C18) -/
theorem L1c_write_fault (P : List (List UInt8)) (hP : P ≠ []) (hne : ∀ p ∈ P, p ≠ [])
    (hasPre : Bool)
    (data : List UInt8) (sched : List Nat)
    (hs : ∀ x ∈ sched, 1 ≤ x) (spare : Option Nat) (minFactor defaultCap : Nat)
    (hcap : (Buffer.new (α := UInt8) (ideal .std P .both false).maxLen spare minFactor defaultCap).min <
        (Buffer.new (α := UInt8) (ideal .std P .both false).maxLen spare minFactor defaultCap).cap)
    (repl : Mat → List UInt8) (l : Nat) :
    ∃ w w' log log' ok',
      streamReplaceWith ((CNfa.compile .std false P).toAut .std P hasPre) { data := data, sched := sched } spare {} repl
        minFactor defaultCap = .ok (w, log, true, 0) ∧
      streamReplaceWith ((CNfa.compile .std false P).toAut .std P hasPre) { data := data, sched := sched } spare
        { limit := some l } repl minFactor defaultCap = .ok (w', log', ok', 0) ∧
      w'.out <+: w.out ∧ w'.out.length ≤ l ∧ (ok' = true → w'.out = w.out) := by
  simp only [(L1c_tied P hasPre).streamReplaceWith]
  exact C18_write_fault P hP hne .both (Or.inl rfl) data sched hs spare minFactor defaultCap hcap repl l

/-- stream search on the compiled noncontiguous NFA reading its dense rows (any dense depth) = the in-memory iterator (C07) -/
theorem L1cDense_stream (P : List (List UInt8)) (hP : P ≠ []) (hne : ∀ p ∈ P, p ≠ [])
    (dd : Nat) (hasPre : Bool)
    (data : List UInt8) (sched : List Nat)
    (hs : ∀ x ∈ sched, 1 ≤ x) (spare : Option Nat) (minFactor defaultCap : Nat)
    (hcap : (Buffer.new (α := UInt8) (ideal .std P .both false).maxLen spare minFactor defaultCap).min <
        (Buffer.new (α := UInt8) (ideal .std P .both false).maxLen spare minFactor defaultCap).cap) :
    ∃ ms,
      findIter (ideal .std P .both false) none
        { hay := data, s := 0, e := data.length, anch := false, earliest := false,
          valid := ⟨Nat.le_refl _, Nat.zero_le _⟩ } = .ok ms ∧
      streamFind ((CNfa.compile .std false P).toAutD (denseRows (CNfa.compile .std false P) dd) .std P hasPre) { data := data, sched := sched } spare
        minFactor defaultCap = .ok (ms, false, 0) := by
  rw [(L1cDense_tied P dd hasPre).streamFind]
  exact C07_stream_eq_iter P hP hne .both (Or.inl rfl) data sched hs spare minFactor defaultCap hcap

/-- stream search on the compiled noncontiguous NFA reading its dense rows (any dense depth) = the specification's iterator over *the* standard answers -/
theorem L1cDense_stream_spec (P : List (List UInt8)) (hP : P ≠ []) (hne : ∀ p ∈ P, p ≠ [])
    (dd : Nat) (hasPre : Bool)
    (data : List UInt8) (sched : List Nat)
    (hs : ∀ x ∈ sched, 1 ≤ x) (spare : Option Nat) (minFactor defaultCap : Nat)
    (hcap : (Buffer.new (α := UInt8) (ideal .std P .both false).maxLen spare minFactor defaultCap).min <
        (Buffer.new (α := UInt8) (ideal .std P .both false).maxLen spare minFactor defaultCap).cap) :
    ∃ F : Nat → Option Mat,
      (∀ st, st ≤ data.length + 1 → IsFind .std P data st data.length false (F st)) ∧
      streamFind ((CNfa.compile .std false P).toAutD (denseRows (CNfa.compile .std false P) dd) .std P hasPre) { data := data, sched := sched } spare
        minFactor defaultCap = .ok (iterSpec F 0 data.length, false, 0) := by
  rw [(L1cDense_tied P dd hasPre).streamFind]
  exact C07_stream_spec P hP hne .both (Or.inl rfl) data sched hs spare minFactor defaultCap hcap

/-- stream replace on the compiled noncontiguous NFA reading its dense rows (any dense depth) = in-memory replace (C08) -/
theorem L1cDense_stream_replace (P : List (List UInt8)) (hP : P ≠ []) (hne : ∀ p ∈ P, p ≠ [])
    (dd : Nat) (hasPre : Bool)
    (data : List UInt8) (sched : List Nat)
    (hs : ∀ x ∈ sched, 1 ≤ x) (spare : Option Nat) (minFactor defaultCap : Nat)
    (hcap : (Buffer.new (α := UInt8) (ideal .std P .both false).maxLen spare minFactor defaultCap).min <
        (Buffer.new (α := UInt8) (ideal .std P .both false).maxLen spare minFactor defaultCap).cap)
    (repl : Mat → List UInt8) :
    ∃ ms,
      findIter (ideal .std P .both false) none
        { hay := data, s := 0, e := data.length, anch := false, earliest := false,
          valid := ⟨Nat.le_refl _, Nat.zero_le _⟩ } = .ok ms ∧
      streamReplaceWith ((CNfa.compile .std false P).toAutD (denseRows (CNfa.compile .std false P) dd) .std P hasPre) { data := data, sched := sched } spare {} repl
        minFactor defaultCap =
        .ok ({ out := (replaceBytes data ms repl none).1 },
          (replaceBytes data ms repl none).2, true, 0) := by
  rw [(L1cDense_tied P dd hasPre).streamReplaceWith]
  exact C08_replace_eq P hP hne .both (Or.inl rfl) data sched hs spare minFactor defaultCap hcap repl

/-- a read failure at call `k` on the compiled noncontiguous NFA reading its dense rows (any dense depth): a prefix of the fault-free matches (C18) -/
theorem L1cDense_read_fault (P : List (List UInt8)) (hP : P ≠ []) (hne : ∀ p ∈ P, p ≠ [])
    (dd : Nat) (hasPre : Bool)
    (data : List UInt8) (sched : List Nat)
    (hs : ∀ x ∈ sched, 1 ≤ x) (spare : Option Nat) (minFactor defaultCap : Nat)
    (hcap : (Buffer.new (α := UInt8) (ideal .std P .both false).maxLen spare minFactor defaultCap).min <
        (Buffer.new (α := UInt8) (ideal .std P .both false).maxLen spare minFactor defaultCap).cap)
    (k : Nat) :
    ∃ ms ms' err er,
      streamFind ((CNfa.compile .std false P).toAutD (denseRows (CNfa.compile .std false P) dd) .std P hasPre) { data := data, sched := sched } spare
        minFactor defaultCap = .ok (ms, false, 0) ∧
      streamFind ((CNfa.compile .std false P).toAutD (denseRows (CNfa.compile .std false P) dd) .std P hasPre) { data := data, sched := sched, failAt := some k } spare
        minFactor defaultCap = .ok (ms', err, er) ∧
      ms' <+: ms ∧ er = 0 ∧ (err = false → ms' = ms) := by
  simp only [(L1cDense_tied P dd hasPre).streamFind]
  exact C18_read_fault P hP hne .both (Or.inl rfl) data sched hs spare minFactor defaultCap hcap k

/-- a writer failing after `l` bytes on the compiled noncontiguous NFA reading its dense rows (any dense depth): a prefix of the fault-free output (C18) -/
theorem L1cDense_write_fault (P : List (List UInt8)) (hP : P ≠ []) (hne : ∀ p ∈ P, p ≠ [])
    (dd : Nat) (hasPre : Bool)
    (data : List UInt8) (sched : List Nat)
    (hs : ∀ x ∈ sched, 1 ≤ x) (spare : Option Nat) (minFactor defaultCap : Nat)
    (hcap : (Buffer.new (α := UInt8) (ideal .std P .both false).maxLen spare minFactor defaultCap).min <
        (Buffer.new (α := UInt8) (ideal .std P .both false).maxLen spare minFactor defaultCap).cap)
    (repl : Mat → List UInt8) (l : Nat) :
    ∃ w w' log log' ok',
      streamReplaceWith ((CNfa.compile .std false P).toAutD (denseRows (CNfa.compile .std false P) dd) .std P hasPre) { data := data, sched := sched } spare {} repl
        minFactor defaultCap = .ok (w, log, true, 0) ∧
      streamReplaceWith ((CNfa.compile .std false P).toAutD (denseRows (CNfa.compile .std false P) dd) .std P hasPre) { data := data, sched := sched } spare
        { limit := some l } repl minFactor defaultCap = .ok (w', log', ok', 0) ∧
      w'.out <+: w.out ∧ w'.out.length ≤ l ∧ (ok' = true → w'.out = w.out) := by
  simp only [(L1cDense_tied P dd hasPre).streamReplaceWith]
  exact C18_write_fault P hP hne .both (Or.inl rfl) data sched hs spare minFactor defaultCap hcap repl l

/-- stream search on the transcribed DFA = the in-memory iterator (C07) -/
theorem L1d_stream (P : List (List UInt8)) (hP : P ≠ []) (hne : ∀ p ∈ P, p ≠ [])
    (hasPre bc : Bool) (sk : StartKind) (hsk : supportsAnch sk false)
    (data : List UInt8) (sched : List Nat)
    (hs : ∀ x ∈ sched, 1 ≤ x) (spare : Option Nat) (minFactor defaultCap : Nat)
    (hcap : (Buffer.new (α := UInt8) (ideal .std P sk false).maxLen spare minFactor defaultCap).min <
        (Buffer.new (α := UInt8) (ideal .std P sk false).maxLen spare minFactor defaultCap).cap) :
    ∃ ms,
      findIter (ideal .std P sk false) none
        { hay := data, s := 0, e := data.length, anch := false, earliest := false,
          valid := ⟨Nat.le_refl _, Nat.zero_le _⟩ } = .ok ms ∧
      streamFind ((buildDfa (CNfa.compile .std false P) sk bc).toAut .std P hasPre) { data := data, sched := sched } spare
        minFactor defaultCap = .ok (ms, false, 0) := by
  rw [(L1d_tied P hasPre bc sk).streamFind]
  exact C07_stream_eq_iter P hP hne sk hsk data sched hs spare minFactor defaultCap hcap

/-- stream search on the transcribed DFA = the specification's iterator over *the* standard answers -/
theorem L1d_stream_spec (P : List (List UInt8)) (hP : P ≠ []) (hne : ∀ p ∈ P, p ≠ [])
    (hasPre bc : Bool) (sk : StartKind) (hsk : supportsAnch sk false)
    (data : List UInt8) (sched : List Nat)
    (hs : ∀ x ∈ sched, 1 ≤ x) (spare : Option Nat) (minFactor defaultCap : Nat)
    (hcap : (Buffer.new (α := UInt8) (ideal .std P sk false).maxLen spare minFactor defaultCap).min <
        (Buffer.new (α := UInt8) (ideal .std P sk false).maxLen spare minFactor defaultCap).cap) :
    ∃ F : Nat → Option Mat,
      (∀ st, st ≤ data.length + 1 → IsFind .std P data st data.length false (F st)) ∧
      streamFind ((buildDfa (CNfa.compile .std false P) sk bc).toAut .std P hasPre) { data := data, sched := sched } spare
        minFactor defaultCap = .ok (iterSpec F 0 data.length, false, 0) := by
  rw [(L1d_tied P hasPre bc sk).streamFind]
  exact C07_stream_spec P hP hne sk hsk data sched hs spare minFactor defaultCap hcap

/-- stream replace on the transcribed DFA = in-memory replace (C08) -/
theorem L1d_stream_replace (P : List (List UInt8)) (hP : P ≠ []) (hne : ∀ p ∈ P, p ≠ [])
    (hasPre bc : Bool) (sk : StartKind) (hsk : supportsAnch sk false)
    (data : List UInt8) (sched : List Nat)
    (hs : ∀ x ∈ sched, 1 ≤ x) (spare : Option Nat) (minFactor defaultCap : Nat)
    (hcap : (Buffer.new (α := UInt8) (ideal .std P sk false).maxLen spare minFactor defaultCap).min <
        (Buffer.new (α := UInt8) (ideal .std P sk false).maxLen spare minFactor defaultCap).cap)
    (repl : Mat → List UInt8) :
    ∃ ms,
      findIter (ideal .std P sk false) none
        { hay := data, s := 0, e := data.length, anch := false, earliest := false,
          valid := ⟨Nat.le_refl _, Nat.zero_le _⟩ } = .ok ms ∧
      streamReplaceWith ((buildDfa (CNfa.compile .std false P) sk bc).toAut .std P hasPre) { data := data, sched := sched } spare {} repl
        minFactor defaultCap =
        .ok ({ out := (replaceBytes data ms repl none).1 },
          (replaceBytes data ms repl none).2, true, 0) := by
  rw [(L1d_tied P hasPre bc sk).streamReplaceWith]
  exact C08_replace_eq P hP hne sk hsk data sched hs spare minFactor defaultCap hcap repl

/-- a read failure at call `k` on the transcribed DFA: a prefix of the fault-free matches (C18) -/
theorem L1d_read_fault (P : List (List UInt8)) (hP : P ≠ []) (hne : ∀ p ∈ P, p ≠ [])
    (hasPre bc : Bool) (sk : StartKind) (hsk : supportsAnch sk false)
    (data : List UInt8) (sched : List Nat)
    (hs : ∀ x ∈ sched, 1 ≤ x) (spare : Option Nat) (minFactor defaultCap : Nat)
    (hcap : (Buffer.new (α := UInt8) (ideal .std P sk false).maxLen spare minFactor defaultCap).min <
        (Buffer.new (α := UInt8) (ideal .std P sk false).maxLen spare minFactor defaultCap).cap)
    (k : Nat) :
    ∃ ms ms' err er,
      streamFind ((buildDfa (CNfa.compile .std false P) sk bc).toAut .std P hasPre) { data := data, sched := sched } spare
        minFactor defaultCap = .ok (ms, false, 0) ∧
      streamFind ((buildDfa (CNfa.compile .std false P) sk bc).toAut .std P hasPre) { data := data, sched := sched, failAt := some k } spare
        minFactor defaultCap = .ok (ms', err, er) ∧
      ms' <+: ms ∧ er = 0 ∧ (err = false → ms' = ms) := by
  simp only [(L1d_tied P hasPre bc sk).streamFind]
  exact C18_read_fault P hP hne sk hsk data sched hs spare minFactor defaultCap hcap k

/-- a writer failing after `l` bytes on the transcribed DFA: a prefix of the fault-free output (C18) -/
theorem L1d_write_fault (P : List (List UInt8)) (hP : P ≠ []) (hne : ∀ p ∈ P, p ≠ [])
    (hasPre bc : Bool) (sk : StartKind) (hsk : supportsAnch sk false)
    (data : List UInt8) (sched : List Nat)
    (hs : ∀ x ∈ sched, 1 ≤ x) (spare : Option Nat) (minFactor defaultCap : Nat)
    (hcap : (Buffer.new (α := UInt8) (ideal .std P sk false).maxLen spare minFactor defaultCap).min <
        (Buffer.new (α := UInt8) (ideal .std P sk false).maxLen spare minFactor defaultCap).cap)
    (repl : Mat → List UInt8) (l : Nat) :
    ∃ w w' log log' ok',
      streamReplaceWith ((buildDfa (CNfa.compile .std false P) sk bc).toAut .std P hasPre) { data := data, sched := sched } spare {} repl
        minFactor defaultCap = .ok (w, log, true, 0) ∧
      streamReplaceWith ((buildDfa (CNfa.compile .std false P) sk bc).toAut .std P hasPre) { data := data, sched := sched } spare
        { limit := some l } repl minFactor defaultCap = .ok (w', log', ok', 0) ∧
      w'.out <+: w.out ∧ w'.out.length ≤ l ∧ (ok' = true → w'.out = w.out) := by
  simp only [(L1d_tied P hasPre bc sk).streamReplaceWith]
  exact C18_write_fault P hP hne sk hsk data sched hs spare minFactor defaultCap hcap repl l

/-- stream search on the id-level DFA (premultiplied ids, remapped special states) = the in-memory iterator (C07) -/
theorem L1dIds_stream (P : List (List UInt8)) (hP : P ≠ []) (hne : ∀ p ∈ P, p ≠ [])
    (sk : StartKind) (bc hasPre : Bool) (hsk : supportsAnch sk false)
    (data : List UInt8) (sched : List Nat)
    (hs : ∀ x ∈ sched, 1 ≤ x) (spare : Option Nat) (minFactor defaultCap : Nat)
    (hcap : (Buffer.new (α := UInt8) (ideal .std P sk false).maxLen spare minFactor defaultCap).min <
        (Buffer.new (α := UInt8) (ideal .std P sk false).maxLen spare minFactor defaultCap).cap) :
    ∃ ms,
      findIter (ideal .std P sk false) none
        { hay := data, s := 0, e := data.length, anch := false, earliest := false,
          valid := ⟨Nat.le_refl _, Nat.zero_le _⟩ } = .ok ms ∧
      streamFind ((buildDfaIds (CNfa.compile .std false P) sk bc hasPre).toAut .std P hasPre) { data := data, sched := sched } spare
        minFactor defaultCap = .ok (ms, false, 0) := by
  rw [(L1dIds_tied P sk bc hasPre).streamFind]
  exact C07_stream_eq_iter P hP hne sk hsk data sched hs spare minFactor defaultCap hcap

/-- stream search on the id-level DFA (premultiplied ids, remapped special states) = the specification's iterator over *the* standard answers -/
theorem L1dIds_stream_spec (P : List (List UInt8)) (hP : P ≠ []) (hne : ∀ p ∈ P, p ≠ [])
    (sk : StartKind) (bc hasPre : Bool) (hsk : supportsAnch sk false)
    (data : List UInt8) (sched : List Nat)
    (hs : ∀ x ∈ sched, 1 ≤ x) (spare : Option Nat) (minFactor defaultCap : Nat)
    (hcap : (Buffer.new (α := UInt8) (ideal .std P sk false).maxLen spare minFactor defaultCap).min <
        (Buffer.new (α := UInt8) (ideal .std P sk false).maxLen spare minFactor defaultCap).cap) :
    ∃ F : Nat → Option Mat,
      (∀ st, st ≤ data.length + 1 → IsFind .std P data st data.length false (F st)) ∧
      streamFind ((buildDfaIds (CNfa.compile .std false P) sk bc hasPre).toAut .std P hasPre) { data := data, sched := sched } spare
        minFactor defaultCap = .ok (iterSpec F 0 data.length, false, 0) := by
  rw [(L1dIds_tied P sk bc hasPre).streamFind]
  exact C07_stream_spec P hP hne sk hsk data sched hs spare minFactor defaultCap hcap

/-- stream replace on the id-level DFA (premultiplied ids, remapped special states) = in-memory replace (C08) -/
theorem L1dIds_stream_replace (P : List (List UInt8)) (hP : P ≠ []) (hne : ∀ p ∈ P, p ≠ [])
    (sk : StartKind) (bc hasPre : Bool) (hsk : supportsAnch sk false)
    (data : List UInt8) (sched : List Nat)
    (hs : ∀ x ∈ sched, 1 ≤ x) (spare : Option Nat) (minFactor defaultCap : Nat)
    (hcap : (Buffer.new (α := UInt8) (ideal .std P sk false).maxLen spare minFactor defaultCap).min <
        (Buffer.new (α := UInt8) (ideal .std P sk false).maxLen spare minFactor defaultCap).cap)
    (repl : Mat → List UInt8) :
    ∃ ms,
      findIter (ideal .std P sk false) none
        { hay := data, s := 0, e := data.length, anch := false, earliest := false,
          valid := ⟨Nat.le_refl _, Nat.zero_le _⟩ } = .ok ms ∧
      streamReplaceWith ((buildDfaIds (CNfa.compile .std false P) sk bc hasPre).toAut .std P hasPre) { data := data, sched := sched } spare {} repl
        minFactor defaultCap =
        .ok ({ out := (replaceBytes data ms repl none).1 },
          (replaceBytes data ms repl none).2, true, 0) := by
  rw [(L1dIds_tied P sk bc hasPre).streamReplaceWith]
  exact C08_replace_eq P hP hne sk hsk data sched hs spare minFactor defaultCap hcap repl

/-- a read failure at call `k` on the id-level DFA (premultiplied ids, remapped special states): a prefix of the fault-free matches (C18) -/
theorem L1dIds_read_fault (P : List (List UInt8)) (hP : P ≠ []) (hne : ∀ p ∈ P, p ≠ [])
    (sk : StartKind) (bc hasPre : Bool) (hsk : supportsAnch sk false)
    (data : List UInt8) (sched : List Nat)
    (hs : ∀ x ∈ sched, 1 ≤ x) (spare : Option Nat) (minFactor defaultCap : Nat)
    (hcap : (Buffer.new (α := UInt8) (ideal .std P sk false).maxLen spare minFactor defaultCap).min <
        (Buffer.new (α := UInt8) (ideal .std P sk false).maxLen spare minFactor defaultCap).cap)
    (k : Nat) :
    ∃ ms ms' err er,
      streamFind ((buildDfaIds (CNfa.compile .std false P) sk bc hasPre).toAut .std P hasPre) { data := data, sched := sched } spare
        minFactor defaultCap = .ok (ms, false, 0) ∧
      streamFind ((buildDfaIds (CNfa.compile .std false P) sk bc hasPre).toAut .std P hasPre) { data := data, sched := sched, failAt := some k } spare
        minFactor defaultCap = .ok (ms', err, er) ∧
      ms' <+: ms ∧ er = 0 ∧ (err = false → ms' = ms) := by
  simp only [(L1dIds_tied P sk bc hasPre).streamFind]
  exact C18_read_fault P hP hne sk hsk data sched hs spare minFactor defaultCap hcap k

/-- a writer failing after `l` bytes on the id-level DFA (premultiplied ids, remapped special states): a prefix of the fault-free output (C18) -/
theorem L1dIds_write_fault (P : List (List UInt8)) (hP : P ≠ []) (hne : ∀ p ∈ P, p ≠ [])
    (sk : StartKind) (bc hasPre : Bool) (hsk : supportsAnch sk false)
    (data : List UInt8) (sched : List Nat)
    (hs : ∀ x ∈ sched, 1 ≤ x) (spare : Option Nat) (minFactor defaultCap : Nat)
    (hcap : (Buffer.new (α := UInt8) (ideal .std P sk false).maxLen spare minFactor defaultCap).min <
        (Buffer.new (α := UInt8) (ideal .std P sk false).maxLen spare minFactor defaultCap).cap)
    (repl : Mat → List UInt8) (l : Nat) :
    ∃ w w' log log' ok',
      streamReplaceWith ((buildDfaIds (CNfa.compile .std false P) sk bc hasPre).toAut .std P hasPre) { data := data, sched := sched } spare {} repl
        minFactor defaultCap = .ok (w, log, true, 0) ∧
      streamReplaceWith ((buildDfaIds (CNfa.compile .std false P) sk bc hasPre).toAut .std P hasPre) { data := data, sched := sched } spare
        { limit := some l } repl minFactor defaultCap = .ok (w', log', ok', 0) ∧
      w'.out <+: w.out ∧ w'.out.length ≤ l ∧ (ok' = true → w'.out = w.out) := by
  simp only [(L1dIds_tied P sk bc hasPre).streamReplaceWith]
  exact C18_write_fault P hP hne sk hsk data sched hs spare minFactor defaultCap hcap repl l

/-- stream search on the contiguous NFA = the in-memory iterator (C07) -/
theorem L1e_stream (P : List (List UInt8)) (hP : P ≠ []) (hne : ∀ p ∈ P, p ≠ [])
    (hasPre bc : Bool) (dd : Nat) (hPl : P.length < 2147483648)
    (data : List UInt8) (sched : List Nat)
    (hs : ∀ x ∈ sched, 1 ≤ x) (spare : Option Nat) (minFactor defaultCap : Nat)
    (hcap : (Buffer.new (α := UInt8) (ideal .std P .both false).maxLen spare minFactor defaultCap).min <
        (Buffer.new (α := UInt8) (ideal .std P .both false).maxLen spare minFactor defaultCap).cap) :
    ∃ ms,
      findIter (ideal .std P .both false) none
        { hay := data, s := 0, e := data.length, anch := false, earliest := false,
          valid := ⟨Nat.le_refl _, Nat.zero_le _⟩ } = .ok ms ∧
      streamFind ((buildContig (CNfa.compile .std false P) dd bc hasPre).toAut .std P hasPre) { data := data, sched := sched } spare
        minFactor defaultCap = .ok (ms, false, 0) := by
  rw [(L1e_tied P hasPre bc dd hPl).streamFind]
  exact C07_stream_eq_iter P hP hne .both (Or.inl rfl) data sched hs spare minFactor defaultCap hcap

/-- stream search on the contiguous NFA = the specification's iterator over *the* standard answers -/
theorem L1e_stream_spec (P : List (List UInt8)) (hP : P ≠ []) (hne : ∀ p ∈ P, p ≠ [])
    (hasPre bc : Bool) (dd : Nat) (hPl : P.length < 2147483648)
    (data : List UInt8) (sched : List Nat)
    (hs : ∀ x ∈ sched, 1 ≤ x) (spare : Option Nat) (minFactor defaultCap : Nat)
    (hcap : (Buffer.new (α := UInt8) (ideal .std P .both false).maxLen spare minFactor defaultCap).min <
        (Buffer.new (α := UInt8) (ideal .std P .both false).maxLen spare minFactor defaultCap).cap) :
    ∃ F : Nat → Option Mat,
      (∀ st, st ≤ data.length + 1 → IsFind .std P data st data.length false (F st)) ∧
      streamFind ((buildContig (CNfa.compile .std false P) dd bc hasPre).toAut .std P hasPre) { data := data, sched := sched } spare
        minFactor defaultCap = .ok (iterSpec F 0 data.length, false, 0) := by
  rw [(L1e_tied P hasPre bc dd hPl).streamFind]
  exact C07_stream_spec P hP hne .both (Or.inl rfl) data sched hs spare minFactor defaultCap hcap

/-- stream replace on the contiguous NFA = in-memory replace (C08) -/
theorem L1e_stream_replace (P : List (List UInt8)) (hP : P ≠ []) (hne : ∀ p ∈ P, p ≠ [])
    (hasPre bc : Bool) (dd : Nat) (hPl : P.length < 2147483648)
    (data : List UInt8) (sched : List Nat)
    (hs : ∀ x ∈ sched, 1 ≤ x) (spare : Option Nat) (minFactor defaultCap : Nat)
    (hcap : (Buffer.new (α := UInt8) (ideal .std P .both false).maxLen spare minFactor defaultCap).min <
        (Buffer.new (α := UInt8) (ideal .std P .both false).maxLen spare minFactor defaultCap).cap)
    (repl : Mat → List UInt8) :
    ∃ ms,
      findIter (ideal .std P .both false) none
        { hay := data, s := 0, e := data.length, anch := false, earliest := false,
          valid := ⟨Nat.le_refl _, Nat.zero_le _⟩ } = .ok ms ∧
      streamReplaceWith ((buildContig (CNfa.compile .std false P) dd bc hasPre).toAut .std P hasPre) { data := data, sched := sched } spare {} repl
        minFactor defaultCap =
        .ok ({ out := (replaceBytes data ms repl none).1 },
          (replaceBytes data ms repl none).2, true, 0) := by
  rw [(L1e_tied P hasPre bc dd hPl).streamReplaceWith]
  exact C08_replace_eq P hP hne .both (Or.inl rfl) data sched hs spare minFactor defaultCap hcap repl

/-- a read failure at call `k` on the contiguous NFA: a prefix of the fault-free matches (C18) -/
theorem L1e_read_fault (P : List (List UInt8)) (hP : P ≠ []) (hne : ∀ p ∈ P, p ≠ [])
    (hasPre bc : Bool) (dd : Nat) (hPl : P.length < 2147483648)
    (data : List UInt8) (sched : List Nat)
    (hs : ∀ x ∈ sched, 1 ≤ x) (spare : Option Nat) (minFactor defaultCap : Nat)
    (hcap : (Buffer.new (α := UInt8) (ideal .std P .both false).maxLen spare minFactor defaultCap).min <
        (Buffer.new (α := UInt8) (ideal .std P .both false).maxLen spare minFactor defaultCap).cap)
    (k : Nat) :
    ∃ ms ms' err er,
      streamFind ((buildContig (CNfa.compile .std false P) dd bc hasPre).toAut .std P hasPre) { data := data, sched := sched } spare
        minFactor defaultCap = .ok (ms, false, 0) ∧
      streamFind ((buildContig (CNfa.compile .std false P) dd bc hasPre).toAut .std P hasPre) { data := data, sched := sched, failAt := some k } spare
        minFactor defaultCap = .ok (ms', err, er) ∧
      ms' <+: ms ∧ er = 0 ∧ (err = false → ms' = ms) := by
  simp only [(L1e_tied P hasPre bc dd hPl).streamFind]
  exact C18_read_fault P hP hne .both (Or.inl rfl) data sched hs spare minFactor defaultCap hcap k

/-- a writer failing after `l` bytes on the contiguous NFA: a prefix of the fault-free output (C18) -/
theorem L1e_write_fault (P : List (List UInt8)) (hP : P ≠ []) (hne : ∀ p ∈ P, p ≠ [])
    (hasPre bc : Bool) (dd : Nat) (hPl : P.length < 2147483648)
    (data : List UInt8) (sched : List Nat)
    (hs : ∀ x ∈ sched, 1 ≤ x) (spare : Option Nat) (minFactor defaultCap : Nat)
    (hcap : (Buffer.new (α := UInt8) (ideal .std P .both false).maxLen spare minFactor defaultCap).min <
        (Buffer.new (α := UInt8) (ideal .std P .both false).maxLen spare minFactor defaultCap).cap)
    (repl : Mat → List UInt8) (l : Nat) :
    ∃ w w' log log' ok',
      streamReplaceWith ((buildContig (CNfa.compile .std false P) dd bc hasPre).toAut .std P hasPre) { data := data, sched := sched } spare {} repl
        minFactor defaultCap = .ok (w, log, true, 0) ∧
      streamReplaceWith ((buildContig (CNfa.compile .std false P) dd bc hasPre).toAut .std P hasPre) { data := data, sched := sched } spare
        { limit := some l } repl minFactor defaultCap = .ok (w', log', ok', 0) ∧
      w'.out <+: w.out ∧ w'.out.length ≤ l ∧ (ok' = true → w'.out = w.out) := by
  simp only [(L1e_tied P hasPre bc dd hPl).streamReplaceWith]
  exact C18_write_fault P hP hne .both (Or.inl rfl) data sched hs spare minFactor defaultCap hcap repl l

/-! ## non-vacuity: the DFA and the contiguous NFA of `[1,2,3]`, `[3,4]`, a match split across
reads, capacity `min + 1`, with a prefilter flag -/

example : ∃ ms,
    findIter (ideal .std ([[1, 2, 3], [3, 4]] : List (List UInt8)) .both false) none
      { hay := [0, 1, 2, 3, 4, 1, 2, 3], s := 0, e := 8, anch := false, earliest := false,
        valid := ⟨Nat.le_refl _, Nat.zero_le _⟩ } = .ok ms ∧
    streamFind ((buildDfa (CNfa.compile .std false [[1, 2, 3], [3, 4]]) .both true).toAut .std
        [[1, 2, 3], [3, 4]] true)
      { data := [0, 1, 2, 3, 4, 1, 2, 3], sched := [2, 1, 3, 1] } (some 1) 8 65536 =
      .ok (ms, false, 0) :=
  L1d_stream [[1, 2, 3], [3, 4]] (by decide) (by decide) true true .both (Or.inl rfl)
    [0, 1, 2, 3, 4, 1, 2, 3] [2, 1, 3, 1] (by decide) (some 1) 8 65536 (hcap_default _ _)

example : ∃ ms,
    findIter (ideal .std ([[1, 2, 3], [3, 4]] : List (List UInt8)) .both false) none
      { hay := [0, 1, 2, 3, 4, 1, 2, 3], s := 0, e := 8, anch := false, earliest := false,
        valid := ⟨Nat.le_refl _, Nat.zero_le _⟩ } = .ok ms ∧
    streamFind ((buildContig (CNfa.compile .std false [[1, 2, 3], [3, 4]]) 0 true true).toAut .std
        [[1, 2, 3], [3, 4]] true)
      { data := [0, 1, 2, 3, 4, 1, 2, 3], sched := [2, 1, 3, 1] } (some 1) 8 65536 =
      .ok (ms, false, 0) :=
  L1e_stream [[1, 2, 3], [3, 4]] (by decide) (by decide) true true 0 (by decide)
    [0, 1, 2, 3, 4, 1, 2, 3] [2, 1, 3, 1] (by decide) (some 1) 8 65536 (hcap_default _ _)

set_option maxRecDepth 1000000 in
/-- … and evaluated: reads of 2, 1, 3, 1, … bytes into a 4-byte buffer, `[1,2,3]` arrives in two
reads; the DFA and the contiguous NFA (both with the prefilter flag set) report the two matches
(`Except` has no `DecidableEq`, hence `toOption`) -/
example : (streamFind ((buildDfa (CNfa.compile .std false [[1, 2, 3], [3, 4]]) .both true).toAut .std
        [[1, 2, 3], [3, 4]] true)
      { data := [0, 1, 2, 3, 4, 1, 2, 3], sched := [2, 1, 3, 1] } (some 1)).toOption =
      some ([⟨0, 1, 4⟩, ⟨0, 5, 8⟩], false, 0) := by
  unfold buildDfa buildBoth dfaRow
  rw [classOfMarks_eq_classLt, sparseIter_eq_sparseIterReps]
  decide +kernel

set_option maxRecDepth 1000000 in
example : (streamFind ((buildContig (CNfa.compile .std false [[1, 2, 3], [3, 4]]) 0 true true).toAut
        .std [[1, 2, 3], [3, 4]] true)
      { data := [0, 1, 2, 3, 4, 1, 2, 3], sched := [2, 1, 3, 1] } (some 1)).toOption =
      some ([⟨0, 1, 4⟩, ⟨0, 5, 8⟩], false, 0) := by
  rw [buildContig, classOfMarks_eq_classLt, writeState_eq_denseSkip]
  decide +kernel

end AcVerif
