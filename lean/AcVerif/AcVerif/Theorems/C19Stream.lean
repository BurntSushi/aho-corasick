import AcVerif.Theorems.C07Transfer
import AcVerif.Theorems.C07Fold
/-!
# C19 for the stream search: every stream byte is fed to the automaton exactly once

`streamTransitions A rdr spare minFactor defaultCap` (`AcVerif/StreamCost.lean`) is the final
`absolute_pos` of a whole `StreamChunkIter` run = the number of `next_state` calls it makes (the
instrumented real code is compared with this number on every run).

For every pattern list `P` (non-empty, no empty pattern), every start kind supporting unanchored
search, every stream `data`, read schedule `sched` (entries `≥ 1`), spare room and buffer constants
leaving one byte of room beyond `min` (`hcap`, literally the hypothesis of `C07_stream_eq_iter`):

* `C19_stream_transitions`: a fault-free stream search makes exactly `data.length` transitions –
  rolling the buffer never moves `absolute_pos` back, so no byte is fed twice and none is skipped,
  whatever the schedule and the capacity;
* `C19_stream_transitions_fault`: if `read` call `k` fails, the search has made at most
  `data.length` transitions when it stops;
* `C19_stream_transitions_transfer` / `_transfer_match`: the number of transitions depends on the
  automaton only through what `StreamChunkIter` reads of it (equal kind, pattern lengths, min/max
  length, `StartEquiv · · true false` or the weaker `StreamX.MStart`), for every reader (any
  schedule, with or without a fault) and all constants; `StreamTied.streamTransitions` for an
  automaton tied to the ideal one, hence `L1c_`, `L1cDense_`, `L1d_`, `L1dIds_`,
  `L1e_stream_transitions(_fault)` for the transcribed builders;
* the case-insensitive searcher `(ideal .std (P.map (·.map foldByte)) sk false).comap foldByte`:
  `C19Fold_stream_transitions(_fault)`, `StreamTiedTo.streamTransitions` and
  `L1cFold_`, `L1dFold_`, `L1dIdsFold_`, `L1eFold_stream_transitions(_fault)`.

The proof (`StreamP.StreamRef.transitions`) is the invariant of `StreamChunkIter` (`StreamP.Inv`:
`absPos = rdr.pos - buf.len + bufPos`) plus what `StreamP.Post` says of the iterator returned
with `.done` (reader exhausted, buffer scanned to its end) and with `.ioErr` (`Inv` still holds).
-/
namespace AcVerif
open AcVerif.StreamX AcVerif.StreamP AcVerif.StdP AcVerif.MiscP AcVerif.CNfa

/-! ## the ideal standard automaton -/
section ideal
variable {σ α : Type} [DecidableEq α]

/-- a fault-free stream search feeds every byte of the stream to the automaton exactly once -/
theorem C19_stream_transitions (P : List (List α)) (_hP : P ≠ []) (hne : ∀ p ∈ P, p ≠ [])
    (sk : StartKind) (hsk : supportsAnch sk false) (data : List α) (sched : List Nat)
    (hs : ∀ x ∈ sched, 1 ≤ x) (spare : Option Nat) (minFactor defaultCap : Nat)
    (hcap : (Buffer.new (α := α) (ideal .std P sk false).maxLen spare minFactor defaultCap).min <
        (Buffer.new (α := α) (ideal .std P sk false).maxLen spare minFactor defaultCap).cap) :
    streamTransitions (ideal .std P sk false) { data := data, sched := sched } spare
      minFactor defaultCap = .ok data.length :=
  (streamRef_ideal P sk hsk hne data spare minFactor defaultCap hcap).transitions_ok hs

/-- with a failing `read` call the search has made at most `data.length` transitions -/
theorem C19_stream_transitions_fault (P : List (List α)) (_hP : P ≠ []) (hne : ∀ p ∈ P, p ≠ [])
    (sk : StartKind) (hsk : supportsAnch sk false) (data : List α) (sched : List Nat)
    (hs : ∀ x ∈ sched, 1 ≤ x) (spare : Option Nat) (minFactor defaultCap : Nat)
    (hcap : HasRoom α (ideal .std P sk false).maxLen spare minFactor defaultCap)
    (k : Nat) :
    ∃ t, streamTransitions (ideal .std P sk false)
        { data := data, sched := sched, failAt := some k } spare minFactor defaultCap = .ok t ∧
      t ≤ data.length := by
  obtain ⟨t, h1, h2, _⟩ :=
    (streamRef_ideal P sk hsk hne data spare minFactor defaultCap hcap).transitions hs (some k)
  exact ⟨t, h1, h2⟩

/-- the default constants (factor 8, 64 KiB) -/
theorem C19_stream_transitions_default (P : List (List α)) (_hP : P ≠ [])
    (hne : ∀ p ∈ P, p ≠ []) (sk : StartKind) (hsk : supportsAnch sk false) (data : List α)
    (sched : List Nat) (hs : ∀ x ∈ sched, 1 ≤ x) (spare : Option Nat) :
    streamTransitions (ideal .std P sk false) { data := data, sched := sched } spare =
      .ok data.length :=
  C19_stream_transitions P _hP hne sk hsk data sched hs spare 8 (64 * 1024) (hcap_default _ spare)

end ideal

/-! ## transfer -/
section transfer
variable {σ τ α : Type}

theorem C19_stream_transitions_transfer (A : Aut σ α) (B : Aut τ α)
    (hk : A.kind = B.kind) (hl : ∀ pid, A.patLen pid = B.patLen pid)
    (hmin : A.minLen = B.minLen) (hmax : A.maxLen = B.maxLen)
    (h : StartEquiv A B true false)
    (rdr : Reader α) (spare : Option Nat) (minFactor defaultCap : Nat) :
    streamTransitions A rdr spare minFactor defaultCap =
      streamTransitions B rdr spare minFactor defaultCap :=
  StreamTiedTo.streamTransitions ⟨hk, hl, hmin, hmax, MStart.of_startEquiv h⟩ rdr spare
    minFactor defaultCap

/-- `MStart` in place of `StartEquiv`: only `is_match` and the first listed pattern of the states
reachable from the unanchored start state are compared -/
theorem C19_stream_transitions_transfer_match (A : Aut σ α) (B : Aut τ α)
    (hk : A.kind = B.kind) (hl : ∀ pid, A.patLen pid = B.patLen pid)
    (hmin : A.minLen = B.minLen) (hmax : A.maxLen = B.maxLen) (h : MStart A B)
    (rdr : Reader α) (spare : Option Nat) (minFactor defaultCap : Nat) :
    streamTransitions A rdr spare minFactor defaultCap =
      streamTransitions B rdr spare minFactor defaultCap :=
  StreamTiedTo.streamTransitions ⟨hk, hl, hmin, hmax, h⟩ rdr spare minFactor defaultCap

end transfer

section tied
variable {σ α : Type} [DecidableEq α]

theorem StreamTied.streamTransitions {X : Aut σ α} {P : List (List α)} {sk : StartKind}
    (h : StreamTied X P sk) (rdr : Reader α) (spare : Option Nat) (minFactor defaultCap : Nat) :
    streamTransitions X rdr spare minFactor defaultCap =
      AcVerif.streamTransitions (ideal .std P sk false) rdr spare minFactor defaultCap :=
  h.to.streamTransitions rdr spare minFactor defaultCap

end tied

/-! ## the transcribed builders

`L1c`: the compiled noncontiguous NFA (sparse transitions); `L1cDense`: the same reading its dense
rows (any dense depth); `L1d`: the DFA; `L1dIds`: the id-level DFA (premultiplied ids, remapped
special states); `L1e`: the contiguous NFA. -/

theorem L1c_stream_transitions (P : List (List UInt8)) (hP : P ≠ []) (hne : ∀ p ∈ P, p ≠ [])
    (hasPre : Bool)
    (data : List UInt8) (sched : List Nat)
    (hs : ∀ x ∈ sched, 1 ≤ x) (spare : Option Nat) (minFactor defaultCap : Nat)
    (hcap : (Buffer.new (α := UInt8) (ideal .std P .both false).maxLen spare minFactor defaultCap).min <
        (Buffer.new (α := UInt8) (ideal .std P .both false).maxLen spare minFactor defaultCap).cap) :
    streamTransitions ((CNfa.compile .std false P).toAut .std P hasPre)
      { data := data, sched := sched } spare minFactor defaultCap = .ok data.length := by
  rw [(L1c_tied P hasPre).streamTransitions]
  exact C19_stream_transitions P hP hne .both (Or.inl rfl) data sched hs spare minFactor defaultCap hcap

theorem L1c_stream_transitions_fault (P : List (List UInt8)) (hP : P ≠ []) (hne : ∀ p ∈ P, p ≠ [])
    (hasPre : Bool)
    (data : List UInt8) (sched : List Nat)
    (hs : ∀ x ∈ sched, 1 ≤ x) (spare : Option Nat) (minFactor defaultCap : Nat)
    (hcap : (Buffer.new (α := UInt8) (ideal .std P .both false).maxLen spare minFactor defaultCap).min <
        (Buffer.new (α := UInt8) (ideal .std P .both false).maxLen spare minFactor defaultCap).cap)
    (k : Nat) :
    ∃ t, streamTransitions ((CNfa.compile .std false P).toAut .std P hasPre)
        { data := data, sched := sched, failAt := some k } spare minFactor defaultCap = .ok t ∧
      t ≤ data.length := by
  rw [(L1c_tied P hasPre).streamTransitions]
  exact C19_stream_transitions_fault P hP hne .both (Or.inl rfl) data sched hs spare minFactor defaultCap hcap k

theorem L1cDense_stream_transitions (P : List (List UInt8)) (hP : P ≠ []) (hne : ∀ p ∈ P, p ≠ [])
    (dd : Nat) (hasPre : Bool)
    (data : List UInt8) (sched : List Nat)
    (hs : ∀ x ∈ sched, 1 ≤ x) (spare : Option Nat) (minFactor defaultCap : Nat)
    (hcap : (Buffer.new (α := UInt8) (ideal .std P .both false).maxLen spare minFactor defaultCap).min <
        (Buffer.new (α := UInt8) (ideal .std P .both false).maxLen spare minFactor defaultCap).cap) :
    streamTransitions ((CNfa.compile .std false P).toAutD (denseRows (CNfa.compile .std false P) dd) .std P hasPre)
      { data := data, sched := sched } spare minFactor defaultCap = .ok data.length := by
  rw [(L1cDense_tied P dd hasPre).streamTransitions]
  exact C19_stream_transitions P hP hne .both (Or.inl rfl) data sched hs spare minFactor defaultCap hcap

theorem L1cDense_stream_transitions_fault (P : List (List UInt8)) (hP : P ≠ []) (hne : ∀ p ∈ P, p ≠ [])
    (dd : Nat) (hasPre : Bool)
    (data : List UInt8) (sched : List Nat)
    (hs : ∀ x ∈ sched, 1 ≤ x) (spare : Option Nat) (minFactor defaultCap : Nat)
    (hcap : (Buffer.new (α := UInt8) (ideal .std P .both false).maxLen spare minFactor defaultCap).min <
        (Buffer.new (α := UInt8) (ideal .std P .both false).maxLen spare minFactor defaultCap).cap)
    (k : Nat) :
    ∃ t, streamTransitions ((CNfa.compile .std false P).toAutD (denseRows (CNfa.compile .std false P) dd) .std P hasPre)
        { data := data, sched := sched, failAt := some k } spare minFactor defaultCap = .ok t ∧
      t ≤ data.length := by
  rw [(L1cDense_tied P dd hasPre).streamTransitions]
  exact C19_stream_transitions_fault P hP hne .both (Or.inl rfl) data sched hs spare minFactor defaultCap hcap k

theorem L1d_stream_transitions (P : List (List UInt8)) (hP : P ≠ []) (hne : ∀ p ∈ P, p ≠ [])
    (hasPre bc : Bool) (sk : StartKind) (hsk : supportsAnch sk false)
    (data : List UInt8) (sched : List Nat)
    (hs : ∀ x ∈ sched, 1 ≤ x) (spare : Option Nat) (minFactor defaultCap : Nat)
    (hcap : (Buffer.new (α := UInt8) (ideal .std P sk false).maxLen spare minFactor defaultCap).min <
        (Buffer.new (α := UInt8) (ideal .std P sk false).maxLen spare minFactor defaultCap).cap) :
    streamTransitions ((buildDfa (CNfa.compile .std false P) sk bc).toAut .std P hasPre)
      { data := data, sched := sched } spare minFactor defaultCap = .ok data.length := by
  rw [(L1d_tied P hasPre bc sk).streamTransitions]
  exact C19_stream_transitions P hP hne sk hsk data sched hs spare minFactor defaultCap hcap

theorem L1d_stream_transitions_fault (P : List (List UInt8)) (hP : P ≠ []) (hne : ∀ p ∈ P, p ≠ [])
    (hasPre bc : Bool) (sk : StartKind) (hsk : supportsAnch sk false)
    (data : List UInt8) (sched : List Nat)
    (hs : ∀ x ∈ sched, 1 ≤ x) (spare : Option Nat) (minFactor defaultCap : Nat)
    (hcap : (Buffer.new (α := UInt8) (ideal .std P sk false).maxLen spare minFactor defaultCap).min <
        (Buffer.new (α := UInt8) (ideal .std P sk false).maxLen spare minFactor defaultCap).cap)
    (k : Nat) :
    ∃ t, streamTransitions ((buildDfa (CNfa.compile .std false P) sk bc).toAut .std P hasPre)
        { data := data, sched := sched, failAt := some k } spare minFactor defaultCap = .ok t ∧
      t ≤ data.length := by
  rw [(L1d_tied P hasPre bc sk).streamTransitions]
  exact C19_stream_transitions_fault P hP hne sk hsk data sched hs spare minFactor defaultCap hcap k

theorem L1dIds_stream_transitions (P : List (List UInt8)) (hP : P ≠ []) (hne : ∀ p ∈ P, p ≠ [])
    (sk : StartKind) (bc hasPre : Bool) (hsk : supportsAnch sk false)
    (data : List UInt8) (sched : List Nat)
    (hs : ∀ x ∈ sched, 1 ≤ x) (spare : Option Nat) (minFactor defaultCap : Nat)
    (hcap : (Buffer.new (α := UInt8) (ideal .std P sk false).maxLen spare minFactor defaultCap).min <
        (Buffer.new (α := UInt8) (ideal .std P sk false).maxLen spare minFactor defaultCap).cap) :
    streamTransitions ((buildDfaIds (CNfa.compile .std false P) sk bc hasPre).toAut .std P hasPre)
      { data := data, sched := sched } spare minFactor defaultCap = .ok data.length := by
  rw [(L1dIds_tied P sk bc hasPre).streamTransitions]
  exact C19_stream_transitions P hP hne sk hsk data sched hs spare minFactor defaultCap hcap

theorem L1dIds_stream_transitions_fault (P : List (List UInt8)) (hP : P ≠ []) (hne : ∀ p ∈ P, p ≠ [])
    (sk : StartKind) (bc hasPre : Bool) (hsk : supportsAnch sk false)
    (data : List UInt8) (sched : List Nat)
    (hs : ∀ x ∈ sched, 1 ≤ x) (spare : Option Nat) (minFactor defaultCap : Nat)
    (hcap : (Buffer.new (α := UInt8) (ideal .std P sk false).maxLen spare minFactor defaultCap).min <
        (Buffer.new (α := UInt8) (ideal .std P sk false).maxLen spare minFactor defaultCap).cap)
    (k : Nat) :
    ∃ t, streamTransitions ((buildDfaIds (CNfa.compile .std false P) sk bc hasPre).toAut .std P hasPre)
        { data := data, sched := sched, failAt := some k } spare minFactor defaultCap = .ok t ∧
      t ≤ data.length := by
  rw [(L1dIds_tied P sk bc hasPre).streamTransitions]
  exact C19_stream_transitions_fault P hP hne sk hsk data sched hs spare minFactor defaultCap hcap k

theorem L1e_stream_transitions (P : List (List UInt8)) (hP : P ≠ []) (hne : ∀ p ∈ P, p ≠ [])
    (hasPre bc : Bool) (dd : Nat) (hPl : P.length < 2147483648)
    (data : List UInt8) (sched : List Nat)
    (hs : ∀ x ∈ sched, 1 ≤ x) (spare : Option Nat) (minFactor defaultCap : Nat)
    (hcap : (Buffer.new (α := UInt8) (ideal .std P .both false).maxLen spare minFactor defaultCap).min <
        (Buffer.new (α := UInt8) (ideal .std P .both false).maxLen spare minFactor defaultCap).cap) :
    streamTransitions ((buildContig (CNfa.compile .std false P) dd bc hasPre).toAut .std P hasPre)
      { data := data, sched := sched } spare minFactor defaultCap = .ok data.length := by
  rw [(L1e_tied P hasPre bc dd hPl).streamTransitions]
  exact C19_stream_transitions P hP hne .both (Or.inl rfl) data sched hs spare minFactor defaultCap hcap

theorem L1e_stream_transitions_fault (P : List (List UInt8)) (hP : P ≠ []) (hne : ∀ p ∈ P, p ≠ [])
    (hasPre bc : Bool) (dd : Nat) (hPl : P.length < 2147483648)
    (data : List UInt8) (sched : List Nat)
    (hs : ∀ x ∈ sched, 1 ≤ x) (spare : Option Nat) (minFactor defaultCap : Nat)
    (hcap : (Buffer.new (α := UInt8) (ideal .std P .both false).maxLen spare minFactor defaultCap).min <
        (Buffer.new (α := UInt8) (ideal .std P .both false).maxLen spare minFactor defaultCap).cap)
    (k : Nat) :
    ∃ t, streamTransitions ((buildContig (CNfa.compile .std false P) dd bc hasPre).toAut .std P hasPre)
        { data := data, sched := sched, failAt := some k } spare minFactor defaultCap = .ok t ∧
      t ≤ data.length := by
  rw [(L1e_tied P hasPre bc dd hPl).streamTransitions]
  exact C19_stream_transitions_fault P hP hne .both (Or.inl rfl) data sched hs spare minFactor defaultCap hcap k

/-! ## the case-insensitive searcher

`L1cFold`, `L1dFold`, `L1dIdsFold`, `L1eFold`: the builders above run on the noncontiguous NFA
compiled with `ascii_case_insensitive(true)`. -/

theorem C19Fold_stream_transitions (P : List (List UInt8)) (_hP : P ≠ []) (hne : ∀ p ∈ P, p ≠ [])
    (sk : StartKind) (hsk : supportsAnch sk false) (data : List UInt8) (sched : List Nat)
    (hs : ∀ x ∈ sched, 1 ≤ x) (spare : Option Nat) (minFactor defaultCap : Nat)
    (hcap : HasRoom UInt8 ((ideal .std (P.map (·.map foldByte)) sk false).comap foldByte).maxLen
      spare minFactor defaultCap) :
    streamTransitions ((ideal .std (P.map (·.map foldByte)) sk false).comap foldByte)
      { data := data, sched := sched } spare minFactor defaultCap = .ok data.length :=
  (streamRef_comap _ foldByte sk hsk (MiscP.map_map_ne_nil foldByte hne) data spare minFactor defaultCap
    hcap).transitions_ok hs

theorem C19Fold_stream_transitions_fault (P : List (List UInt8)) (_hP : P ≠ [])
    (hne : ∀ p ∈ P, p ≠ [])
    (sk : StartKind) (hsk : supportsAnch sk false) (data : List UInt8) (sched : List Nat)
    (hs : ∀ x ∈ sched, 1 ≤ x) (spare : Option Nat) (minFactor defaultCap : Nat)
    (hcap : HasRoom UInt8 ((ideal .std (P.map (·.map foldByte)) sk false).comap foldByte).maxLen
      spare minFactor defaultCap)
    (k : Nat) :
    ∃ t, streamTransitions ((ideal .std (P.map (·.map foldByte)) sk false).comap foldByte)
        { data := data, sched := sched, failAt := some k } spare minFactor defaultCap = .ok t ∧
      t ≤ data.length := by
  obtain ⟨t, h1, h2, _⟩ :=
    (streamRef_comap _ foldByte sk hsk (MiscP.map_map_ne_nil foldByte hne) data spare minFactor defaultCap
      hcap).transitions hs (some k)
  exact ⟨t, h1, h2⟩

theorem L1cFold_stream_transitions (P : List (List UInt8)) (hP : P ≠ []) (hne : ∀ p ∈ P, p ≠ [])
    (hasPre : Bool)
    (data : List UInt8) (sched : List Nat)
    (hs : ∀ x ∈ sched, 1 ≤ x) (spare : Option Nat) (minFactor defaultCap : Nat)
    (hcap : (Buffer.new (α := UInt8) ((ideal .std (P.map (·.map foldByte)) .both false).comap foldByte).maxLen spare minFactor
          defaultCap).min <
        (Buffer.new (α := UInt8) ((ideal .std (P.map (·.map foldByte)) .both false).comap foldByte).maxLen spare minFactor
          defaultCap).cap) :
    streamTransitions ((CNfa.compile .std true P).toAut .std P hasPre)
      { data := data, sched := sched } spare minFactor defaultCap = .ok data.length := by
  rw [(L1cFold_tied P hasPre).streamTransitions]
  exact C19Fold_stream_transitions P hP hne .both (Or.inl rfl) data sched hs spare minFactor defaultCap hcap

theorem L1cFold_stream_transitions_fault (P : List (List UInt8)) (hP : P ≠ []) (hne : ∀ p ∈ P, p ≠ [])
    (hasPre : Bool)
    (data : List UInt8) (sched : List Nat)
    (hs : ∀ x ∈ sched, 1 ≤ x) (spare : Option Nat) (minFactor defaultCap : Nat)
    (hcap : (Buffer.new (α := UInt8) ((ideal .std (P.map (·.map foldByte)) .both false).comap foldByte).maxLen spare minFactor
          defaultCap).min <
        (Buffer.new (α := UInt8) ((ideal .std (P.map (·.map foldByte)) .both false).comap foldByte).maxLen spare minFactor
          defaultCap).cap)
    (k : Nat) :
    ∃ t, streamTransitions ((CNfa.compile .std true P).toAut .std P hasPre)
        { data := data, sched := sched, failAt := some k } spare minFactor defaultCap = .ok t ∧
      t ≤ data.length := by
  rw [(L1cFold_tied P hasPre).streamTransitions]
  exact C19Fold_stream_transitions_fault P hP hne .both (Or.inl rfl) data sched hs spare minFactor defaultCap hcap k

theorem L1dFold_stream_transitions (P : List (List UInt8)) (hP : P ≠ []) (hne : ∀ p ∈ P, p ≠ [])
    (hasPre bc : Bool) (sk : StartKind) (hsk : supportsAnch sk false)
    (data : List UInt8) (sched : List Nat)
    (hs : ∀ x ∈ sched, 1 ≤ x) (spare : Option Nat) (minFactor defaultCap : Nat)
    (hcap : (Buffer.new (α := UInt8) ((ideal .std (P.map (·.map foldByte)) sk false).comap foldByte).maxLen spare minFactor
          defaultCap).min <
        (Buffer.new (α := UInt8) ((ideal .std (P.map (·.map foldByte)) sk false).comap foldByte).maxLen spare minFactor
          defaultCap).cap) :
    streamTransitions ((buildDfa (CNfa.compile .std true P) sk bc).toAut .std P hasPre)
      { data := data, sched := sched } spare minFactor defaultCap = .ok data.length := by
  rw [(L1dFold_tied P hasPre bc sk).streamTransitions]
  exact C19Fold_stream_transitions P hP hne sk hsk data sched hs spare minFactor defaultCap hcap

theorem L1dFold_stream_transitions_fault (P : List (List UInt8)) (hP : P ≠ []) (hne : ∀ p ∈ P, p ≠ [])
    (hasPre bc : Bool) (sk : StartKind) (hsk : supportsAnch sk false)
    (data : List UInt8) (sched : List Nat)
    (hs : ∀ x ∈ sched, 1 ≤ x) (spare : Option Nat) (minFactor defaultCap : Nat)
    (hcap : (Buffer.new (α := UInt8) ((ideal .std (P.map (·.map foldByte)) sk false).comap foldByte).maxLen spare minFactor
          defaultCap).min <
        (Buffer.new (α := UInt8) ((ideal .std (P.map (·.map foldByte)) sk false).comap foldByte).maxLen spare minFactor
          defaultCap).cap)
    (k : Nat) :
    ∃ t, streamTransitions ((buildDfa (CNfa.compile .std true P) sk bc).toAut .std P hasPre)
        { data := data, sched := sched, failAt := some k } spare minFactor defaultCap = .ok t ∧
      t ≤ data.length := by
  rw [(L1dFold_tied P hasPre bc sk).streamTransitions]
  exact C19Fold_stream_transitions_fault P hP hne sk hsk data sched hs spare minFactor defaultCap hcap k

theorem L1dIdsFold_stream_transitions (P : List (List UInt8)) (hP : P ≠ []) (hne : ∀ p ∈ P, p ≠ [])
    (sk : StartKind) (bc hasPre : Bool) (hsk : supportsAnch sk false)
    (data : List UInt8) (sched : List Nat)
    (hs : ∀ x ∈ sched, 1 ≤ x) (spare : Option Nat) (minFactor defaultCap : Nat)
    (hcap : (Buffer.new (α := UInt8) ((ideal .std (P.map (·.map foldByte)) sk false).comap foldByte).maxLen spare minFactor
          defaultCap).min <
        (Buffer.new (α := UInt8) ((ideal .std (P.map (·.map foldByte)) sk false).comap foldByte).maxLen spare minFactor
          defaultCap).cap) :
    streamTransitions ((buildDfaIds (CNfa.compile .std true P) sk bc hasPre).toAut .std P hasPre)
      { data := data, sched := sched } spare minFactor defaultCap = .ok data.length := by
  rw [(L1dIdsFold_tied P sk bc hasPre).streamTransitions]
  exact C19Fold_stream_transitions P hP hne sk hsk data sched hs spare minFactor defaultCap hcap

theorem L1dIdsFold_stream_transitions_fault (P : List (List UInt8)) (hP : P ≠ []) (hne : ∀ p ∈ P, p ≠ [])
    (sk : StartKind) (bc hasPre : Bool) (hsk : supportsAnch sk false)
    (data : List UInt8) (sched : List Nat)
    (hs : ∀ x ∈ sched, 1 ≤ x) (spare : Option Nat) (minFactor defaultCap : Nat)
    (hcap : (Buffer.new (α := UInt8) ((ideal .std (P.map (·.map foldByte)) sk false).comap foldByte).maxLen spare minFactor
          defaultCap).min <
        (Buffer.new (α := UInt8) ((ideal .std (P.map (·.map foldByte)) sk false).comap foldByte).maxLen spare minFactor
          defaultCap).cap)
    (k : Nat) :
    ∃ t, streamTransitions ((buildDfaIds (CNfa.compile .std true P) sk bc hasPre).toAut .std P hasPre)
        { data := data, sched := sched, failAt := some k } spare minFactor defaultCap = .ok t ∧
      t ≤ data.length := by
  rw [(L1dIdsFold_tied P sk bc hasPre).streamTransitions]
  exact C19Fold_stream_transitions_fault P hP hne sk hsk data sched hs spare minFactor defaultCap hcap k

theorem L1eFold_stream_transitions (P : List (List UInt8)) (hP : P ≠ []) (hne : ∀ p ∈ P, p ≠ [])
    (hasPre bc : Bool) (dd : Nat) (hPl : P.length < 2147483648)
    (data : List UInt8) (sched : List Nat)
    (hs : ∀ x ∈ sched, 1 ≤ x) (spare : Option Nat) (minFactor defaultCap : Nat)
    (hcap : (Buffer.new (α := UInt8) ((ideal .std (P.map (·.map foldByte)) .both false).comap foldByte).maxLen spare minFactor
          defaultCap).min <
        (Buffer.new (α := UInt8) ((ideal .std (P.map (·.map foldByte)) .both false).comap foldByte).maxLen spare minFactor
          defaultCap).cap) :
    streamTransitions ((buildContig (CNfa.compile .std true P) dd bc hasPre).toAut .std P hasPre)
      { data := data, sched := sched } spare minFactor defaultCap = .ok data.length := by
  rw [(L1eFold_tied P hasPre bc dd hPl).streamTransitions]
  exact C19Fold_stream_transitions P hP hne .both (Or.inl rfl) data sched hs spare minFactor defaultCap hcap

theorem L1eFold_stream_transitions_fault (P : List (List UInt8)) (hP : P ≠ []) (hne : ∀ p ∈ P, p ≠ [])
    (hasPre bc : Bool) (dd : Nat) (hPl : P.length < 2147483648)
    (data : List UInt8) (sched : List Nat)
    (hs : ∀ x ∈ sched, 1 ≤ x) (spare : Option Nat) (minFactor defaultCap : Nat)
    (hcap : (Buffer.new (α := UInt8) ((ideal .std (P.map (·.map foldByte)) .both false).comap foldByte).maxLen spare minFactor
          defaultCap).min <
        (Buffer.new (α := UInt8) ((ideal .std (P.map (·.map foldByte)) .both false).comap foldByte).maxLen spare minFactor
          defaultCap).cap)
    (k : Nat) :
    ∃ t, streamTransitions ((buildContig (CNfa.compile .std true P) dd bc hasPre).toAut .std P hasPre)
        { data := data, sched := sched, failAt := some k } spare minFactor defaultCap = .ok t ∧
      t ≤ data.length := by
  rw [(L1eFold_tied P hasPre bc dd hPl).streamTransitions]
  exact C19Fold_stream_transitions_fault P hP hne .both (Or.inl rfl) data sched hs spare minFactor defaultCap hcap k

/-! ## non-vacuity -/

/-- the hypotheses are satisfiable: a match split across reads, capacity `min + 1` -/
example : streamTransitions (ideal .std [[1, 2, 3], [3, 4]] .both false)
    { data := [0, 1, 2, 3, 4, 1, 2, 3], sched := [2, 1, 3, 1] } (some 1) = .ok 8 :=
  C19_stream_transitions_default [[1, 2, 3], [3, 4]] (by decide) (by decide) .both (Or.inl rfl)
    [0, 1, 2, 3, 4, 1, 2, 3] [2, 1, 3, 1] (by decide) (some 1)

/-- … and evaluated -/
example : streamTransitions (ideal .std [[1, 2, 3], [3, 4]] .both false)
    { data := [0, 1, 2, 3, 4, 1, 2, 3], sched := [2, 1, 3, 1] } (some 1) = .ok 8 := by rfl

/-- with the third `read` failing only the bytes of the first two reads have been fed -/
example : streamTransitions (ideal .std [[1, 2, 3], [3, 4]] .both false)
    { data := [0, 1, 2, 3, 4, 1, 2, 3], sched := [2, 1, 3, 1], failAt := some 2 } (some 1) =
    .ok 3 := by rfl

/-- the transcribed DFA (byte classes, prefilter flag set) -/
example : streamTransitions
    ((buildDfa (CNfa.compile .std false [[1, 2, 3], [3, 4]]) .both true).toAut .std
      [[1, 2, 3], [3, 4]] true)
    { data := [0, 1, 2, 3, 4, 1, 2, 3], sched := [2, 1, 3, 1] } (some 1) 8 65536 = .ok 8 :=
  L1d_stream_transitions [[1, 2, 3], [3, 4]] (by decide) (by decide) true true .both (Or.inl rfl)
    [0, 1, 2, 3, 4, 1, 2, 3] [2, 1, 3, 1] (by decide) (some 1) 8 65536 (hcap_default _ _)

end AcVerif
