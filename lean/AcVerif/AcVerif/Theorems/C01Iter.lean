import AcVerif.Theorems.C01
/-!
# C01 – the non-overlapping iterator of the leftmost kinds

`find_iter` (Lean `findIter`) on the ideal leftmost automaton yields exactly the specification's
iterator over THE leftmost-longest / leftmost-first answers of the restarted
searches (both anchoring modes): repeat the search from the end of the
previous match; an empty match at the previous match's end is replaced by the
search from one position later.
-/
namespace AcVerif
open AcVerif.MiscP
variable {α : Type} [DecidableEq α]

theorem C01_iter_ll (P : List (List α)) (sk : StartKind) (i : Input α)
    (he : i.earliest = false) (h : supportsAnch sk i.anch) :
    ∃ F, (∀ st, st ≤ i.e + 1 → IsFind .ll P i.hay st i.e i.anch (F st)) ∧
      findIter (ideal .ll P sk false) none i = .ok (iterSpec F i.s i.e) :=
  EngP.iter_ideal .ll P sk i (Or.inr he) h

theorem C01_iter_lf (P : List (List α)) (sk : StartKind) (i : Input α)
    (he : i.earliest = false) (h : supportsAnch sk i.anch) :
    ∃ F, (∀ st, st ≤ i.e + 1 → IsFind .lf P i.hay st i.e i.anch (F st)) ∧
      findIter (ideal .lf P sk false) none i = .ok (iterSpec F i.s i.e) :=
  EngP.iter_ideal .lf P sk i (Or.inr he) h

theorem C01_iter_props (k : MatchKind) (hk : k = .ll ∨ k = .lf) (P : List (List α))
    (sk : StartKind) (i : Input α) (he : i.earliest = false) (h : supportsAnch sk i.anch) :
    ∃ l, findIter (ideal k P sk false) none i = .ok l ∧
      (∀ m ∈ l, IsOcc P i.hay i.s i.e m) ∧
      l.Pairwise (fun a b => a.stop < b.stop) ∧
      l.Pairwise (fun a b => a.stop ≤ b.start) :=
  EngP.iter_ideal_props k P sk i (Or.inr he) h

end AcVerif
