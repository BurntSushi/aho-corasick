import AcVerif.Proofs.LmTop
import AcVerif.Proofs.Earliest
import AcVerif.Theorems.C02
/-!
# C14 – earliest mode and `is_match`

With `earliest = true` a search of a leftmost kind reports a genuine admissible
occurrence, it reports one exactly when the normal search does, and it never ends
later than the normal match (`C14_earliest`).  `is_match` is a search in earliest
mode: it is true iff some pattern occurs in the span, respecting anchoring
(`C14_is_match_leftmost`; `C14_is_match_std` for the standard kind, where the flag
makes no difference).
-/
namespace AcVerif
variable {α : Type} [DecidableEq α]

theorem C14_earliest (k : MatchKind) (hk : k = .ll ∨ k = .lf) (P : List (List α))
    (sk : StartKind) (i : Input α) (h : supportsAnch sk i.anch) :
    ∃ r r', tryFindFwd (ideal k P sk false) none { i with earliest := true } = .ok r ∧
      tryFindFwd (ideal k P sk false) none { i with earliest := false } = .ok r' ∧
      r.isSome = r'.isSome ∧
      ∀ m, r = some m → IsOccA P i.hay i.s i.e i.anch m ∧
        ∀ m', r' = some m' → m.stop ≤ m'.stop := by
  obtain ⟨r, h1, hocc⟩ := LmP.find_isOcc k hk P sk { i with earliest := true } h
  obtain ⟨r', h2, _⟩ := LmP.find_isOcc k hk P sk { i with earliest := false } h
  have hkind : (ideal k P sk false).kind ≠ .std := by
    rcases hk with rfl | rfl <;> simp [ideal]
  obtain ⟨h3, h4⟩ := LmP.tryFind_earliest_cmp _ hkind i r r' h1 h2
  exact ⟨r, r', h1, h2, h3, fun m hm => ⟨hocc m hm, fun m' hm' => h4 m m' hm hm'⟩⟩

theorem C14_is_match_leftmost (k : MatchKind) (hk : k = .ll ∨ k = .lf) (P : List (List α))
    (sk : StartKind) (i : Input α) (h : supportsAnch sk i.anch) :
    ∃ r, tryFindFwd (ideal k P sk false) none { i with earliest := true } = .ok r ∧
      (r.isSome = true ↔ ∃ m, IsOccA P i.hay i.s i.e i.anch m) := by
  obtain ⟨r, r', h1, h2, h3, _⟩ := C14_earliest k hk P sk i h
  refine ⟨r, h1, ?_⟩
  rw [h3]
  obtain ⟨r'', h2', hf⟩ := EngP.find_ideal k P sk { i with earliest := false } (Or.inr rfl) h
  rw [h2] at h2'; cases h2'
  exact isFind_isSome_iff hf

theorem C14_is_match_std (P : List (List α)) (sk : StartKind) (i : Input α)
    (h : supportsAnch sk i.anch) :
    ∃ r, tryFindFwd (ideal .std P sk false) none { i with earliest := true } = .ok r ∧
      (r.isSome = true ↔ ∃ m, IsOccA P i.hay i.s i.e i.anch m) := by
  obtain ⟨r, h1, hf⟩ := C02_find P sk { i with earliest := true } h
  exact ⟨r, h1, isFind_isSome_iff hf⟩

/-! Non-vacuity (evaluation through the proved structural form `findQ`): earliest mode stops
at `[1]` while the normal leftmost-longest search extends to `[1,2,3]`. -/

example : tryFindFwd (ideal .ll [[1], [1, 2, 3], [1], [2]] .both false) none
    { hay := [0, 1, 2, 3], s := 0, e := 4, earliest := true, valid := by decide } =
    .ok (some ⟨0, 1, 2⟩) := by
  rw [LmP.tryFind_ideal _ (Or.inl rfl) _ _ _ (Or.inl rfl) (by decide)]; rfl

example : tryFindFwd (ideal .ll [[1], [1, 2, 3], [1], [2]] .both false) none
    { hay := [0, 1, 2, 3], s := 0, e := 4, earliest := false, valid := by decide } =
    .ok (some ⟨1, 1, 4⟩) := by
  rw [LmP.tryFind_ideal _ (Or.inl rfl) _ _ _ (Or.inl rfl) (by decide)]; rfl

/-- with an empty pattern the earliest match is the empty one at the span start -/
example : tryFindFwd (ideal .lf [[1, 2], [], [1, 2]] .both false) none
    { hay := [1, 2, 3], s := 0, e := 3, anch := true, earliest := true, valid := by decide } =
    .ok (some ⟨1, 0, 0⟩) := by
  rw [LmP.tryFind_ideal _ (Or.inr rfl) _ _ _ (Or.inl rfl) (by decide)]; rfl

end AcVerif
