import AcVerif.Proofs.EngFind
/-!
# C01 – unanchored, non-earliest search with the leftmost match kinds

`try_find_fwd` (Lean `tryFindFwd`) on the ideal leftmost automaton returns *the*
leftmost-longest (resp. leftmost-first) occurrence of the span, `none` iff there is none.
-/
namespace AcVerif
variable {α : Type} [DecidableEq α]

theorem C01_find_ll (P : List (List α)) (sk : StartKind) (i : Input α)
    (ha : i.anch = false) (he : i.earliest = false) (h : supportsAnch sk false) :
    ∃ r, tryFindFwd (ideal .ll P sk false) none i = .ok r ∧
      IsFind .ll P i.hay i.s i.e false r :=
  ha ▸ EngP.find_ideal .ll P sk i (Or.inr he) (ha ▸ h)

theorem C01_find_lf (P : List (List α)) (sk : StartKind) (i : Input α)
    (ha : i.anch = false) (he : i.earliest = false) (h : supportsAnch sk false) :
    ∃ r, tryFindFwd (ideal .lf P sk false) none i = .ok r ∧
      IsFind .lf P i.hay i.s i.e false r :=
  ha ▸ EngP.find_ideal .lf P sk i (Or.inr he) (ha ▸ h)

/-! Non-vacuity: nested, duplicate and empty patterns.  (`findLoop` is a well-founded
recursion, so the evaluation goes through the proved structural form `findQ`.) -/

/-- nested + duplicate patterns: leftmost start 1, longest there is `[1,2,3]` (id 4) -/
example : tryFindFwd (ideal .ll [[2], [1, 2], [1, 2], [3], [1, 2, 3], [1, 2, 3]] .both false) none
    { hay := [0, 1, 2, 3, 0], s := 0, e := 5, valid := by decide } =
    .ok (some ⟨4, 1, 4⟩) := by
  rw [LmP.tryFind_ideal _ (Or.inl rfl) _ _ _ (Or.inl rfl) (by decide)]; rfl

/-- same patterns, leftmost-first: the earliest supplied pattern at start 1 is `[1,2]` (id 1) -/
example : tryFindFwd (ideal .lf [[2], [1, 2], [1, 2], [3], [1, 2, 3], [1, 2, 3]] .both false) none
    { hay := [0, 1, 2, 3, 0], s := 0, e := 5, valid := by decide } =
    .ok (some ⟨1, 1, 3⟩) := by
  rw [LmP.tryFind_ideal _ (Or.inr rfl) _ _ _ (Or.inl rfl) (by decide)]; rfl

/-- with an empty pattern, on a sub-span: longest at the span start wins under `.ll` … -/
example : tryFindFwd (ideal .ll [[1], [], [1, 2], [1, 2]] .unanchored false) none
    { hay := [9, 1, 2, 3], s := 1, e := 4, valid := by decide } =
    .ok (some ⟨2, 1, 3⟩) := by
  rw [LmP.tryFind_ideal _ (Or.inl rfl) _ _ _ (Or.inr (Or.inl ⟨rfl, rfl⟩)) (by decide)]; rfl

/-- … and the first supplied one under `.lf`; the span end cuts longer patterns -/
example : tryFindFwd (ideal .lf [[1, 2, 3], [], [1, 2], [1]] .unanchored false) none
    { hay := [9, 1, 2, 3], s := 1, e := 3, valid := by decide } =
    .ok (some ⟨1, 1, 1⟩) := by
  rw [LmP.tryFind_ideal _ (Or.inr rfl) _ _ _ (Or.inr (Or.inl ⟨rfl, rfl⟩)) (by decide)]; rfl

end AcVerif
