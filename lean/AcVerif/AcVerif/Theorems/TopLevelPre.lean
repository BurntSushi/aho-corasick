import AcVerif.Theorems.TopLevel
/-!
# The capstone with prefilters: `AhoCorasick::builder()…build(patterns)` with `.prefilter(true)`

`Theorems/TopLevel.lean` treats searchers built without a prefilter.  Here the searcher carries the
prefilter `prefilter::Builder::build` returns (`acBuildP`, model `buildPrefilter`: memmem, start
bytes, rare bytes or a packed searcher, chosen by the heuristics of `util/prefilter.rs`), for
**every** frequency table, constant set and CPU feature combination.

* `TopP_overlapping_iter`, `TopP_stream_find_rejected`: the two method theorems of `TopLevel.lean`
  that `TopSpec` does not contain, for a searcher built with *any* sound prefilter function
  (`TopP_spec` in `TopLevel.lean` has the others).
* `Top_builder_prefilter_sound`: the prefilter the builder attaches always satisfies `PreOK` (and
  `PreOKOvl` for the standard kind) – composed from C05 (`C05_builder_sound(_fold)`,
  `C05_builder_sound_ovl(_fold)`), C06 (`C06_packed`) and `TopP.build_packed_exact` (a packed
  prefilter is the packed searcher of exactly the supplied patterns and the matching kind), so the
  hypothesis `hC06` of `C05_builder_sound` is discharged.
* `TopB_spec`, `TopB_capstone`: hence `TopSpec` holds for `acBuildP`, with no hypothesis about the
  prefilter.

`is_match` (a search in earliest mode) on a *leftmost* searcher with a confirming prefilter may
see the prefilter return the normal instead of the earliest match (documented in `C05_transparent`,
which therefore excludes that case); its truth value is unaffected
(`TopP.ref_is_match_pre`, `Proofs/TopLevelPreEarliest.lean`).  So the specification `TopSpec` of
`TopLevel.lean` holds verbatim for searchers with prefilters.  The stream search does not consult the
prefilter at all.
-/
namespace AcVerif
open AcVerif.TopP AcVerif.MiscP AcVerif.BuildP

/-! ## building -/

theorem TopB_build (K : Consts) (cfg : BuildCfg) (freq : UInt8 → Nat) (avx2 ssse3 : Bool)
    (P : List (List UInt8)) (hP : P.length ≤ 1000) (hT : totalLen P ≤ 1000000) :
    ∃ s, acBuildP {} K cfg freq avx2 ssse3 P = .ok s ∧ s.kind = chosenKind cfg P.length ∧
      s.pats = P ∧
      s.pre = (buildPrefilter K cfg.matchKind cfg.fold freq P avx2 ssse3).map PreChoice.findIn := by
  obtain ⟨s, h1, h2, h3, h4, _⟩ := TopP_build cfg
    ((buildPrefilter K cfg.matchKind cfg.fold freq P avx2 ssse3).map PreChoice.findIn) P hP hT
  exact ⟨s, h1, h2, h3, h4⟩

theorem Top_builder_prefilter_sound (K : Consts) (cfg : BuildCfg) (freq : UInt8 → Nat)
    (avx2 ssse3 : Bool) (P : List (List UInt8)) :
    PreOK cfg.fold cfg.matchKind P
        ((buildPrefilter K cfg.matchKind cfg.fold freq P avx2 ssse3).map PreChoice.findIn) ∧
    (cfg.matchKind = .std → PreOKOvl cfg.fold P
        ((buildPrefilter K cfg.matchKind cfg.fold freq P avx2 ssse3).map PreChoice.findIn)) := by
  refine ⟨builder_ok K cfg.matchKind cfg.fold freq P avx2 ssse3, fun hk => ?_⟩
  rw [hk]
  exact builder_ok_ovl K cfg.fold freq P avx2 ssse3

/-- what `PreOK` says, spelled out -/
theorem PreOK_iff (f : Bool) (k : MatchKind) (P : List (List UInt8))
    (pre : Option (Prefilter UInt8)) :
    PreOK f k P pre ↔ ∀ p, pre = some p →
      (∀ q ∈ P, q ≠ []) ∧ ∀ hay, PrefilterSoundAt k (specPats f P) (p hay) (specHay f hay) := by
  cases pre with
  | none => exact ⟨fun _ p hp => (by cases hp), fun _ => trivial⟩
  | some p =>
    exact ⟨fun h q hq => (by cases hq; exact h), fun h => h p rfl⟩

/-! ## the methods outside `TopSpec`, for any sound prefilter -/

section anypre
variable (cfg : BuildCfg) (pre : Option (Prefilter UInt8)) (P : List (List UInt8)) {s : Searcher}
  (hs : acBuild {} cfg pre P = .ok s)
include hs

/-- **`try_find_overlapping_iter`**, drained with enough calls -/
theorem TopP_overlapping_iter (hok : cfg.matchKind = .std → PreOKOvl cfg.fold P pre)
    (i : Input UInt8) :
    (supportsAnch cfg.startKind i.anch → cfg.matchKind = .std → i.anch = false →
      ∃ l, IsOverlapList (specPats cfg.fold P) (specHay cfg.fold i.hay) i.s i.e i.anch l ∧
        ∀ fuel, l.length < fuel → topOverlappingIter s i fuel = .ok l) ∧
    (∀ fuel,
      (¬ supportsAnch cfg.startKind i.anch →
        topOverlappingIter s i fuel = .error (anchErr i.anch)) ∧
      (supportsAnch cfg.startKind i.anch → cfg.matchKind ≠ .std →
        topOverlappingIter s i fuel = .error .unsupportedOverlapping) ∧
      (supportsAnch cfg.startKind i.anch → cfg.matchKind = .std → i.anch = true →
        topOverlappingIter s i fuel = .error .invalidInputAnchored)) := by
  obtain ⟨b, rfl, hg⟩ := acBuild_eq (Nat.le_refl _) hs
  exact api_overlap_iter hg hok i

theorem TopP_stream_find_rejected (rdr : Reader UInt8) (spare : Option Nat)
    (minFactor defaultCap : Nat) :
    (¬ supportsAnch cfg.startKind false →
      topStreamFind s rdr spare minFactor defaultCap = .error .invalidInputUnanchored) ∧
    (supportsAnch cfg.startKind false → cfg.matchKind ≠ .std →
      topStreamFind s rdr spare minFactor defaultCap = .error .unsupportedStream) ∧
    (supportsAnch cfg.startKind false → cfg.matchKind = .std → [] ∈ P →
      topStreamFind s rdr spare minFactor defaultCap = .error .unsupportedEmpty) := by
  obtain ⟨b, rfl, _⟩ := acBuild_eq (Nat.le_refl _) hs
  exact api_stream_err ⟨{ cfg with hasPre := pre.isSome }, P, b, pre⟩ rdr spare minFactor defaultCap

end anypre

/-! ## the searcher with the builder's own prefilter -/

/-- whatever a successful build **with the builder's prefilter** returns meets the specification,
for every frequency table, constant set and CPU feature combination -/
theorem TopB_spec (K : Consts) (cfg : BuildCfg) (freq : UInt8 → Nat) (avx2 ssse3 : Bool)
    (P : List (List UInt8)) {s : Searcher}
    (hs : acBuildP {} K cfg freq avx2 ssse3 P = .ok s) : TopSpec cfg P s :=
  TopP_spec cfg _ P hs (Top_builder_prefilter_sound K cfg freq avx2 ssse3 P).1
    (Top_builder_prefilter_sound K cfg freq avx2 ssse3 P).2

/-- **The capstone, with prefilters.**  For every configuration, every frequency table, constant
set and CPU feature combination, and every collection of at most 1000 patterns with at most 10^6
bytes in total, the build with the builder's own prefilter succeeds, with the kind the
configuration asks for, and the public search methods answer as the specification says. -/
theorem TopB_capstone (K : Consts) (cfg : BuildCfg) (freq : UInt8 → Nat) (avx2 ssse3 : Bool)
    (P : List (List UInt8)) (hP : P.length ≤ 1000) (hT : totalLen P ≤ 1000000) :
    ∃ s, acBuildP {} K cfg freq avx2 ssse3 P = .ok s ∧ s.kind = chosenKind cfg P.length ∧
      TopSpec cfg P s := by
  obtain ⟨s, hs, hk, _⟩ := TopB_build K cfg freq avx2 ssse3 P hP hT
  exact ⟨s, hs, hk, TopB_spec K cfg freq avx2 ssse3 P hs⟩

end AcVerif
