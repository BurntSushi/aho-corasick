import AcVerif.Proofs.Layers
import AcVerif.Proofs.CompilerRun
import AcVerif.Theorems.C01
import AcVerif.Theorems.C02
import AcVerif.Theorems.C03
import AcVerif.Proofs.SearchEquiv
/-!
# L1c – the transcribed noncontiguous-NFA compiler agrees with the ideal automaton

`CNfa.compile k false P` (trie construction with the leftmost-first skipping rule, the two start
states, the breadth-first failure/match-list phase with its queue, the leftmost `DEAD` links and
`close_start_state_loop_for_leftmost`) followed by `CNfa.nextState` (failure-link chasing) is, for
**every** pattern list `P`, match kind `k` and both anchoring modes, observationally equivalent to
the closed-form ideal automaton `ideal k P .both hasPre` (L1): equal flags and equal *ordered*
match lists after every byte string (`L1c_obsEquiv`, `L1c_startEquiv`; for both values of `fold`:
`L1cG_obsEquiv`, `L1cG_searchEquiv` in `Proofs/Layers.lean`), and `next_state` follows
exactly `Ideal.hops` failure links at every reachable state (`L1c_hops`).  Hence every engine
result transfers (`L1c_find`, `L1c_overlap`, `L1c_overlap_iter`, `L1c_iter`) and the compiled
automaton inherits the correctness theorems C01–C03 (`L1c_find_std`, `L1c_find_ll`,
`L1c_find_lf`, `L1c_overlap_calls`).

Structure of the proof (`AcVerif/Proofs/Compiler*.lean`, namespace `AcVerif.L1cP`; the
compile-time part is carried out once for both values of `fold`): `buildTrie_specG` (trie phase
invariant `TIg`), `PBg_startPhase`, `fillFailure_specG` (data invariant `FI`, queue invariants
`QI`/`QI'`/`SI`), `compile_specG` (final specification `NfaSpec g`, of which `FS` and `FSf` are the
instances `g = id`, `g = foldByte` written out); the run-time part is proved for `NfaSpec g`:
`NfaSpec.run_step` (one `next_state` call = the model's failure walk),
`NfaSpec.Rel_step`/`NfaSpec.Rel_mats` (simulation relation `Rel`), `NfaSpec.run`,
`NfaSpec.startEquiv`, `NfaSpec.nextState_run` (`Proofs/CompilerRun.lean`).
-/
namespace AcVerif
open AcVerif.L1cP AcVerif.CNfa

/-! ## `N = CNfa.compile k fold P`, for both settings of `ascii_case_insensitive`: the ideal
automaton of the patterns mapped by `foldIf fold`, fed `foldIf fold b` -/

theorem L1cG_nextState_run (k : MatchKind) (fold : Bool) (P : List (List UInt8)) (hasPre : Bool)
    (w : List UInt8) (c : UInt8) :
    ∃ L, NfaSpec (foldIf fold) k (patSet k (P.map (List.map (foldIf fold)))) L
        (CNfa.compile k fold P) ∧
      CNfa.nextState (CNfa.compile k fold P) false ((CNfa.compile k fold P).size + 1)
          (((CNfa.compile k fold P).toAut k P hasPre).runFrom false CNfa.SU w) c 0 =
        (sidOf L (Ideal.next k (patSet k (P.map (List.map (foldIf fold)))) false
            (((ideal k (P.map (List.map (foldIf fold))) .both hasPre).comap (foldIf fold)).runFrom
              false (.at []) w) (foldIf fold c)),
          Ideal.hops k (patSet k (P.map (List.map (foldIf fold)))) false
            (((ideal k (P.map (List.map (foldIf fold))) .both hasPre).comap (foldIf fold)).runFrom
              false (.at []) w) (foldIf fold c)) := by
  obtain ⟨L, h⟩ := compile_specG k fold P
  exact ⟨L, h, h.nextState_run P hasPre w c⟩

/-! ## `fold = false` -/

/-- the compiled NFA and the ideal automaton are observationally equivalent from their start
states: equal flags and equal ORDERED match lists after every byte string, for both anchoring
modes -/
theorem L1c_obsEquiv (k : MatchKind) (P : List (List UInt8)) (hasPre : Bool) (anch : Bool) :
    ObsEquiv ((CNfa.compile k false P).toAut k P hasPre) (ideal k P .both hasPre) false anch
      (if anch then CNfa.SA else CNfa.SU) (.at []) := by
  have := L1cG_obsEquiv k false P hasPre anch
  rwa [List.map_id'' map_foldIf_false] at this

theorem L1c_searchEquiv (k : MatchKind) (P : List (List UInt8)) (hasPre : Bool) :
    SearchEquiv ((CNfa.compile k false P).toAut k P hasPre) (ideal k P .both hasPre) := by
  have := L1cG_searchEquiv k false P hasPre
  rwa [List.map_id'' map_foldIf_false] at this

/-- hence `StartEquiv`, so every engine result transfers -/
theorem L1c_startEquiv (k : MatchKind) (P : List (List UInt8)) (hasPre : Bool) (anch : Bool) :
    StartEquiv ((CNfa.compile k false P).toAut k P hasPre) (ideal k P .both hasPre) false anch :=
  (L1c_searchEquiv k P hasPre).start anch

/-- the number of failure links followed by `next_state` equals the ideal chain length, at every
reachable state -/
theorem L1c_hops (k : MatchKind) (P : List (List UInt8)) (hasPre : Bool) (w : List UInt8)
    (c : UInt8) :
    (CNfa.nextState (CNfa.compile k false P) false ((CNfa.compile k false P).size + 1)
        (((CNfa.compile k false P).toAut k P hasPre).runFrom false CNfa.SU w) c 0).2 =
      Ideal.hops k (patSet k P) false ((ideal k P .both hasPre).runFrom false (.at []) w) c := by
  obtain ⟨L, _, h⟩ := L1cG_nextState_run k false P hasPre w c
  rw [List.map_id'' map_foldIf_false] at h
  exact congrArg Prod.snd h

/-- … and the state it returns is the model's next state (the other half of `C19_hops_sound`) -/
theorem L1c_next (k : MatchKind) (P : List (List UInt8)) (hasPre : Bool) (w : List UInt8)
    (c : UInt8) : ∃ L, FS k (patSet k P) L (CNfa.compile k false P) ∧
      (CNfa.nextState (CNfa.compile k false P) false ((CNfa.compile k false P).size + 1)
        (((CNfa.compile k false P).toAut k P hasPre).runFrom false CNfa.SU w) c 0).1 =
      sidOf L (Ideal.next k (patSet k P) false
        ((ideal k P .both hasPre).runFrom false (.at []) w) c) := by
  obtain ⟨L, hS, h⟩ := L1cG_nextState_run k false P hasPre w c
  rw [List.map_id'' map_foldIf_false] at hS h
  exact ⟨L, hS.toFS, congrArg Prod.fst h⟩

/-! ## corollaries: every search result transfers -/

theorem L1c_find (k : MatchKind) (P : List (List UInt8)) (hasPre : Bool)
    (pre : Option (Prefilter UInt8)) (i : Input UInt8) :
    tryFindFwd ((CNfa.compile k false P).toAut k P hasPre) pre i =
      tryFindFwd (ideal k P .both hasPre) pre i :=
  (L1c_searchEquiv k P hasPre).find pre i

theorem L1c_iter (k : MatchKind) (P : List (List UInt8)) (hasPre : Bool)
    (pre : Option (Prefilter UInt8)) (i : Input UInt8) :
    findIter ((CNfa.compile k false P).toAut k P hasPre) pre i =
      findIter (ideal k P .both hasPre) pre i :=
  (L1c_searchEquiv k P hasPre).iter pre i

theorem L1c_overlap (k : MatchKind) (P : List (List UInt8)) (hasPre : Bool)
    (pre : Option (Prefilter UInt8)) (i : Input UInt8) (n : Nat) :
    ovlCalls ((CNfa.compile k false P).toAut k P hasPre) pre i n OState.start =
      ovlCalls (ideal k P .both hasPre) pre i n OState.start :=
  (L1c_searchEquiv k P hasPre).overlap pre i n

theorem L1c_overlap_iter (k : MatchKind) (P : List (List UInt8)) (hasPre : Bool)
    (pre : Option (Prefilter UInt8)) (i : Input UInt8) (fuel : Nat) :
    ovlIterAux ((CNfa.compile k false P).toAut k P hasPre) pre i fuel OState.start =
      ovlIterAux (ideal k P .both hasPre) pre i fuel OState.start :=
  (L1c_searchEquiv k P hasPre).overlap_iter pre i fuel

/-! ## … and the compiled automaton meets the specification -/

/-- standard semantics (C02): the search on the compiled NFA returns the specified match -/
theorem L1c_find_std (P : List (List UInt8)) (i : Input UInt8) :
    ∃ r, tryFindFwd ((CNfa.compile .std false P).toAut .std P false) none i = .ok r ∧
      IsFind .std P i.hay i.s i.e i.anch r := by
  rw [L1c_find]
  exact C02_find P .both i (Or.inl rfl)

/-- leftmost-longest (C01, which is stated for the unanchored search: hence `ha`, here and in
`L1c_find_lf`; `EngP.find_ideal` behind it has both modes) -/
theorem L1c_find_ll (P : List (List UInt8)) (i : Input UInt8) (ha : i.anch = false)
    (he : i.earliest = false) :
    ∃ r, tryFindFwd ((CNfa.compile .ll false P).toAut .ll P false) none i = .ok r ∧
      IsFind .ll P i.hay i.s i.e false r := by
  rw [L1c_find]
  exact C01_find_ll P .both i ha he (Or.inl rfl)

/-- leftmost-first (C01) -/
theorem L1c_find_lf (P : List (List UInt8)) (i : Input UInt8) (ha : i.anch = false)
    (he : i.earliest = false) :
    ∃ r, tryFindFwd ((CNfa.compile .lf false P).toAut .lf P false) none i = .ok r ∧
      IsFind .lf P i.hay i.s i.e false r := by
  rw [L1c_find]
  exact C01_find_lf P .both i ha he (Or.inl rfl)

/-- overlapping search (C03) -/
theorem L1c_overlap_calls (P : List (List UInt8)) (i : Input UInt8) :
    ∃ l, IsOverlapList P i.hay i.s i.e i.anch l ∧
      ∀ n, ovlCalls ((CNfa.compile .std false P).toAut .std P false) none i n OState.start =
        (l.take n).map (fun m => Except.ok (some m)) ++
          List.replicate (n - l.length) (Except.ok none) := by
  obtain ⟨l, h1, h2⟩ := C03_calls P .both i (Or.inl rfl)
  exact ⟨l, h1, fun n => by rw [L1c_overlap]; exact h2 n⟩

/-! ## non-vacuity: `he`, `she`-like nesting (`[1,2]`, `[2]`) -/

/-- states: 4 = `1`, 5 = `12`, 6 = `2`; failure links 4 → start, 5 → 6, 6 → start -/
example : ((CNfa.compile .std false [[1, 2], [2]]).toList.map (·.fail)) = [2, 2, 2, 0, 2, 6, 2] := by
  decide +kernel

/-- match lists: `12` reports pattern 0 then (via its failure link) pattern 1 -/
example : ((CNfa.compile .std false [[1, 2], [2]]).toList.map (·.matches_)) =
    [[], [], [], [], [], [0, 1], [1]] := by decide +kernel

/-- leftmost-first: `[1]` shadows `[1, 2]` (skipped), and the node of a match gets a `DEAD` link -/
example : ((CNfa.compile .lf false [[1], [1, 2], [2, 1]]).toList.map fun s => (s.fail, s.matches_)) =
    [(2, []), (2, []), (2, []), (0, []), (0, [0]), (2, []), (0, [2])] := by decide +kernel

/-- run time: after `1 2` the automaton is in state 5; on byte `1` it follows two failure links
(5 → 6 → start) and takes the start state's transition to state 4 -/
example :
    ((CNfa.compile .std false [[1, 2], [2]]).toAut .std [[1, 2], [2]] false).runFrom false
        CNfa.SU [1, 2] = 5 ∧
      CNfa.nextState (CNfa.compile .std false [[1, 2], [2]]) false 8 5 1 0 = (4, 2) := by decide +kernel

end AcVerif
