import AcVerif.Theorems.C08
/-!
# C18 – faults

* A reader that fails at its `k`-th `read` call: the invariant of
  `StreamChunkIter` holds whatever the fault index is, so the matches yielded
  before the error are a prefix of the fault-free sequence, and if no error is
  reported the sequences are equal.  `read` is never called with an empty buffer.
* A writer that fails after `l` bytes: the replace loop stops at the first
  failed `write_all`; what was accepted is a prefix (of length `≤ l`) of the
  fault-free output, equal to it if no error is reported.

Both are `StreamRef.read_fault` / `StreamRef.write_fault` at the instance `streamRef_ideal`.
-/
namespace AcVerif
open AcVerif.StreamP AcVerif.StdP
variable {α : Type} [DecidableEq α]

/-- a read failure at call `k`: what was yielded before is a prefix of the
fault-free sequence; without a reported error nothing is lost
(any buffer constants with `min < cap`) -/
theorem C18_read_fault (P : List (List α)) (_hP : P ≠ []) (hne : ∀ p ∈ P, p ≠ [])
    (sk : StartKind) (hsk : supportsAnch sk false) (data : List α) (sched : List Nat)
    (hs : ∀ x ∈ sched, 1 ≤ x) (spare : Option Nat) (minFactor defaultCap : Nat)
    (hcap : (Buffer.new (α := α) (ideal .std P sk false).maxLen spare minFactor defaultCap).min <
        (Buffer.new (α := α) (ideal .std P sk false).maxLen spare minFactor defaultCap).cap)
    (k : Nat) :
    ∃ ms ms' err er,
      streamFind (ideal .std P sk false) { data := data, sched := sched } spare
        minFactor defaultCap =
        .ok (ms, false, 0) ∧
      streamFind (ideal .std P sk false) { data := data, sched := sched, failAt := some k } spare
        minFactor defaultCap =
        .ok (ms', err, er) ∧
      ms' <+: ms ∧ er = 0 ∧ (err = false → ms' = ms) :=
  (streamRef_ideal P sk hsk hne data spare minFactor defaultCap hcap).read_fault hs k

/-- a writer that fails after `l` bytes: the bytes accepted are a prefix of the
fault-free output (any buffer constants with `min < cap`) -/
theorem C18_write_fault (P : List (List α)) (_hP : P ≠ []) (hne : ∀ p ∈ P, p ≠ [])
    (sk : StartKind) (hsk : supportsAnch sk false) (data : List α) (sched : List Nat)
    (hs : ∀ x ∈ sched, 1 ≤ x) (spare : Option Nat) (minFactor defaultCap : Nat)
    (hcap : (Buffer.new (α := α) (ideal .std P sk false).maxLen spare minFactor defaultCap).min <
        (Buffer.new (α := α) (ideal .std P sk false).maxLen spare minFactor defaultCap).cap)
    (repl : Mat → List α) (l : Nat) :
    ∃ w w' log log' ok',
      streamReplaceWith (ideal .std P sk false) { data := data, sched := sched } spare {} repl
        minFactor defaultCap =
        .ok (w, log, true, 0) ∧
      streamReplaceWith (ideal .std P sk false) { data := data, sched := sched } spare
        { limit := some l } repl minFactor defaultCap = .ok (w', log', ok', 0) ∧
      w'.out <+: w.out ∧ w'.out.length ≤ l ∧ (ok' = true → w'.out = w.out) :=
  (streamRef_ideal P sk hsk hne data spare minFactor defaultCap hcap).write_fault hs repl l

/-! ## corollaries

`hcap` holds for the default constants (factor 8, 64 KiB), for the production-shaped capacity `max (min * minFactor) defaultCap` with any `minFactor ≥ 2`, and for
explicit spare room (capacity `min + max 1 sp`) whatever the constants -/

theorem C18_read_fault_default (P : List (List α)) (_hP : P ≠ []) (hne : ∀ p ∈ P, p ≠ [])
    (sk : StartKind) (hsk : supportsAnch sk false) (data : List α) (sched : List Nat)
    (hs : ∀ x ∈ sched, 1 ≤ x) (spare : Option Nat) (k : Nat) :
    ∃ ms ms' err er,
      streamFind (ideal .std P sk false) { data := data, sched := sched } spare =
        .ok (ms, false, 0) ∧
      streamFind (ideal .std P sk false) { data := data, sched := sched, failAt := some k } spare =
        .ok (ms', err, er) ∧
      ms' <+: ms ∧ er = 0 ∧ (err = false → ms' = ms) :=
  C18_read_fault P _hP hne sk hsk data sched hs spare 8 (64 * 1024) (hcap_default _ spare) k

theorem C18_read_fault_factor (P : List (List α)) (_hP : P ≠ []) (hne : ∀ p ∈ P, p ≠ [])
    (sk : StartKind) (hsk : supportsAnch sk false) (data : List α) (sched : List Nat)
    (hs : ∀ x ∈ sched, 1 ≤ x) (minFactor defaultCap : Nat) (hf : 2 ≤ minFactor)
    (k : Nat) :
    ∃ ms ms' err er,
      streamFind (ideal .std P sk false) { data := data, sched := sched } none
        minFactor defaultCap =
        .ok (ms, false, 0) ∧
      streamFind (ideal .std P sk false) { data := data, sched := sched, failAt := some k } none
        minFactor defaultCap =
        .ok (ms', err, er) ∧
      ms' <+: ms ∧ er = 0 ∧ (err = false → ms' = ms) :=
  C18_read_fault P _hP hne sk hsk data sched hs none minFactor defaultCap
    (hcap_factor _ minFactor defaultCap hf) k

theorem C18_read_fault_spare (P : List (List α)) (_hP : P ≠ []) (hne : ∀ p ∈ P, p ≠ [])
    (sk : StartKind) (hsk : supportsAnch sk false) (data : List α) (sched : List Nat)
    (hs : ∀ x ∈ sched, 1 ≤ x) (sp minFactor defaultCap : Nat) (k : Nat) :
    ∃ ms ms' err er,
      streamFind (ideal .std P sk false) { data := data, sched := sched } (some sp)
        minFactor defaultCap =
        .ok (ms, false, 0) ∧
      streamFind (ideal .std P sk false) { data := data, sched := sched, failAt := some k }
        (some sp) minFactor defaultCap =
        .ok (ms', err, er) ∧
      ms' <+: ms ∧ er = 0 ∧ (err = false → ms' = ms) :=
  C18_read_fault P _hP hne sk hsk data sched hs (some sp) minFactor defaultCap
    (hcap_spare _ sp minFactor defaultCap) k

theorem C18_write_fault_default (P : List (List α)) (_hP : P ≠ []) (hne : ∀ p ∈ P, p ≠ [])
    (sk : StartKind) (hsk : supportsAnch sk false) (data : List α) (sched : List Nat)
    (hs : ∀ x ∈ sched, 1 ≤ x) (spare : Option Nat) (repl : Mat → List α) (l : Nat) :
    ∃ w w' log log' ok',
      streamReplaceWith (ideal .std P sk false) { data := data, sched := sched } spare {} repl =
        .ok (w, log, true, 0) ∧
      streamReplaceWith (ideal .std P sk false) { data := data, sched := sched } spare
        { limit := some l } repl = .ok (w', log', ok', 0) ∧
      w'.out <+: w.out ∧ w'.out.length ≤ l ∧ (ok' = true → w'.out = w.out) :=
  C18_write_fault P _hP hne sk hsk data sched hs spare 8 (64 * 1024) (hcap_default _ spare) repl l

theorem C18_write_fault_factor (P : List (List α)) (_hP : P ≠ []) (hne : ∀ p ∈ P, p ≠ [])
    (sk : StartKind) (hsk : supportsAnch sk false) (data : List α) (sched : List Nat)
    (hs : ∀ x ∈ sched, 1 ≤ x) (minFactor defaultCap : Nat) (hf : 2 ≤ minFactor)
    (repl : Mat → List α) (l : Nat) :
    ∃ w w' log log' ok',
      streamReplaceWith (ideal .std P sk false) { data := data, sched := sched } none {} repl
        minFactor defaultCap =
        .ok (w, log, true, 0) ∧
      streamReplaceWith (ideal .std P sk false) { data := data, sched := sched } none
        { limit := some l } repl minFactor defaultCap = .ok (w', log', ok', 0) ∧
      w'.out <+: w.out ∧ w'.out.length ≤ l ∧ (ok' = true → w'.out = w.out) :=
  C18_write_fault P _hP hne sk hsk data sched hs none minFactor defaultCap
    (hcap_factor _ minFactor defaultCap hf) repl l

theorem C18_write_fault_spare (P : List (List α)) (_hP : P ≠ []) (hne : ∀ p ∈ P, p ≠ [])
    (sk : StartKind) (hsk : supportsAnch sk false) (data : List α) (sched : List Nat)
    (hs : ∀ x ∈ sched, 1 ≤ x) (sp minFactor defaultCap : Nat)
    (repl : Mat → List α) (l : Nat) :
    ∃ w w' log log' ok',
      streamReplaceWith (ideal .std P sk false) { data := data, sched := sched } (some sp) {} repl
        minFactor defaultCap =
        .ok (w, log, true, 0) ∧
      streamReplaceWith (ideal .std P sk false) { data := data, sched := sched } (some sp)
        { limit := some l } repl minFactor defaultCap = .ok (w', log', ok', 0) ∧
      w'.out <+: w.out ∧ w'.out.length ≤ l ∧ (ok' = true → w'.out = w.out) :=
  C18_write_fault P _hP hne sk hsk data sched hs (some sp) minFactor defaultCap
    (hcap_spare _ sp minFactor defaultCap) repl l

/-! ## non-vacuity: a match split across reads, capacity `min + 1` -/

/-- the hypotheses are satisfiable -/
example : ∃ ms ms' err er,
    streamFind (ideal .std [[1, 2, 3], [3, 4]] .both false)
      { data := [0, 1, 2, 3, 4, 1, 2, 3], sched := [2, 1, 3, 1] } (some 1) = .ok (ms, false, 0) ∧
    streamFind (ideal .std [[1, 2, 3], [3, 4]] .both false)
      { data := [0, 1, 2, 3, 4, 1, 2, 3], sched := [2, 1, 3, 1], failAt := some 3 } (some 1) =
      .ok (ms', err, er) ∧
    ms' <+: ms ∧ er = 0 ∧ (err = false → ms' = ms) :=
  C18_read_fault_default [[1, 2, 3], [3, 4]] (by decide) (by decide) .both (Or.inl rfl)
    [0, 1, 2, 3, 4, 1, 2, 3] [2, 1, 3, 1] (by decide) (some 1) 3

/-- the general theorem's `hcap` is satisfiable with non-default constants
(factor 2, default capacity 0: a 6-byte buffer for `min = 3`) -/
example : ∃ ms ms' err er,
    streamFind (ideal .std [[1, 2, 3], [3, 4]] .both false)
      { data := [0, 1, 2, 3, 4, 1, 2, 3], sched := [2, 1, 3, 1] } none 2 0 = .ok (ms, false, 0) ∧
    streamFind (ideal .std [[1, 2, 3], [3, 4]] .both false)
      { data := [0, 1, 2, 3, 4, 1, 2, 3], sched := [2, 1, 3, 1], failAt := some 3 } none 2 0 =
      .ok (ms', err, er) ∧
    ms' <+: ms ∧ er = 0 ∧ (err = false → ms' = ms) :=
  C18_read_fault [[1, 2, 3], [3, 4]] (by decide) (by decide) .both (Or.inl rfl)
    [0, 1, 2, 3, 4, 1, 2, 3] [2, 1, 3, 1] (by decide) none 2 0 (by decide) 3

/-- the fourth `read` call fails: the first match (split across the first two
reads) has been yielded, the error is reported -/
example : streamFind (ideal .std [[1, 2, 3], [3, 4]] .both false)
    { data := [0, 1, 2, 3, 4, 1, 2, 3], sched := [2, 1, 3, 1], failAt := some 3 } (some 1) =
    .ok ([⟨0, 1, 4⟩], true, 0) := by rfl

/-- a read call that is never made does not fail -/
example : streamFind (ideal .std [[1, 2, 3], [3, 4]] .both false)
    { data := [0, 1, 2, 3, 4, 1, 2, 3], sched := [2, 1, 3, 1], failAt := some 20 } (some 1) =
    .ok ([⟨0, 1, 4⟩, ⟨0, 5, 8⟩], false, 0) := by rfl

/-- a writer accepting 4 bytes: `[0, 9, 0, 4]` of `[0, 9, 0, 4, 9, 0]` -/
example : streamReplaceWith (ideal .std [[1, 2, 3], [3, 4]] .both false)
    { data := [0, 1, 2, 3, 4, 1, 2, 3], sched := [2, 1, 3, 1] } (some 1) { limit := some 4 }
    (fun m => [9, m.pid]) =
    .ok ({ out := [0, 9, 0, 4], limit := some 4 },
      [(⟨0, 1, 4⟩, [1, 2, 3]), (⟨0, 5, 8⟩, [1, 2, 3])], false, 0) := by rfl

end AcVerif
