import AcVerif.ContigChecked
import AcVerif.Proofs.ContigSafeStep
import AcVerif.Theorems.L1e
import AcVerif.Proofs.TableEval
/-!
# L1eSafe – no search on the contiguous NFA indexes `repr` out of range (C15, memory side)

`ContigModel.lean` reads the `u32` words of the contiguous NFA with the totalised `getD i 0`; the
Rust code (`nfa/contiguous.rs`) indexes the vector and panics when an index is out of range.
`ContigChecked.lean` repeats `next_state`, `match_len` and `match_pattern` with every read done
through `repr[i]?` (one checked read per Rust index expression, see the table there).  Here: for
**every** pattern list `P`, match kind, dense depth, both settings of `byte_classes`, with or
without prefilter, both anchoring modes, and the state `q` reached from the start state after
**any** byte string `w`:

* `L1eSafe_state_in_range`: `q` and `q + 1` are valid indices of `repr` (the kind word and the
  failure link of a state), and `q ≠ 1`.  State ids of the contiguous NFA are offsets into `repr`;
  `DEAD = 0` IS an offset (a dense state all of whose transitions are `DEAD` is written at offset
  0), whereas `FAIL = 1` is not the offset of any state and is never reached – it only occurs as
  the "no transition" sentinel inside dense rows.
* `L1eSafe_next`: for every byte `b` the checked `next_state` with fuel `repr.size + 1` returns
  `some` of the totalised transition: no index is out of range along the whole failure chain
  (kind word, dense entry, the class-word slice `repr[o + 2..][..classes_len]`, the target word
  `repr[trans_offset + i * 4 + j]`, the failure link `repr[o + 1]`), and the loop terminates
  within `repr.size + 1` iterations.  The subtle read is the target word of a sparse state: the
  last class word is padded by repeating the last class, and the target slots of padding lanes
  lie beyond the `trans_len` targets (in the match words or in the NEXT state, or beyond the end
  of `repr` for the last state); `sparseIdx_spec` shows the scan always stops at a real lane.
* `L1eSafe_match_reads`: at a match state (`is_match(q)`) all reads of `match_len` and of
  `match_pattern(q, i)` for every `i < match_len(q)` are in range;
  `L1eSafe_match` (`P.length < 2^31`, the `PatternID` limit): moreover the list is non-empty and
  every id is `< P.length` (so `pattern_lens[pid]` is in range).
* `L1eSafe_inbounds`: all of the above in one statement.

`L1eSafeG_inbounds` is the statement for both settings of `ascii_case_insensitive`, the `L1eSafe_*`
theorems are its parts for `compile k false P`; the proofs (`Proofs/ContigSafe*.lean`,
`contig_inbounds`) are about any NFA with a set of states meeting `NLive` and `CLive`.
-/
namespace AcVerif
open AcVerif.L1cP AcVerif.L1dP AcVerif.L1eP AcVerif.L1cIdsP AcVerif.CNfa

theorem L1eSafe_reach (k : MatchKind) (P : List (List UInt8)) (hasPre bc : Bool) (dd : Nat)
    (anch : Bool) (s0 : Nat)
    (hs : ((buildContig (CNfa.compile k false P) dd bc hasPre).toAut k P hasPre).start anch = some s0)
    (w : List UInt8) :
    ∃ L q' s, FS k (patSet k P) L (CNfa.compile k false P) ∧
      NLive (CNfa.compile k false P) anch (RelV L anch) ∧
      CLive (CNfa.compile k false P) bc (RelV L anch) ∧ Rel L anch s q' ∧
      ((buildContig (CNfa.compile k false P) dd bc hasPre).toAut k P hasPre).runFrom anch s0 w =
        cNewId (CNfa.compile k false P) dd bc s := by
  obtain ⟨L, hFS, _, hL, hC⟩ := L1e_live k P bc anch
  rw [buildContig_eq] at hs ⊢
  obtain ⟨s, ⟨q', h1⟩, h2, _⟩ := (contig_renames hL hC dd hasPre k P).reach hL.start
    (congrArg some (contig_start hL hC dd hasPre)) hs w
  exact ⟨L, q', s, hFS, hL, hC, h1, h2⟩

/-- a state that reports `is_match` is `cNewId` of a state with a non-empty match list -/
theorem L1eSafe_match_state (k : MatchKind) (P : List (List UInt8)) (hasPre bc : Bool) (dd : Nat)
    {L : List (List UInt8)} (hFS : FS k (patSet k P) L (CNfa.compile k false P)) {s : Nat}
    (hv : Lv L s)
    (hm : ((buildContig (CNfa.compile k false P) dd bc hasPre).toAut k P hasPre).isMatch
      (cNewId (CNfa.compile k false P) dd bc s) = true) :
    ((CNfa.compile k false P).getD s {}).matches_ ≠ [] := by
  have h := hFS.toSpec
  obtain ⟨anch, hv⟩ : ∃ anch, LvA L anch s := hv.elim (fun h => ⟨false, h⟩) fun h => ⟨true, h⟩
  have e := isMatch_newId dd bc hasPre (shufOK _ h.four_le_size) h.isMatch_su_sa
    (h.LvA_lt_size hv) (h.LvA_ne_fail hv)
  rw [buildContig_eq, toAut_isMatch] at hm
  rw [hm] at e
  exact mats_ne_nil_of_isMatch (Bool.and_eq_true_iff.1 e.symm).2

/-- **every read is in bounds, with and without case folding**: at the state reached on any input
the checked `next_state` succeeds for every byte, the state id and the failure-link word after it
are valid offsets, and at a match state the match words are read in range and (within the
`PatternID` limit) hold a non-empty list of valid pattern ids -/
theorem L1eSafeG_inbounds (k : MatchKind) (fold : Bool) (P : List (List UInt8)) (hasPre bc : Bool)
    (dd : Nat) (anch : Bool) (s0 : Nat)
    (hs : ((buildContig (CNfa.compile k fold P) dd bc hasPre).toAut k P hasPre).start anch = some s0)
    (w : List UInt8) :
    let M := buildContig (CNfa.compile k fold P) dd bc hasPre
    let A := M.toAut k P hasPre
    let q := A.runFrom anch s0 w
    (∀ b, M.nextState? anch (M.repr.size + 1) q b = some (A.next anch q b)) ∧
      q + 1 < M.repr.size ∧ q ≠ CNfa.FAIL ∧
      (A.isMatch q = true →
        M.matchList? q = some (M.matchList q) ∧
          (P.length < 2147483648 → M.matchList q ≠ [] ∧ ∀ p ∈ M.matchList q, p < P.length)) := by
  obtain ⟨L, h, _, hL, hC⟩ := L1eG_live k fold P bc anch
  rw [buildContig_eq] at hs ⊢
  obtain ⟨h1, h2, h3, h4⟩ := contig_inbounds hL hC dd hasPre k P s0 hs w
  refine ⟨h1, h2, h3, fun hm => ?_⟩
  obtain ⟨hr, s, ⟨q', hq'⟩, hne, hml⟩ := h4 hm
  refine ⟨hr, fun hP => ?_⟩
  -- the match list of `s` is the output of the ideal state, at most `P.length` valid ids
  have hle := h.mats_length_le hq'
  have hlt := h.mats_lt hq'
  rw [List.length_map] at hle hlt
  rw [hml (by omega)]
  exact ⟨hne, hlt⟩

/-- **state ids are valid offsets.**  The kind word `repr[q]` and the failure link `repr[q + 1]`
of every reachable state exist, and `q` is never the `FAIL` sentinel `1`. -/
theorem L1eSafe_state_in_range (k : MatchKind) (P : List (List UInt8)) (hasPre bc : Bool) (dd : Nat)
    (anch : Bool) (s0 : Nat)
    (hs : ((buildContig (CNfa.compile k false P) dd bc hasPre).toAut k P hasPre).start anch = some s0)
    (w : List UInt8) :
    let M := buildContig (CNfa.compile k false P) dd bc hasPre
    let q := (M.toAut k P hasPre).runFrom anch s0 w
    q < M.repr.size ∧ q + 1 < M.repr.size ∧ q ≠ CNfa.FAIL := by
  have h := L1eSafeG_inbounds k false P hasPre bc dd anch s0 hs w
  exact ⟨Nat.lt_of_succ_lt h.2.1, h.2.1, h.2.2.1⟩

/-- **`next_state` never indexes out of range.**  On every reachable state and every byte the
bounds-checked `next_state` (fuel `repr.size + 1`) succeeds and returns the transition of the
totalised model. -/
theorem L1eSafe_next (k : MatchKind) (P : List (List UInt8)) (hasPre bc : Bool) (dd : Nat)
    (anch : Bool) (s0 : Nat)
    (hs : ((buildContig (CNfa.compile k false P) dd bc hasPre).toAut k P hasPre).start anch = some s0)
    (w : List UInt8) (b : UInt8) :
    let M := buildContig (CNfa.compile k false P) dd bc hasPre
    let A := M.toAut k P hasPre
    M.nextState? anch (M.repr.size + 1) (A.runFrom anch s0 w) b =
      some (A.next anch (A.runFrom anch s0 w) b) :=
  (L1eSafeG_inbounds k false P hasPre bc dd anch s0 hs w).1 b

/-- **`match_len` / `match_pattern` never index out of range.**  At a reachable match state all
reads of the match words are in range (no hypothesis on the number of patterns). -/
theorem L1eSafe_match_reads (k : MatchKind) (P : List (List UInt8)) (hasPre bc : Bool) (dd : Nat)
    (anch : Bool) (s0 : Nat)
    (hs : ((buildContig (CNfa.compile k false P) dd bc hasPre).toAut k P hasPre).start anch = some s0)
    (w : List UInt8) :
    let M := buildContig (CNfa.compile k false P) dd bc hasPre
    let A := M.toAut k P hasPre
    A.isMatch (A.runFrom anch s0 w) = true →
      M.matchList? (A.runFrom anch s0 w) = some (M.matchList (A.runFrom anch s0 w)) :=
  fun hm => ((L1eSafeG_inbounds k false P hasPre bc dd anch s0 hs w).2.2.2 hm).1

/-- with at most `2^31 - 1` patterns (the `PatternID` limit) the decoded list is moreover non-empty
and holds valid pattern ids, so `pattern_lens[pid]` is in range as well -/
theorem L1eSafe_match (k : MatchKind) (P : List (List UInt8)) (hasPre bc : Bool) (dd : Nat)
    (hP : P.length < 2147483648) (anch : Bool) (s0 : Nat)
    (hs : ((buildContig (CNfa.compile k false P) dd bc hasPre).toAut k P hasPre).start anch = some s0)
    (w : List UInt8) :
    let M := buildContig (CNfa.compile k false P) dd bc hasPre
    let A := M.toAut k P hasPre
    A.isMatch (A.runFrom anch s0 w) = true →
      M.matchList? (A.runFrom anch s0 w) = some (M.matchList (A.runFrom anch s0 w)) ∧
        M.matchList (A.runFrom anch s0 w) ≠ [] ∧
        ∀ p ∈ M.matchList (A.runFrom anch s0 w), p < P.length :=
  fun hm =>
    have h := (L1eSafeG_inbounds k false P hasPre bc dd anch s0 hs w).2.2.2 hm
    ⟨h.1, h.2 hP⟩

/-- **every read is in bounds** (the contiguous NFA's counterpart of `L1dIds_inbounds`) -/
theorem L1eSafe_inbounds (k : MatchKind) (P : List (List UInt8)) (hasPre bc : Bool) (dd : Nat)
    (hP : P.length < 2147483648) (anch : Bool) (s0 : Nat)
    (hs : ((buildContig (CNfa.compile k false P) dd bc hasPre).toAut k P hasPre).start anch = some s0)
    (w : List UInt8) :
    let M := buildContig (CNfa.compile k false P) dd bc hasPre
    let A := M.toAut k P hasPre
    let q := A.runFrom anch s0 w
    (∀ b, M.nextState? anch (M.repr.size + 1) q b = some (A.next anch q b)) ∧
      q + 1 < M.repr.size ∧ q ≠ CNfa.FAIL ∧
      (A.isMatch q = true →
        M.matchList? q = some (M.matchList q) ∧ M.matchList q ≠ [] ∧
          ∀ p ∈ M.matchList q, p < P.length) := by
  intro M A q
  have h1 := L1eSafe_state_in_range k P hasPre bc dd anch s0 hs w
  exact ⟨fun b => L1eSafe_next k P hasPre bc dd anch s0 hs w b, h1.2.1, h1.2.2,
    L1eSafe_match k P hasPre bc dd hP anch s0 hs w⟩

/-! ## non-vacuity: `[1, 2]`, `[2]` (dense depth 0, byte classes on, no prefilter)

`repr` has 29 words (see `L1e.lean`): offset 0 dead (dense), 6 the node `12` (sparse, no
transition, matches `0, 1`), 11 the node `2` (sparse, inline match `1`), 14 / 20 the start states
(dense), 26 the node `1` (`KIND_ONE`, the LAST state). -/

/-- the checked functions succeed on reachable states … -/
example :
    let m := buildContig (CNfa.compile .std false [[1, 2], [2]]) 0 true false
    m.repr.size = 29 ∧
      m.nextState? false (m.repr.size + 1) 6 1 = some 26 ∧   -- two failure links, then `1`
      m.nextState? false (m.repr.size + 1) 26 2 = some 6 ∧   -- `KIND_ONE`: reads `repr[28]`, the last word
      m.nextState? true (m.repr.size + 1) 26 1 = some 0 ∧    -- anchored: no failure link is read
      m.matchList? 6 = some [0, 1] ∧ m.matchList? 11 = some [1] := by
  rw [buildContig, classOfMarks_eq_classLt, writeState_eq_denseSkip]
  decide +kernel

/-- … and they do detect out-of-range indices: a state id beyond the end (`29 = repr.size`), the
middle of a state used as a state id (`repr[28] = 6` is read as a sparse state with 6
transitions, whose class-word slice `repr[30..32]` is out of range), `match_len` on the non-match
state 26 (`KIND_ONE = 254`: read as a sparse state with 254 transitions, `state[2 + 64 + 254]` is
far beyond the end: the Rust code would panic – the documented "unspecified behaviour" of
`match_len` on non-match states; it is only called under `is_match`), and too little fuel (the
failure chain 6 → 11 → 14 needs three iterations). -/
example :
    let m := buildContig (CNfa.compile .std false [[1, 2], [2]]) 0 true false
    m.nextState? false (m.repr.size + 1) 29 1 = none ∧
      m.nextState? false (m.repr.size + 1) 28 1 = none ∧
      m.matchList? 26 = none ∧ m.matchList? 29 = none ∧
      m.nextState? false 2 6 1 = none := by
  -- `rw`, not `unfold`: with the fuel `m.repr.size + 1` in the goal, `unfold buildContig` makes the
  -- kernel build the table twice (see `Proofs/TableEval.lean`)
  rw [buildContig, classOfMarks_eq_classLt, writeState_eq_denseSkip]
  decide +kernel

/-! ## why the sparse scan needs a proof: `[1, 2]`, `[1, 3]`

Classes `0, 1, 2, 3` for the bytes `0 … 3`, `4` for the rest.  The node `1` is the LAST state
(offset 27 of 32 words): `[2, 13, 0x03030302, 7, 10]` – two transitions, classes `2, 3` packed
into one word and padded with `3, 3`.  The targets of lanes 0 and 1 are `repr[30]`, `repr[31]`;
the target slots of the padding lanes 2 and 3 would be `repr[32]`, `repr[33]`: beyond the end of
the vector.  The scan never gets there because lane 1 (the real `3`) matches first. -/

example :
    let m := buildContig (CNfa.compile .std false [[1, 2], [1, 3]]) 0 true false
    m.repr.size = 32 ∧ (m.repr.toList.drop 27 = [2, 13, 50529026, 7, 10]) ∧
      m.nextState? false (m.repr.size + 1) 27 2 = some 7 ∧
      m.nextState? false (m.repr.size + 1) 27 3 = some 10 ∧     -- reads `repr[31]`, the last word
      m.repr[27 + 2 + 1 + 2]? = none ∧ m.repr[27 + 2 + 1 + 3]? = none ∧  -- the padding lanes' slots
      m.nextState? false (m.repr.size + 1) 27 7 = some 13 := by  -- no lane matches: failure link
  rw [buildContig, classOfMarks_eq_classLt, writeState_eq_denseSkip]
  decide +kernel

/-- the next state is again in range (`L1eSafe_state_in_range` after `w ++ [b]`) -/
theorem L1eSafe_next_in_range (k : MatchKind) (P : List (List UInt8)) (hasPre bc : Bool) (dd : Nat)
    (anch : Bool) (s0 : Nat)
    (hs : ((buildContig (CNfa.compile k false P) dd bc hasPre).toAut k P hasPre).start anch = some s0)
    (w : List UInt8) (b : UInt8) :
    let M := buildContig (CNfa.compile k false P) dd bc hasPre
    let A := M.toAut k P hasPre
    A.next anch (A.runFrom anch s0 w) b + 1 < M.repr.size := by
  intro M A
  have h := (L1eSafe_state_in_range k P hasPre bc dd anch s0 hs (w ++ [b])).2.1
  rw [Aut.runFrom_append] at h
  exact h

end AcVerif
