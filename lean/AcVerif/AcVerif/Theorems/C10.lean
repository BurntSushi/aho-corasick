import AcVerif.Proofs.SpanSpec
import AcVerif.Proofs.Struct
/-!
# C10 – searching a span is searching the sub-slice

Specification level: the occurrences / answers for the span `[s, e]` of `hay`
are exactly those of the whole sub-slice `hay[s..e)`, translated by `s`; bytes
outside the span are irrelevant.

The hypotheses `_he : e ≤ hay.length` are there for fidelity with the property
text (a valid span) but are not used: `IsOcc` only ever reads `hay[s..e)`, and
`take e` of a shorter haystack is the haystack.  `hse : s ≤ e` *is* needed for
the slice theorems (with `s = e + 1` the slice is empty and has the empty
occurrence at 0, the span has none – that case is `C10_done_spec` / `C10_done`).
-/
namespace AcVerif
variable {σ α : Type}

theorem C10_occ_slice (P : List (List α)) (hay : List α) (s e : Nat) (hse : s ≤ e)
    (_he : e ≤ hay.length) (m : Mat) :
    IsOcc P ((hay.take e).drop s) 0 (e - s) m ↔ IsOcc P hay s e (m.shift s) := by
  have := EngP.occ_slice_at P hay s e 0 hse m
  rwa [Nat.zero_add] at this

theorem C10_occ_slice_surj (P : List (List α)) (hay : List α) (s e : Nat) (_hse : s ≤ e)
    (_he : e ≤ hay.length) (m : Mat) (h : IsOcc P hay s e m) : ∃ m' : Mat, m = m'.shift s :=
  have := EngP.occ_inside P hay s e m h
  EngP.shift_surj_of_le m s this.1 this.2.1

/-- The two haystacks may have different lengths. -/
theorem C10_occ_frame (P : List (List α)) (hay hay' : List α) (s e : Nat)
    (_he : e ≤ hay.length) (_he' : e ≤ hay'.length)
    (hsame : (hay.take e).drop s = (hay'.take e).drop s) (m : Mat) :
    IsOcc P hay s e m ↔ IsOcc P hay' s e m :=
  EngP.occ_frame P hay hay' s e hsame m

theorem C10_occ_inside (P : List (List α)) (hay : List α) (s e : Nat) (m : Mat)
    (h : IsOcc P hay s e m) : s ≤ m.start ∧ m.start ≤ m.stop ∧ m.stop ≤ e :=
  EngP.occ_inside P hay s e m h

theorem C10_done_spec (P : List (List α)) (hay : List α) (s e : Nat) (h : s = e + 1) (m : Mat) :
    ¬ IsOcc P hay s e m :=
  EngP.not_occ_of_lt (h ▸ Nat.lt_succ_self e) m

theorem C10_done (A : Aut σ α) (pre : Option (Prefilter α)) (i : Input α) (h : i.s = i.e + 1)
    (hst : (A.start i.anch).isSome) :
    tryFindFwd A pre i = .ok none := by
  obtain ⟨sid, hs⟩ := Option.isSome_iff_exists.mp hst
  exact tryFindFwd_done A pre i (decide_eq_true (h ▸ Nat.lt_succ_self i.e)) hs

/-- Rejection of an unsupported anchoring mode does not depend on the span. -/
theorem C10_done_rejected (A : Aut σ α) (pre : Option (Prefilter α)) (i : Input α)
    (h : i.s = i.e + 1) (hst : A.start i.anch = none) :
    tryFindFwd A pre i =
      .error (if i.anch then .invalidInputAnchored else .invalidInputUnanchored) := by
  have hd : i.isDone = true := by simp [Input.isDone, h]
  simp [tryFindFwd, hd, hst]

theorem C10_find_slice (k : MatchKind) (P : List (List α)) (hay : List α) (s e : Nat)
    (hse : s ≤ e) (_he : e ≤ hay.length) (anch : Bool) (r : Option Mat) :
    IsFind k P ((hay.take e).drop s) 0 (e - s) anch r ↔
      IsFind k P hay s e anch (r.map (·.shift s)) := by
  have := EngP.find_slice_at k P hay s e 0 hse anch r
  rwa [Nat.zero_add] at this

theorem C10_find_frame (k : MatchKind) (P : List (List α)) (hay hay' : List α) (s e : Nat)
    (_he : e ≤ hay.length) (_he' : e ≤ hay'.length)
    (hsame : (hay.take e).drop s = (hay'.take e).drop s) (anch : Bool) (r : Option Mat) :
    IsFind k P hay s e anch r ↔ IsFind k P hay' s e anch r :=
  EngP.find_frame k P hay hay' s e hsame anch r

theorem C10_overlap_slice (P : List (List α)) (hay : List α) (s e : Nat) (hse : s ≤ e)
    (_he : e ≤ hay.length) (anch : Bool) (l : List Mat) :
    IsOverlapList P ((hay.take e).drop s) 0 (e - s) anch l ↔
      IsOverlapList P hay s e anch (l.map (·.shift s)) := by
  have := IsEnum.map (·.shift s) (fun _ _ => EngP.shift_inj)
    (EngP.occA_slice_at P hay s e 0 hse anch) (EngP.occA_slice_at_surj P hay s e 0 anch)
    (fun a b => EngP.ovlBefore_shift a b s) l
  rwa [Nat.zero_add] at this

theorem C10_overlap_frame (P : List (List α)) (hay hay' : List α) (s e : Nat)
    (_he : e ≤ hay.length) (_he' : e ≤ hay'.length)
    (hsame : (hay.take e).drop s = (hay'.take e).drop s) (anch : Bool) (l : List Mat) :
    IsOverlapList P hay s e anch l ↔ IsOverlapList P hay' s e anch l :=
  IsEnum.congr (EngP.occA_frame P hay hay' s e hsame anch) l

end AcVerif

