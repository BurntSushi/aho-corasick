import AcVerif.Proofs.DenseRows
import AcVerif.Theorems.L1e
import AcVerif.Proofs.TableEval
/-!
# L1c (dense rows) – `follow_transition` through the dense rows of the noncontiguous NFA

After `densify`, a state of the noncontiguous NFA whose stored depth is below `dense_depth` owns a
row indexed by byte *class* (`denseRows`), and `follow_transition` (`followD`) reads the row when
there is one and scans the sparse list otherwise.  For the compiled NFA
`N = CNfa.compile k false P`, **every** pattern list, match kind, dense depth, and **every** state
id (not only the reachable ones):

* `L1cDense_follow`: `followD N (denseRows N dd) sid b = CNfa.follow N sid b`;
* `L1cDense_nextState`: `next_state` through `follow_transition` returns the same state with the
  same number of failure links followed, for every fuel and hop counter;
* `L1cDense_toAut`, `L1cDense_run`: the automaton record that reads through the rows *is* the
  record `N.toAut` (so it reaches the same state ids on every input from every state);
* hence `L1cDense_obsEquiv`, `L1cDense_hops`, `L1cDense_find`, … : all of L1c holds for it.

No liveness hypothesis is needed: the node list of the compiled trie has no duplicates, so every
id `< N.size` except `FAIL` names the dead state, a start state or a trie node (`lv_of_lt_size`),
and `DEAD`, `FAIL` and ids out of range have no row.  `L1cDense_follow_live` is the statement at a
live state of any `N` meeting `FS` and `FX`.

Proof (`AcVerif/Proofs/DenseRows.lean`, namespace `AcVerif.DenseP`): `denseRows_getD` (a row is the
dense row that `State::write` of the contiguous NFA produces, with the identity as id map), so
`denseRow_entry` of L1e applies: at a state of a set with `CLive`, entry `classOf b` of the row is
`follow N s b` (`denseRow_spec`).  `compile_specX` and `CLive_of_spec` provide `CLive`;
`followD_eq`, `followD_compile`, `nextStateD_eq`.
-/
namespace AcVerif
open AcVerif.L1cP AcVerif.L1dP AcVerif.L1eP AcVerif.DenseP AcVerif.CNfa

/-- the noncontiguous NFA as an automaton record whose `next_state` reads transitions through
`follow_transition` on the given dense rows (everything else as in `CNfa.toAut`) -/
def CNfa.toAutD (n : CNfa) (rows : Array (Option (Array Nat))) (k : MatchKind)
    (P : List (List UInt8)) (hasPre : Bool) : Aut Nat UInt8 :=
  { n.toAut k P hasPre with
    next := fun anch sid b => (nextStateD n rows anch (n.size + 1) sid b 0).1 }

/-- reading a transition through the dense row gives the same answer as scanning the sparse list,
at every state id -/
theorem L1cDense_follow (k : MatchKind) (P : List (List UInt8)) (dd : Nat) (sid : Nat) (b : UInt8) :
    followD (CNfa.compile k false P) (denseRows (CNfa.compile k false P) dd) sid b =
      CNfa.follow (CNfa.compile k false P) sid b :=
  followD_compile k false P dd sid b

/-- the same at a live state of any NFA meeting the specification `FS` and the list facts `FX` -/
theorem L1cDense_follow_live {k : MatchKind} {Q : PatSet UInt8} {L : List (List UInt8)} {N : CNfa}
    (hFS : FS k Q L N) (hX : FX L N) (dd : Nat) {sid : Nat} (hlive : VU L sid ∨ VA L sid)
    (b : UInt8) : followD N (denseRows N dd) sid b = CNfa.follow N sid b :=
  followD_eq_live (CLive_of_spec hFS.toSpec hX true) dd hlive b

/-- which states have a row: the ids `< N.size` other than `DEAD` / `FAIL` whose stored depth is
below `dense_depth` -/
theorem L1cDense_rows (N : CNfa) (dd sid : Nat) :
    ((denseRows N dd).getD sid none).isSome ↔
      (sid < N.size ∧ sid ≠ CNfa.DEAD ∧ sid ≠ CNfa.FAIL ∧ (storedDepths N).getD sid 0 < dd) := by
  rw [denseRows_getD]
  by_cases hc : sid < N.size ∧ sid ≠ DEAD ∧ sid ≠ FAIL ∧ (storedDepths N).getD sid 0 < dd
  · rw [if_pos hc]; exact ⟨fun _ => hc, fun _ => rfl⟩
  · rw [if_neg hc]; exact ⟨fun h => (by cases h), fun h => absurd h hc⟩

/-- hence `next_state` through `follow_transition` is `next_state`, with the same hop count -/
theorem L1cDense_nextState (k : MatchKind) (P : List (List UInt8)) (dd : Nat) (anch : Bool)
    (fuel sid : Nat) (b : UInt8) (h : Nat) :
    nextStateD (CNfa.compile k false P) (denseRows (CNfa.compile k false P) dd) anch fuel sid b h =
      CNfa.nextState (CNfa.compile k false P) anch fuel sid b h :=
  nextStateD_eq (L1cDense_follow k P dd) anch fuel sid b h

/-- the record that reads through the dense rows is the record that scans the sparse lists -/
theorem L1cDense_toAut (k : MatchKind) (P : List (List UInt8)) (dd : Nat) (hasPre : Bool) :
    (CNfa.compile k false P).toAutD (denseRows (CNfa.compile k false P) dd) k P hasPre =
      (CNfa.compile k false P).toAut k P hasPre := by
  have : (fun (anch : Bool) (sid : Nat) (b : UInt8) =>
      (nextStateD (CNfa.compile k false P) (denseRows (CNfa.compile k false P) dd) anch
        ((CNfa.compile k false P).size + 1) sid b 0).1) =
      fun anch sid b =>
        (CNfa.nextState (CNfa.compile k false P) anch ((CNfa.compile k false P).size + 1) sid b 0).1 := by
    funext anch sid b
    rw [L1cDense_nextState]
  unfold CNfa.toAutD
  rw [this]
  rfl

/-- the state ids reached are equal, from every state and on every input -/
theorem L1cDense_run (k : MatchKind) (P : List (List UInt8)) (dd : Nat) (hasPre anch : Bool)
    (sid : Nat) (w : List UInt8) :
    ((CNfa.compile k false P).toAutD (denseRows (CNfa.compile k false P) dd) k P hasPre).runFrom
        anch sid w =
      ((CNfa.compile k false P).toAut k P hasPre).runFrom anch sid w := by
  rw [L1cDense_toAut]

/-- … so the dense-row automaton is observationally equivalent to the ideal automaton -/
theorem L1cDense_obsEquiv (k : MatchKind) (P : List (List UInt8)) (dd : Nat) (hasPre anch : Bool) :
    ObsEquiv ((CNfa.compile k false P).toAutD (denseRows (CNfa.compile k false P) dd) k P hasPre)
      (ideal k P .both hasPre) false anch (if anch then CNfa.SA else CNfa.SU) (.at []) := by
  rw [L1cDense_toAut]
  exact L1c_obsEquiv k P hasPre anch

theorem L1cDense_startEquiv (k : MatchKind) (P : List (List UInt8)) (dd : Nat) (hasPre anch : Bool) :
    StartEquiv ((CNfa.compile k false P).toAutD (denseRows (CNfa.compile k false P) dd) k P hasPre)
      (ideal k P .both hasPre) false anch := by
  rw [L1cDense_toAut]
  exact L1c_startEquiv k P hasPre anch

/-- it follows exactly `Ideal.hops` failure links at every reachable state -/
theorem L1cDense_hops (k : MatchKind) (P : List (List UInt8)) (dd : Nat) (hasPre : Bool)
    (w : List UInt8) (c : UInt8) :
    (nextStateD (CNfa.compile k false P) (denseRows (CNfa.compile k false P) dd) false
        ((CNfa.compile k false P).size + 1)
        (((CNfa.compile k false P).toAutD (denseRows (CNfa.compile k false P) dd) k P hasPre).runFrom
          false CNfa.SU w) c 0).2 =
      Ideal.hops k (patSet k P) false ((ideal k P .both hasPre).runFrom false (.at []) w) c := by
  rw [L1cDense_nextState, L1cDense_run]
  exact L1c_hops k P hasPre w c

/-- every search result transfers -/
theorem L1cDense_find (k : MatchKind) (P : List (List UInt8)) (dd : Nat) (hasPre : Bool)
    (pre : Option (Prefilter UInt8)) (i : Input UInt8) :
    tryFindFwd ((CNfa.compile k false P).toAutD (denseRows (CNfa.compile k false P) dd) k P hasPre)
        pre i =
      tryFindFwd (ideal k P .both hasPre) pre i := by
  rw [L1cDense_toAut]
  exact L1c_find k P hasPre pre i

theorem L1cDense_iter (k : MatchKind) (P : List (List UInt8)) (dd : Nat) (hasPre : Bool)
    (pre : Option (Prefilter UInt8)) (i : Input UInt8) :
    findIter ((CNfa.compile k false P).toAutD (denseRows (CNfa.compile k false P) dd) k P hasPre)
        pre i =
      findIter (ideal k P .both hasPre) pre i := by
  rw [L1cDense_toAut]
  exact L1c_iter k P hasPre pre i

theorem L1cDense_overlap (k : MatchKind) (P : List (List UInt8)) (dd : Nat) (hasPre : Bool)
    (pre : Option (Prefilter UInt8)) (i : Input UInt8) (n : Nat) :
    ovlCalls ((CNfa.compile k false P).toAutD (denseRows (CNfa.compile k false P) dd) k P hasPre)
        pre i n OState.start =
      ovlCalls (ideal k P .both hasPre) pre i n OState.start := by
  rw [L1cDense_toAut]
  exact L1c_overlap k P hasPre pre i n

/-! ## non-vacuity: `[1, 2]`, `[2]` (states 4 = `1`, 5 = `12`, 6 = `2`; classes `0,1,2,rest`)

With dense depth 1 the start states and the depth-0 nodes `1`, `2` get rows, `12` stays sparse;
`FAIL` (= 1) fills the classes without an edge. -/

example : (denseRows (CNfa.compile .std false [[1, 2], [2]]) 1).toList =
    [none, none, some #[2, 4, 6, 2], some #[1, 4, 6, 1], some #[1, 1, 5, 1], none,
      some #[1, 1, 1, 1]] := by
  rw [denseRows, classOfMarks_eq_classLt]
  decide +kernel

/-- byte 7 is in class 3; at the node `1` the row says `FAIL`, and `next_state` follows one
failure link to the start state -/
example :
    followD (CNfa.compile .std false [[1, 2], [2]])
        (denseRows (CNfa.compile .std false [[1, 2], [2]]) 1) 4 7 = CNfa.FAIL ∧
      nextStateD (CNfa.compile .std false [[1, 2], [2]])
        (denseRows (CNfa.compile .std false [[1, 2], [2]]) 1) false 8 4 7 0 = (2, 1) := by
  rw [denseRows, classOfMarks_eq_classLt]
  decide +kernel

end AcVerif
