import AcVerif.Proofs.SpecBase
/-!
# The specification's answers are unique

`IsFind` and `IsOverlapList` are stated as predicates; these theorems justify
reading them as "*the* answer".
-/
namespace AcVerif
variable {α : Type}

theorem IsFind_unique (k : MatchKind) (P : List (List α)) (hay : List α) (s e : Nat) (anch : Bool)
    (r r' : Option Mat) (h : IsFind k P hay s e anch r) (h' : IsFind k P hay s e anch r') :
    r = r' :=
  (isFind_iff_best.1 h).unique (fun _ _ ha hb => EngP.better_antisymm k ha.1 hb.1)
    (isFind_iff_best.1 h')

theorem IsOverlapList_unique (P : List (List α)) (hay : List α) (s e : Nat) (anch : Bool)
    (l l' : List Mat) (h : IsOverlapList P hay s e anch l) (h' : IsOverlapList P hay s e anch l') :
    l = l' :=
  IsEnum.unique EngP.ovlBefore_asymm h h'

end AcVerif

