import AcVerif.Proofs.AlphabetCompile
import AcVerif.Proofs.DfaBase
import AcVerif.BuildChecked
/-!
# L1-alphabet – the byte classes of `util/alphabet.rs` are the abstract `classOfMarks ∘ marksOf`

`DfaModel.lean` describes byte classes abstractly: `trieBytes N` (the bytes `build_trie` inserts),
`marksOf` (boundary marks `b - 1` and `b`), `classOfMarks marks b` (the number of marks below
`b`); `buildDfa`, `buildContig`, `denseRows`, `buildDfaIds` use them.  `AcVerif/Alphabet.lean`
transcribes the code that really computes the classes (`ByteSet` on `[u128; 2]`, `ByteClassSet`,
the `byte_classes()` loop with its two `unwrap`s, `ByteClasses`) and the one caller of `set_range`
(`build_trie`).  For **all** inputs:

* `contains_add`, `contains_empty`: the bit arithmetic (`byte / 128`, `byte % 128`, `1 << bit`,
  `|=`, `& … > 0`) implements a set of bytes; `bucket_in_bounds`, `bit_in_word`: the array index
  is 0 or 1 and the shift stays below 128;
* `setRange_spec`, `setRange_marks`, `setRange_marks_perm`: `set_range(start, end)` adds exactly
  `end` and (if `start > 0`) `start - 1`; after `set_range(b, b)` for every `b` of a list – in any
  order – the set is `marksOf` of the list;
* `byteClasses_eq`: for a set that is `marks`, `byte_classes()` returns (no `unwrap` fires, the
  loop ends within 256 rounds), `get b = classOfMarks marks b`, class 0 at byte 0, monotone,
  consecutive (a step of exactly one at a mark, none otherwise), and
  `alphabet_len = classOfMarks marks 255 + 1 ≤ 256`;
* `stride2_spec`: `stride2()` (through `next_power_of_two` / `leading_zeros` / `trailing_zeros`)
  does not overflow, `alphabet_len ≤ 2^stride2`, `stride2` is minimal, `stride = 2^stride2`, and
  it is `stride2Of` of `DfaIds.lean`;
* `singletons_get`: `ByteClasses::singletons()` is the identity with `alphabet_len = 256`,
  `stride2 = 8` (the `classOf`/`alphabetLen` that the models use when `byte_classes = false`);
* `L1Alphabet_trie`: for every match kind, both settings of `ascii_case_insensitive` and every
  pattern list, `build_trie` instrumented with its byte set builds the trie of `CNfa.buildTrie`,
  the byte set holds exactly `marksOf (trieBytes N)` for `N = CNfa.compile k fold P`, and
  `self.nfa.byte_classes = self.byteset.byte_classes()` is exactly the `classOf` /
  `alphabetLen` / `stride2Of` that `buildDfa`, `buildContig`, `denseRows` and `buildDfaIds` use.
  This holds although under leftmost-first a skipped pattern still marks the bytes walked before
  the skip: those are edges already (`L1cP.addPatternG_rule`, case `none`).
* `seeded_*`: the seeded variant `if start > 1` of `set_range` (S62 in DESIGN.md 12.7,
  `/verif/seeded/S62-C04-byteclass-boundary-after-0`: a deliberately broken variant of the crate
  kept to show that the checks fire) loses the mark 0 of byte 1, so 0x00 and 0x01 share a class when
  only 0x01 is inserted (the real code separates them) – the universal `setRange_marks` fails for
  it, not just an instance.
-/
namespace AcVerif
open AcVerif.CNfa AcVerif.Alphabet AcVerif.AlphaP

/-! ## `ByteSet` -/

theorem contains_add (s : ByteSet) (b c : UInt8) :
    (s.add b).contains c = true ↔ c = b ∨ s.contains c = true :=
  AlphaP.contains_add s b c

theorem contains_empty (c : UInt8) : ByteSet.empty.contains c = false :=
  AlphaP.contains_empty c

/-- `self.bits.0[usize::from(byte / 128)]` is in bounds -/
theorem bucket_in_bounds (b : UInt8) : (b / 128).toNat < 2 := bucket_lt_two b

/-- `1 << (byte % 128)` does not overflow the `u128` -/
theorem bit_in_word (b : UInt8) : (b % 128).toNat < 128 := bit_lt b

/-! ## `ByteClassSet::set_range` -/

theorem setRange_spec (s : ByteClassSet) (start end_ m : UInt8) :
    (s.setRange start end_).set.contains m = true ↔
      s.set.contains m = true ∨ m = end_ ∨ (0 < start ∧ m = start - 1) :=
  contains_setRange_gen s start end_ m

theorem setRange_marks (bytes : List UInt8) (m : UInt8) :
    (ByteClassSet.empty.feed bytes).set.contains m = true ↔ m ∈ marksOf bytes := by
  rw [contains_feed]
  have : ByteClassSet.empty.set.contains m = false := AlphaP.contains_empty m
  rw [this]; simp

theorem setRange_marks_perm {bytes bytes' : List UInt8} (h : bytes.Perm bytes') (m : UInt8) :
    (ByteClassSet.empty.feed bytes').set.contains m = true ↔ m ∈ marksOf bytes := by
  rw [setRange_marks, mem_marksOf, mem_marksOf]
  constructor
  · rintro ⟨c, hc, hm⟩; exact ⟨c, h.mem_iff.2 hc, hm⟩
  · rintro ⟨c, hc, hm⟩; exact ⟨c, h.mem_iff.1 hc, hm⟩

/-! ## `ByteClassSet::byte_classes` -/

/-- the transcribed loop computes `classOfMarks`; none of the `unwrap`s fires -/
theorem byteClasses_eq (s : ByteClassSet) (marks : List UInt8)
    (h : ∀ m, s.set.contains m = true ↔ m ∈ marks) :
    ∃ bc, s.byteClasses = some bc ∧
      (∀ b, (bc.get b).toNat = classOfMarks marks b) ∧
      bc.get 0 = 0 ∧
      (∀ b b', b ≤ b' → bc.get b ≤ bc.get b') ∧
      (∀ b, b < 255 → (bc.get (b + 1)).toNat = (bc.get b).toNat + if b ∈ marks then 1 else 0) ∧
      (∀ b, b < 255 → (bc.get (b + 1)).toNat ≤ (bc.get b).toNat + 1) ∧
      bc.alphabetLen = classOfMarks marks 255 + 1 ∧ bc.alphabetLen ≤ 256 := by
  obtain ⟨bc, hbc, _, hget⟩ := byteClasses_spec s marks h
  have hstep : ∀ b : UInt8, b < 255 →
      (bc.get (b + 1)).toNat = (bc.get b).toNat + if b ∈ marks then 1 else 0 := by
    intro b hb
    have hb' : b.toNat < 255 := UInt8.lt_iff_toNat_lt.1 hb
    rw [hget, hget, classOfMarks_eq_cnt, classOfMarks_eq_cnt, toNat_succ b (by omega), cnt_succ]
    have e : b.toNat.toUInt8 = b := by simp
    simp only [e, List.contains_iff_mem]
  refine ⟨bc, hbc, hget, ?_, ?_, hstep, ?_, ?_, ?_⟩
  · apply UInt8.toNat_inj.1
    rw [hget]; rfl
  · intro b b' hbb
    rw [UInt8.le_iff_toNat_le, hget, hget]
    exact L1dP.classOfMarks_mono marks (UInt8.le_iff_toNat_le.1 hbb)
  · intro b hb
    rw [hstep b hb]
    split <;> omega
  · unfold ByteClasses.alphabetLen; rw [hget]
  · unfold ByteClasses.alphabetLen
    have := (bc.get 255).toNat_lt
    omega

/-! ## `ByteClasses::stride2` -/

theorem stride2_table : ∀ a, a < 257 → 1 ≤ a →
    (nextPowerOfTwo a).map trailingZeros64 = some (stride2Of a) := by
  decide +kernel

/-- `stride2()` is the least exponent `s` with `alphabet_len ≤ 2^s`, i.e. `stride2Of` -/
theorem stride2_spec (bc : ByteClasses) :
    ∃ s, bc.stride2 = some s ∧ s = stride2Of bc.alphabetLen ∧ bc.alphabetLen ≤ 2 ^ s ∧
      (s = 0 ∨ 2 ^ (s - 1) < bc.alphabetLen) ∧ bc.stride = some (2 ^ s) := by
  have h1 : bc.alphabetLen < 257 := by
    unfold ByteClasses.alphabetLen
    have := (bc.get 255).toNat_lt
    omega
  have h2 : 1 ≤ bc.alphabetLen := by unfold ByteClasses.alphabetLen; omega
  have t1 := stride2_table bc.alphabetLen h1 h2
  obtain ⟨t2, t3⟩ := AlphaP.stride2Of_spec (Nat.le_of_lt_succ h1)
  refine ⟨stride2Of bc.alphabetLen, t1, rfl, t2, t3, ?_⟩
  unfold ByteClasses.stride
  have : bc.stride2 = some (stride2Of bc.alphabetLen) := t1
  rw [this, Option.map_some, Nat.one_shiftLeft]

/-! ## `ByteClasses::singletons` -/

theorem stride2_of_alphabetLen {c : ByteClasses} {a : Nat} (h : c.alphabetLen = a) :
    c.stride2 = some (stride2Of a) := by
  obtain ⟨s, hs, rfl, _⟩ := stride2_spec c
  rw [hs, h]

theorem singletons_get :
    (∀ b, ByteClasses.singletons.get b = b) ∧ ByteClasses.singletons.alphabetLen = 256 ∧
      ByteClasses.singletons.stride2 = some 8 ∧ ByteClasses.singletons.isSingleton = true := by
  have hg : ∀ b, ByteClasses.singletons.get b = b := by
    intro b
    unfold ByteClasses.get ByteClasses.singletons
    rw [(singletons_prefix 256 (Nat.le_refl _)).2 b.toNat b.toNat_lt]
    simp
  -- through lemmas about an arbitrary `ByteClasses`: on the closed term `singletons` the kernel
  -- would run the 256 rounds of the loop to compare `alphabetLen` with a numeral
  have ha : ByteClasses.singletons.alphabetLen = 256 := alphabetLen_of_get (hg 255)
  exact ⟨hg, ha, stride2_of_alphabetLen ha, (isSingleton_iff _).2 ha⟩

/-! ## the composed statement -/

/-- The byte classes that the crate computes for the noncontiguous NFA are the `classOf` of the
models.  `buildTrieBS` is `build_trie` carrying `self.byteset`; `nfaByteClasses` is
`self.byteset.byte_classes()` right after it. -/
theorem L1Alphabet_trie (k : MatchKind) (fold : Bool) (P : List (List UInt8)) :
    let N := CNfa.compile k fold P
    let marks := marksOf (trieBytes N)
    (buildTrieBS k fold P).1 = CNfa.buildTrie k fold P ∧
    (∀ m, (buildTrieBS k fold P).2.set.contains m = true ↔ m ∈ marks) ∧
    ∃ bc, nfaByteClasses k fold P = some bc ∧
      (∀ b, (bc.get b).toNat = classOfMarks marks b) ∧
      bc.alphabetLen = classOfMarks marks 255 + 1 ∧
      bc.stride2 = some (stride2Of (classOfMarks marks 255 + 1)) := by
  intro N marks
  have hm := byteset_marks k fold P
  obtain ⟨bc, h1, h2, _, _, _, _, h3, _⟩ := byteClasses_eq (buildTrieBS k fold P).2 marks hm
  refine ⟨buildTrieBS_fst k fold P, hm, bc, h1, h2, h3, ?_⟩
  obtain ⟨s, hs1, hs2, _⟩ := stride2_spec bc
  rw [hs1, hs2, h3]

/-- the same, phrased on the models: the class map and the alphabet length of `buildDfa` /
`buildContig` / `buildDfaIds` (`byte_classes = true`) are those of the crate's `ByteClasses` -/
theorem L1Alphabet_classOf (k : MatchKind) (fold : Bool) (P : List (List UInt8)) :
    ∃ bc, nfaByteClasses k fold P = some bc ∧
      (fun b => (bc.get b).toNat) = classOfMarks (marksOf (trieBytes (CNfa.compile k fold P))) ∧
      bc.alphabetLen = nncAlphabetLen (CNfa.compile k fold P) := by
  obtain ⟨_, _, bc, h1, h2, h3, _⟩ := L1Alphabet_trie k fold P
  exact ⟨bc, h1, funext h2, h3⟩

/-! ## the seeded defect (`if start > 1`) -/

/-- with only 0x01 inserted the seeded `set_range` never marks byte 0 … -/
theorem seeded_loses_mark :
    (ByteClassSet.empty.feedSeeded [1]).set.contains 0 = false ∧
      (ByteClassSet.empty.feed [1]).set.contains 0 = true := by
  decide

/-- … so `byte_classes()` puts 0x00 and 0x01 into one class; the real code separates them -/
theorem seeded_merges :
    (ByteClassSet.empty.feedSeeded [1]).byteClasses.map (fun c => (c.get 0, c.get 1, c.get 2)) =
      some (0, 0, 1) ∧
    (ByteClassSet.empty.feed [1]).byteClasses.map (fun c => (c.get 0, c.get 1, c.get 2)) =
      some (0, 1, 2) := by
  -- the seeded `set_range(1, 1)` adds only its `end`
  have hs : ∀ m, (ByteClassSet.empty.feedSeeded [1]).set.contains m = true ↔ m ∈ [(1 : UInt8)] := by
    intro m
    show (ByteSet.empty.add 1).contains m = true ↔ _
    rw [contains_add, contains_empty]; simp
  obtain ⟨bc, hbc, hget, _⟩ := byteClasses_eq _ _ hs
  obtain ⟨bc', hbc', hget', _⟩ := byteClasses_eq _ _ (setRange_marks [1])
  have get_eq : ∀ {c : ByteClasses} {marks : List UInt8},
      (∀ b, (c.get b).toNat = classOfMarks marks b) →
      ∀ b, c.get b = (classOfMarks marks b).toUInt8 :=
    fun h b => h b ▸ UInt8.ofNat_toNat.symm
  rw [hbc, hbc', Option.map_some, Option.map_some]
  simp only [get_eq hget, get_eq hget']
  exact ⟨rfl, rfl⟩

/-- hence the universal statement `setRange_marks` is false for the seeded variant -/
theorem seeded_refutes_marks :
    ¬ ∀ (bytes : List UInt8) (m : UInt8),
      (ByteClassSet.empty.feedSeeded bytes).set.contains m = true ↔ m ∈ marksOf bytes := by
  intro h
  have h1 := (h [1] 0).2 (by decide)
  rw [seeded_loses_mark.1] at h1
  exact absurd h1 (by simp)

end AcVerif

#print axioms AcVerif.contains_add
#print axioms AcVerif.contains_empty
#print axioms AcVerif.setRange_marks
#print axioms AcVerif.setRange_marks_perm
#print axioms AcVerif.byteClasses_eq
#print axioms AcVerif.stride2_spec
#print axioms AcVerif.singletons_get
#print axioms AcVerif.L1Alphabet_trie
#print axioms AcVerif.L1Alphabet_classOf
#print axioms AcVerif.seeded_loses_mark
#print axioms AcVerif.seeded_merges
#print axioms AcVerif.seeded_refutes_marks
