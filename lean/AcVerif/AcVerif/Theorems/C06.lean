import AcVerif.Proofs.PackedTeddy
/-!
# C06 – the packed searchers (`src/packed`) report the leftmost-first /
leftmost-longest occurrence; C15 (index arithmetic of the Teddy schedule)

For a non-empty list of non-empty patterns, on every valid span:

* `C06_rabinkarp` – Rabin-Karp (forced, or the short-haystack fallback);
* `C06_teddy` – Teddy with 8 or 16 buckets and 16- or 32-byte windows on spans
  of at least `w + maskLen - 1` bytes;
* `C06_packed` – the public searcher for every variant (including forced
  Rabin-Karp), with its dispatch on the span length;
* `C06_iter` – the iterator is the specification's non-overlapping iterator;
* `C15_teddy_loads` – every vector load of the Teddy schedule lies inside the
  haystack slice and not before `start + maskLen - 1`;
* `C15_packed_match_wf` – reported matches are well formed.

(`hne : pats ≠ []` is kept for fidelity with the builder's precondition; the
proofs do not need it.  No bound on pattern lengths is needed either: the fold
start value `2^64-1` of `minLen` only has to be positive.)
-/
namespace AcVerif
open AcVerif.PackedP

/-- Rabin-Karp (forced, or as the short-haystack fallback) -/
theorem C06_rabinkarp (kind : PKind) (pats : List PBytes) (_hne : pats ≠ [])
    (hnz : ∀ p ∈ pats, p ≠ []) (hay : PBytes) (st en : Nat)
    (hspan : st ≤ en ∧ en ≤ hay.length) :
    IsFind kind.toMatchKind pats hay st en false
      ((RabinKarp.new (PPatterns.new kind pats)).findAt (hay.take en) st) :=
  findAt_isFind kind pats hnz hay st en hspan.2

/-- Teddy with `nBuckets ∈ {8, 16}` and window width `w ∈ {16, 32}`, on a span of at least
`w + maskLen - 1` bytes -/
theorem C06_teddy (kind : PKind) (pats : List PBytes) (_hne : pats ≠ [])
    (hnz : ∀ p ∈ pats, p ≠ []) (nB : Nat) (hB : nB = 8 ∨ nB = 16) (w : Nat)
    (hw : w = 16 ∨ w = 32) (hay : PBytes) (st en : Nat) (hspan : st ≤ en ∧ en ≤ hay.length)
    (hlen : w + (min 4 (PPatterns.new kind pats).minLen - 1) ≤ en - st) :
    IsFind kind.toMatchKind pats hay st en false
      ((Teddy.new (PPatterns.new kind pats) nB).find (hay.take en) st w) :=
  teddy_find_isFind kind pats hnz nB (by rcases hB with rfl | rfl <;> decide) w
    (by rcases hw with rfl | rfl <;> decide) hay st en hspan.2 (by omega)

/-- every variant of the public searcher -/
theorem C06_packed (kind : PKind) (pats : List PBytes) (hne : pats ≠ [])
    (hnz : ∀ p ∈ pats, p ≠ []) (v : Option TeddyVariant) (hay : PBytes) (st en : Nat)
    (hspan : st ≤ en ∧ en ≤ hay.length) :
    IsFind kind.toMatchKind pats hay st en false
      ((PackedSearcher.new kind pats v).findIn hay st en) := by
  have hrk := C06_rabinkarp kind pats hne hnz hay st en hspan
  have hteddy := fun nB hB w hw h =>
    C06_teddy kind pats hne hnz nB hB w hw hay st en hspan (Nat.le_of_not_lt h)
  cases v with
  | none => exact hrk
  | some v =>
    rw [findIn_new]
    split
    · exact hrk
    · rename_i h16
      cases v with
      | slim128 => exact hteddy 8 (Or.inl rfl) 16 (Or.inl rfl) h16
      | slim256 =>
        dsimp only
        split
        · exact hteddy 8 (Or.inl rfl) 16 (Or.inl rfl) h16
        · rename_i h32
          exact hteddy 8 (Or.inl rfl) 32 (Or.inr rfl) h32
      | fat256 => exact hteddy 16 (Or.inr rfl) 16 (Or.inl rfl) h16

/-- every reported match is well-formed (C15) -/
theorem C15_packed_match_wf (kind : PKind) (pats : List PBytes) (hne : pats ≠ [])
    (hnz : ∀ p ∈ pats, p ≠ []) (v : Option TeddyVariant) (hay : PBytes) (st en : Nat)
    (hspan : st ≤ en ∧ en ≤ hay.length) (m : Mat)
    (h : (PackedSearcher.new kind pats v).findIn hay st en = some m) :
    m.pid < pats.length ∧ st ≤ m.start ∧ m.start ≤ m.stop ∧ m.stop ≤ en := by
  have hf := C06_packed kind pats hne hnz v hay st en hspan
  rw [h] at hf
  obtain ⟨p, h1, h2, h3, h4, _⟩ := hf.1.1
  exact ⟨(List.getElem?_eq_some_iff.1 h1).1, h2, by omega, h4⟩

theorem C06_packed_nonempty (kind : PKind) (pats : List PBytes) (hne : pats ≠ [])
    (hnz : ∀ p ∈ pats, p ≠ []) (v : Option TeddyVariant) (hay : PBytes) (st en : Nat)
    (hspan : st ≤ en ∧ en ≤ hay.length) (m : Mat)
    (h : (PackedSearcher.new kind pats v).findIn hay st en = some m) : m.start < m.stop := by
  have hf := C06_packed kind pats hne hnz v hay st en hspan
  rw [h] at hf
  obtain ⟨p, h1, _, h3, _, _⟩ := hf.1.1
  have hp : 0 < p.length := List.length_pos_iff.2 (hnz p (List.mem_of_getElem? h1))
  omega

theorem packed_iter_eq (kind : PKind) (pats : List PBytes) (hne : pats ≠ [])
    (hnz : ∀ p ∈ pats, p ≠ []) (v : Option TeddyVariant) (hay : PBytes) (fuel st : Nat)
    (last : Option Nat) :
    (PackedSearcher.new kind pats v).iter hay fuel st =
      iterSpecAux (fun st => if st ≤ hay.length then
        (PackedSearcher.new kind pats v).findIn hay st hay.length else none) fuel st last := by
  induction fuel generalizing st last with
  | zero => rfl
  | succ fuel ih =>
    simp only [PackedSearcher.iter, iterSpecAux]
    by_cases hst : st ≤ hay.length
    · rw [if_neg (by omega), if_pos hst]
      cases hf : (PackedSearcher.new kind pats v).findIn hay st hay.length with
      | none => rfl
      | some m =>
        have hpos := C06_packed_nonempty kind pats hne hnz v hay st hay.length
          ⟨hst, Nat.le_refl _⟩ m hf
        simp only
        rw [if_neg (by omega), ih]
    · rw [if_pos (by omega), if_neg hst]

/-- the iterator is the specification's non-overlapping iterator (no pattern is empty, so the
empty-match rule never fires) -/
theorem C06_iter (kind : PKind) (pats : List PBytes) (hne : pats ≠ [])
    (hnz : ∀ p ∈ pats, p ≠ []) (v : Option TeddyVariant) (hay : PBytes) :
    ∃ F, (∀ st, st ≤ hay.length + 1 →
        IsFind kind.toMatchKind pats hay st hay.length false (F st)) ∧
      (PackedSearcher.new kind pats v).iter hay (hay.length + 2) 0 = iterSpec F 0 hay.length := by
  refine ⟨fun st => if st ≤ hay.length then
    (PackedSearcher.new kind pats v).findIn hay st hay.length else none, ?_, ?_⟩
  · intro st _
    by_cases hst : st ≤ hay.length
    · simp only [if_pos hst]
      exact C06_packed kind pats hne hnz v hay st hay.length ⟨hst, Nat.le_refl _⟩
    · simp only [if_neg hst]
      intro m hm
      obtain ⟨p, _, h2, h3, h4, _⟩ := hm.1
      omega
  · exact packed_iter_eq kind pats hne hnz v hay _ 0 none

/-- C15 (index arithmetic): every vector load of the Teddy schedule lies inside the searched
span -/
theorem C15_teddy_loads (t : Teddy) (hay : PBytes) (st w : Nat) (_hw : 0 < w)
    (hlen : st + w + (t.maskLen - 1) ≤ hay.length) :
    ∀ cur ∈ (t.findT hay st w).2, st + (t.maskLen - 1) ≤ cur ∧ cur + w ≤ hay.length :=
  findT_loads t hay st w hlen

/-! ## non-vacuity: concrete instances (evaluated by `decide`) -/

private def hay20 : PBytes := [0, 0, 0, 1, 2, 3, 4, 0, 0, 0, 0, 0, 0, 0, 0, 0, 0, 1, 2, 0]
private def hay40 : PBytes := List.replicate 35 0 ++ [1, 2, 3, 4, 0]
private theorem ex_nz : ∀ p ∈ ([[1, 2], [1, 2, 3]] : List PBytes), p ≠ [] := by decide +kernel

/-- the hypotheses of the theorems are satisfiable -/
example : IsFind .ll [[1, 2], [1, 2, 3]] hay20 0 20 false
    ((RabinKarp.new (PPatterns.new .ll [[1, 2], [1, 2, 3]])).findAt (hay20.take 20) 0) :=
  C06_rabinkarp .ll _ (by decide) ex_nz hay20 0 20 (by decide)

example : IsFind .ll [[1, 2], [1, 2, 3]] hay20 0 20 false
    ((Teddy.new (PPatterns.new .ll [[1, 2], [1, 2, 3]]) 8).find (hay20.take 20) 0 16) :=
  C06_teddy .ll _ (by decide) ex_nz 8 (Or.inl rfl) 16 (Or.inl rfl) hay20 0 20 (by decide)
    (by decide)

example : IsFind .lf [[1, 2], [1, 2, 3]] hay40 0 40 false
    ((PackedSearcher.new .lf [[1, 2], [1, 2, 3]] (some .slim256)).findIn hay40 0 40) :=
  C06_packed .lf _ (by decide) ex_nz _ hay40 0 40 (by decide)

/-- Rabin-Karp: leftmost-longest picks the longer pattern -/
example : (PackedSearcher.new .ll [[1, 2], [1, 2, 3]] none).findIn hay20 0 20 =
    some ⟨1, 3, 6⟩ := by decide +kernel
/-- slim Teddy, 128 bit: leftmost-longest vs leftmost-first at the same offset -/
example : (PackedSearcher.new .ll [[1, 2], [1, 2, 3]] (some .slim128)).findIn hay20 0 20 =
    some ⟨1, 3, 6⟩ := by decide +kernel
example : (PackedSearcher.new .lf [[1, 2], [1, 2, 3]] (some .slim128)).findIn hay20 0 20 =
    some ⟨0, 3, 5⟩ := by decide +kernel
/-- fat Teddy on a 16-byte span: only the final window's lanes matter; `[1,2,3]` does not fit -/
example : (PackedSearcher.new .ll [[1, 2], [1, 2, 3]] (some .fat256)).findIn hay20 4 20 =
    some ⟨0, 17, 19⟩ := by decide +kernel
/-- slim Teddy, 256 bit, 32-byte windows with the overlapped final window -/
example : (PackedSearcher.new .ll [[1, 2], [1, 2, 3]] (some .slim256)).findIn hay40 0 40 =
    some ⟨1, 35, 38⟩ := by decide +kernel
/-- a span shorter than Teddy's minimum falls back to Rabin-Karp -/
example : (PackedSearcher.new .ll [[1, 2], [1, 2, 3]] (some .slim256)).findIn hay20 2 8 =
    some ⟨1, 3, 6⟩ := by decide +kernel
example : (PackedSearcher.new .ll [[1, 2], [1, 2, 3]] (some .fat256)).iter hay20 22 0 =
    [⟨1, 3, 6⟩, ⟨0, 17, 19⟩] := by decide +kernel
/-- load positions: main-loop windows at `1, 17`, final overlapped window at `40 - 16` -/
example : ((Teddy.new (PPatterns.new .ll [[9, 2], [9, 2, 3]]) 8).findT hay40 0 16).2 =
    [1, 17, 24] := by decide +kernel

end AcVerif
