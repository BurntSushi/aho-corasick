import AcVerif.Theorems.L1dIds
import AcVerif.Theorems.L1dFold
import AcVerif.Proofs.TableEval
/-!
# L1d-ids (fold) – the DFA *as stored*, built from the NFA compiled with
`ascii_case_insensitive(true)`

`buildDfaIds N sk bc hasPre` (premultiplied ids, flat table, `Special` id ranges) applied to
`N = CNfa.compile k true P`: the statements `buildDfaIds_*` and `L1dIdsG_*` of
`Theorems/L1dIds.lean` at this `N`, for **every** pattern list, match kind, start kind, both
settings of `byte_classes`, with or without prefilter – observational equivalence with the
abstract DFA of L1dFold (`L1dIdsFold_obsEquiv`),
`StartEquiv` with the specification of the case-insensitive searcher
`(ideal k (P.map (·.map foldByte)) sk hasPre).comap foldByte` (`L1dIdsFold_startEquiv`), the engine
corollaries, in-bounds reads (`L1dIdsFold_inbounds`), the `is_special` contract
(`L1dIdsFold_special_contract`) and `set_matches` never panicking (`L1dIdsFold_setMatches_ok_*`).
-/
namespace AcVerif
open AcVerif.L1cP AcVerif.L1dP AcVerif.L1eP AcVerif.L1dIdsP AcVerif.CNfa
open AcVerif.L1cFoldP

theorem L1dIdsFold_obsEquiv (k : MatchKind) (P : List (List UInt8)) (sk : StartKind)
    (bc hasPre anch : Bool) (h : supportsAnch sk anch) :
    ∃ s0 m0,
      ((buildDfaIds (CNfa.compile k true P) sk bc hasPre).toAut k P hasPre).start anch = some s0 ∧
      ((buildDfa (CNfa.compile k true P) sk bc).toAut k P hasPre).start anch = some m0 ∧
      ObsEquiv ((buildDfaIds (CNfa.compile k true P) sk bc hasPre).toAut k P hasPre)
        ((buildDfa (CNfa.compile k true P) sk bc).toAut k P hasPre) false anch s0 m0 :=
  have ⟨_, hN⟩ := compile_specG k true P
  buildDfaIds_obsEquiv hN P sk bc hasPre anch h

/-! ## stored DFA = ideal automaton -/

theorem L1dIdsFold_searchEquiv (k : MatchKind) (P : List (List UInt8)) (sk : StartKind)
    (bc hasPre : Bool) :
    SearchEquiv ((buildDfaIds (CNfa.compile k true P) sk bc hasPre).toAut k P hasPre)
      ((ideal k (P.map (·.map foldByte)) sk hasPre).comap foldByte) :=
  L1dIdsG_searchEquiv k true P sk bc hasPre

/-- `StartEquiv` with the ideal automaton of the same start kind, for **every** anchoring mode:
equivalent start states if the mode is supported, both reject it otherwise -/
theorem L1dIdsFold_startEquiv (k : MatchKind) (P : List (List UInt8)) (sk : StartKind)
    (bc hasPre anch : Bool) :
    StartEquiv ((buildDfaIds (CNfa.compile k true P) sk bc hasPre).toAut k P hasPre)
      ((ideal k (P.map (·.map foldByte)) sk hasPre).comap foldByte) false anch :=
  (L1dIdsFold_searchEquiv k P sk bc hasPre).start anch

/-! ## corollaries: every search result transfers -/

theorem L1dIdsFold_find (k : MatchKind) (P : List (List UInt8)) (sk : StartKind) (bc hasPre : Bool)
    (pre : Option (Prefilter UInt8)) (i : Input UInt8) :
    tryFindFwd ((buildDfaIds (CNfa.compile k true P) sk bc hasPre).toAut k P hasPre) pre i =
      tryFindFwd ((ideal k (P.map (·.map foldByte)) sk hasPre).comap foldByte) pre i :=
  (L1dIdsFold_searchEquiv k P sk bc hasPre).find pre i

theorem L1dIdsFold_iter (k : MatchKind) (P : List (List UInt8)) (sk : StartKind) (bc hasPre : Bool)
    (pre : Option (Prefilter UInt8)) (i : Input UInt8) :
    findIter ((buildDfaIds (CNfa.compile k true P) sk bc hasPre).toAut k P hasPre) pre i =
      findIter ((ideal k (P.map (·.map foldByte)) sk hasPre).comap foldByte) pre i :=
  (L1dIdsFold_searchEquiv k P sk bc hasPre).iter pre i

theorem L1dIdsFold_overlap (k : MatchKind) (P : List (List UInt8)) (sk : StartKind) (bc hasPre : Bool)
    (pre : Option (Prefilter UInt8)) (i : Input UInt8) (n : Nat) :
    ovlCalls ((buildDfaIds (CNfa.compile k true P) sk bc hasPre).toAut k P hasPre) pre i n
        OState.start =
      ovlCalls ((ideal k (P.map (·.map foldByte)) sk hasPre).comap foldByte) pre i n OState.start :=
  (L1dIdsFold_searchEquiv k P sk bc hasPre).overlap pre i n

theorem L1dIdsFold_overlap_iter (k : MatchKind) (P : List (List UInt8)) (sk : StartKind)
    (bc hasPre : Bool) (pre : Option (Prefilter UInt8)) (i : Input UInt8) (fuel : Nat) :
    ovlIterAux ((buildDfaIds (CNfa.compile k true P) sk bc hasPre).toAut k P hasPre) pre i fuel
        OState.start =
      ovlIterAux ((ideal k (P.map (·.map foldByte)) sk hasPre).comap foldByte) pre i fuel OState.start :=
  (L1dIdsFold_searchEquiv k P sk bc hasPre).overlap_iter pre i fuel

/-! ## … and the stored case-insensitive DFA meets the specification (C11): occurrences are read on
the folded patterns and the folded haystack -/

/-- standard semantics (C02 through C11) -/
theorem L1dIdsFold_find_std (P : List (List UInt8)) (bc : Bool) (sk : StartKind) (i : Input UInt8)
    (h : supportsAnch sk i.anch) :
    ∃ r, tryFindFwd ((buildDfaIds (CNfa.compile .std true P) sk bc false).toAut .std P false)
        none i = .ok r ∧
      IsFind .std (P.map (·.map foldByte)) (i.hay.map foldByte) i.s i.e i.anch r := by
  rw [L1dIdsFold_find]
  exact C11_find_std P sk i h

/-- leftmost-longest (C01 through C11) -/
theorem L1dIdsFold_find_ll (P : List (List UInt8)) (bc : Bool) (sk : StartKind) (i : Input UInt8)
    (he : i.earliest = false) (h : supportsAnch sk i.anch) :
    ∃ r, tryFindFwd ((buildDfaIds (CNfa.compile .ll true P) sk bc false).toAut .ll P false)
        none i = .ok r ∧
      IsFind .ll (P.map (·.map foldByte)) (i.hay.map foldByte) i.s i.e i.anch r := by
  rw [L1dIdsFold_find]
  exact C11_find_ll P sk i he h

/-- leftmost-first (C01 through C11) -/
theorem L1dIdsFold_find_lf (P : List (List UInt8)) (bc : Bool) (sk : StartKind) (i : Input UInt8)
    (he : i.earliest = false) (h : supportsAnch sk i.anch) :
    ∃ r, tryFindFwd ((buildDfaIds (CNfa.compile .lf true P) sk bc false).toAut .lf P false)
        none i = .ok r ∧
      IsFind .lf (P.map (·.map foldByte)) (i.hay.map foldByte) i.s i.e i.anch r := by
  rw [L1dIdsFold_find]
  exact C11_find_lf P sk i he h

/-- overlapping search (C03 through C11) -/
theorem L1dIdsFold_overlap_calls (P : List (List UInt8)) (bc : Bool) (sk : StartKind)
    (i : Input UInt8) (h : supportsAnch sk i.anch) :
    ∃ l, IsOverlapList (P.map (·.map foldByte)) (i.hay.map foldByte) i.s i.e i.anch l ∧
      ∀ n, ovlCalls ((buildDfaIds (CNfa.compile .std true P) sk bc false).toAut .std P false)
          none i n OState.start =
        (l.take n).map (fun m => Except.ok (some m)) ++
          List.replicate (n - l.length) (Except.ok none) := by
  obtain ⟨l, h1, h2⟩ := C11_overlap_std P sk i h
  exact ⟨l, h1, fun n => by rw [L1dIdsFold_overlap]; exact h2 n⟩

/-! ## every read is in bounds -/

/-- at every state reachable from a supported start state: the table read of every byte is in
bounds, the id is a multiple of the stride with index `< state_len`; at a match state the
`matches` read is in bounds (no underflow of `- 2`, index `< matches.len()`), the list is
non-empty and holds pattern ids `< P.length` -/
theorem L1dIdsFold_inbounds (k : MatchKind) (P : List (List UInt8)) (sk : StartKind)
    (bc hasPre anch : Bool) (s0 : Nat)
    (hs : ((buildDfaIds (CNfa.compile k true P) sk bc hasPre).toAut k P hasPre).start anch = some s0)
    (w : List UInt8) :
    let D := buildDfaIds (CNfa.compile k true P) sk bc hasPre
    let q := (D.toAut k P hasPre).runFrom anch s0 w
    (∀ b, D.next? q b = some (D.next q b)) ∧
      q % 2 ^ D.stride2 = 0 ∧ q >>> D.stride2 < D.stateLen ∧
      (D.isMatch q = true →
        D.matchList? q = some (D.matchList q) ∧ D.matchList q ≠ [] ∧
          ∀ p ∈ D.matchList q, p < P.length) :=
  have ⟨_, hN⟩ := compile_specG k true P
  List.length_map (as := P) _ ▸ buildDfaIds_inbounds hN P sk bc hasPre anch s0 hs w

/-! ## the `is_special` contract -/

/-- at every state reachable from a supported start state, `is_special` holds exactly for the
dead state, the match states and (with a prefilter) the start states; and every transition of the
dead state leads to the dead state -/
theorem L1dIdsFold_special_contract (k : MatchKind) (P : List (List UInt8)) (sk : StartKind)
    (bc hasPre anch : Bool) (s0 : Nat)
    (hs : ((buildDfaIds (CNfa.compile k true P) sk bc hasPre).toAut k P hasPre).start anch = some s0)
    (w : List UInt8) :
    let D := buildDfaIds (CNfa.compile k true P) sk bc hasPre
    let q := (D.toAut k P hasPre).runFrom anch s0 w
    (D.isSpecial q = true ↔
        (D.isDead q = true ∨ D.isMatch q = true ∨ (hasPre = true ∧ D.isStart q = true))) ∧
      (D.isDead q = true → ∀ b, D.next q b = 0) :=
  have ⟨_, hN⟩ := compile_specG k true P
  buildDfaIds_special_contract hN P sk bc hasPre anch s0 hs w

/-! ## `set_matches` never panics -/

/-- one start kind: a match state of the shuffled NFA at position `i` has the DFA id `i << stride2`,
and `set_matches` indexes `matches` with `i - 2`: no underflow, in range -/
theorem L1dIdsFold_setMatches_ok_one (k : MatchKind) (P : List (List UInt8)) (sk : StartKind)
    (bc hasPre : Bool) (hsk : sk ≠ .both) (i : Nat) (hi : i < (CNfa.compile k true P).size)
    (hm : CNfa.isMatch (CNfa.compile k true P)
      ((shuffleOrder (CNfa.compile k true P)).1.getD i 0) = true) :
    let D := buildDfaIds (CNfa.compile k true P) sk bc hasPre
    (i <<< D.stride2) >>> D.stride2 = i ∧ 2 ≤ i ∧ i - 2 < D.matches_.size :=
  have ⟨_, hN, _, hf⟩ := BuildP.compile_specG' k true P
  setMatches_ok_one hN hf sk bc hasPre hsk hi hm

/-- start kind `Both`: the DFA state indices handed out to position `i` are
`cntB na i ≤ x < cntB na (i + 1)` (`remFoldB_eq`); for a match state each of them is `≥ 2` and
`x - 2` is in range of `matches` -/
theorem L1dIdsFold_setMatches_ok_both (k : MatchKind) (P : List (List UInt8)) (bc hasPre : Bool)
    (i : Nat) (hi : i < (CNfa.compile k true P).size)
    (hm : CNfa.isMatch (CNfa.compile k true P)
      ((shuffleOrder (CNfa.compile k true P)).1.getD i 0) = true)
    (x : Nat) (hx1 : cntB (shuffleOrder (CNfa.compile k true P)).2 i ≤ x)
    (hx2 : x < cntB (shuffleOrder (CNfa.compile k true P)).2 (i + 1)) :
    2 ≤ x ∧ x - 2 < (buildDfaIds (CNfa.compile k true P) .both bc hasPre).matches_.size :=
  have ⟨_, hN, _, hf⟩ := BuildP.compile_specG' k true P
  setMatches_ok_both hN hf bc hasPre hi hm hx1 hx2

/-! ## non-vacuity: `"aB"`, `"Ab"`, start kind `Both`, byte classes on, no prefilter: 7 classes,
stride 8; after `x A B` and after `a b` the stored DFA is at the same match state, listing both
pattern ids -/

example :
    let D := buildDfaIds (CNfa.compile .std true [[0x61, 0x42], [0x41, 0x62]]) .both true false
    (D.stride2, D.alphabetLen) = (3, 7) ∧
      (D.toAut .std [[0x61, 0x42], [0x41, 0x62]] false).start false = some D.startU ∧
      (D.toAut .std [[0x61, 0x42], [0x41, 0x62]] false).runFrom false D.startU [0x78, 0x41, 0x42] =
        (D.toAut .std [[0x61, 0x42], [0x41, 0x62]] false).runFrom false D.startU [0x61, 0x62] ∧
      D.matchList? ((D.toAut .std [[0x61, 0x42], [0x41, 0x62]] false).runFrom false D.startU
        [0x61, 0x62]) = some [0, 1] := by
  unfold buildDfaIds idsBoth idsRowsStep idsStartRow idsARow idsURow dfaRow
  rw [classOfMarks_eq_classLt, sparseIter_eq_sparseIterReps]
  decide +kernel

end AcVerif
