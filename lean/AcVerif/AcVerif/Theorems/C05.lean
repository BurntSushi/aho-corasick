import AcVerif.Proofs.PreTransparent
import AcVerif.Proofs.PreSound
/-!
# C05 – prefilters are transparent

Transparency (`C05_transparent`, `C05_find`, `C05_find_std`, `C05_find_ll`, `C05_find_lf`): on
the ideal automaton the search that consults *any* sound prefilter (`PrefilterSound`) returns
exactly what the prefilter-free search returns, hence THE `IsFind` answer.

Soundness (`C05_memmem_sound`, `C05_start_sound`, `C05_rare_sound`, `C05_packed_sound`,
`C05_builder_gates`, `C05_builder_sound`, `C05_builder_transparent`): every prefilter the
builder model (`buildPrefilter`) can return is sound, for every frequency table, constant set
and CPU feature combination (the packed one relative to property C06).

Case-insensitive variants (`C05_transparent_fold`, `C05_start_sound_fold`,
`C05_rare_sound_fold`, `C05_builder_sound_fold`, `C05_builder_transparent_fold`): the automaton
reads the haystack through `foldByte`, the prefilter reads the raw haystack.
-/
namespace AcVerif
open AcVerif.PreP
variable {α : Type} [DecidableEq α]

/-- The engine with a sound prefilter equals the engine without.
`hne`: the real builder disables every prefilter when a pattern is empty.
`he`: in earliest mode on a leftmost searcher a confirming prefilter returns the normal match
instead of the earliest one (documented difference), so that case is excluded. -/
theorem C05_transparent (k : MatchKind) (P : List (List α)) (hne : ∀ p ∈ P, p ≠ [])
    (pre : Prefilter α) (hs : PrefilterSound k P pre) (sk : StartKind) (i : Input α)
    (he : k = .std ∨ i.earliest = false) (h : supportsAnch sk i.anch) :
    tryFindFwd (ideal k P sk true) (some pre) i = tryFindFwd (ideal k P sk false) none i :=
  transparent_comap k P hne pre sk id i (hs.at_id i.hay) he h

/-- with a sound prefilter the engine returns THE answer, under every semantics -/
theorem C05_find (k : MatchKind) (P : List (List α)) (hne : ∀ p ∈ P, p ≠ []) (pre : Prefilter α)
    (hs : PrefilterSound k P pre) (sk : StartKind) (i : Input α)
    (he : k = .std ∨ i.earliest = false) (h : supportsAnch sk i.anch) :
    ∃ r, tryFindFwd (ideal k P sk true) (some pre) i = .ok r ∧
      IsFind k P i.hay i.s i.e i.anch r := by
  obtain ⟨r, h1, h2⟩ := EngP.find_ideal k P sk i he h
  exact ⟨r, (C05_transparent k P hne pre hs sk i he h).trans h1, h2⟩

theorem C05_find_std (P : List (List α)) (hne : ∀ p ∈ P, p ≠ []) (pre : Prefilter α)
    (hs : PrefilterSound .std P pre) (sk : StartKind) (i : Input α)
    (h : supportsAnch sk i.anch) :
    ∃ r, tryFindFwd (ideal .std P sk true) (some pre) i = .ok r ∧
      IsFind .std P i.hay i.s i.e i.anch r :=
  C05_find .std P hne pre hs sk i (Or.inl rfl) h

theorem C05_find_ll (P : List (List α)) (hne : ∀ p ∈ P, p ≠ []) (pre : Prefilter α)
    (hs : PrefilterSound .ll P pre) (sk : StartKind) (i : Input α) (he : i.earliest = false)
    (h : supportsAnch sk i.anch) :
    ∃ r, tryFindFwd (ideal .ll P sk true) (some pre) i = .ok r ∧
      IsFind .ll P i.hay i.s i.e i.anch r :=
  C05_find .ll P hne pre hs sk i (Or.inr he) h

theorem C05_find_lf (P : List (List α)) (hne : ∀ p ∈ P, p ≠ []) (pre : Prefilter α)
    (hs : PrefilterSound .lf P pre) (sk : StartKind) (i : Input α) (he : i.earliest = false)
    (h : supportsAnch sk i.anch) :
    ∃ r, tryFindFwd (ideal .lf P sk true) (some pre) i = .ok r ∧
      IsFind .lf P i.hay i.s i.e i.anch r :=
  C05_find .lf P hne pre hs sk i (Or.inr he) h

/-! ## the modelled prefilters are sound (case-sensitive builder)

For every frequency table `freq`, every constant set `K` and every CPU feature combination. -/

/-- `memmem`: chosen only for a single pattern; its first occurrence is the answer under all
three semantics -/
theorem C05_memmem_sound (K : Consts) (k : MatchKind) (freq : UInt8 → Nat)
    (pats : List (List UInt8)) (avx2 ssse3 : Bool) (hne : ∀ p ∈ pats, p ≠ []) (ch : PreChoice)
    (hb : buildPrefilter K k false freq pats avx2 ssse3 = some ch) (needle : List UInt8)
    (hch : ch = .memmem needle) :
    pats = [needle] ∧ PrefilterSound k pats ch.findIn := by
  subst hch
  obtain ⟨_, _, hm⟩ := build_cases hb
  have := PreBuilder.foldl_memOne K freq pats hne k false needle hm
  subst this
  exact ⟨rfl, memmem_sound k needle⟩

/-- start bytes: every pattern starts with a listed byte -/
theorem C05_start_sound (K : Consts) (k : MatchKind) (freq : UInt8 → Nat)
    (pats : List (List UInt8)) (avx2 ssse3 : Bool) (hne : ∀ p ∈ pats, p ≠ []) (ch : PreChoice)
    (hb : buildPrefilter K k false freq pats avx2 ssse3 = some ch) (bs : List UInt8)
    (hch : ch = .startBytes bs) :
    (∀ p ∈ pats, ∃ b ∈ bs, p.head? = some b) ∧ PrefilterSound k pats ch.findIn := by
  subst hch
  have hcov : ∀ p ∈ pats, ∃ b ∈ bs, p.head? = some b :=
    fun p hp => (build_start_cover hne hb p hp).imp fun b h => ⟨h.2.1, h.1⟩
  exact ⟨hcov, startBytes_sound k pats bs hcov⟩

/-- rare bytes: every pattern contains a listed byte, and the offset table bounds every position
of every byte of every pattern -/
theorem C05_rare_sound (K : Consts) (k : MatchKind) (freq : UInt8 → Nat)
    (pats : List (List UInt8)) (avx2 ssse3 : Bool) (hne : ∀ p ∈ pats, p ≠ []) (ch : PreChoice)
    (hb : buildPrefilter K k false freq pats avx2 ssse3 = some ch) (bs : List UInt8)
    (offs : UInt8 → Nat) (hch : ch = .rareBytes bs offs) :
    (∀ p ∈ pats, ∃ j : Nat, ∃ b ∈ bs, p[j]? = some b) ∧
    (∀ p ∈ pats, ∀ (j : Nat) (b : UInt8), p[j]? = some b → j ≤ offs b) ∧
    PrefilterSound k pats ch.findIn := by
  subst hch
  obtain ⟨h1, h2⟩ := build_rare_cover hne hb
  have hcov : ∀ p ∈ pats, ∃ j : Nat, ∃ b ∈ bs, p[j]? = some b :=
    fun p hp => (h1 p hp).imp fun j ⟨b, h⟩ => ⟨b, h.2.1, h.1⟩
  have hoff : ∀ p ∈ pats, ∀ (j : Nat) (b : UInt8), p[j]? = some b → j ≤ offs b :=
    fun p hp j b hj => (h2 p hp j b hj).1
  exact ⟨hcov, hoff, rareBytes_sound k pats bs offs hcov hoff⟩

/-- packed: sound as soon as the packed searcher returns THE answer (property C06, proved
separately) -/
theorem C05_packed_sound (k : MatchKind) (pats : List (List UInt8)) (srch : PackedSearcher)
    (hC06 : ∀ hay s e, s ≤ e → e ≤ hay.length →
      IsFind k pats hay s e false (srch.findIn hay s e)) :
    PrefilterSound k pats (PreChoice.packed srch).findIn where
  none_sound := by
    intro hay s e he hse h m hm
    simp only [PreChoice.findIn] at h
    split at h
    · rename_i hn
      have := hC06 hay s e hse he
      rw [hn] at this
      exact this m ⟨hm, fun h => by cases h⟩
    · cases h
  pos_sound := by
    intro hay s e i _ _ h
    simp only [PreChoice.findIn] at h
    split at h <;> cases h
  mtch_sound := by
    intro hay s e m he hse h
    simp only [PreChoice.findIn] at h
    split at h
    · cases h
    · rename_i m' hm'
      injection h with h
      subst h
      have := hC06 hay s e hse he
      rw [hm'] at this
      exact this

/-- the builder's gates: an empty pattern disables every prefilter; a case-insensitive builder
never chooses `memmem` or the packed searcher; a standard-semantics builder never chooses the
packed searcher -/
theorem C05_builder_gates (K : Consts) (k : MatchKind) (fold : Bool) (freq : UInt8 → Nat)
    (pats : List (List UInt8)) (avx2 ssse3 : Bool) :
    ([] ∈ pats → buildPrefilter K k fold freq pats avx2 ssse3 = none) ∧
    (∀ ch, buildPrefilter K k fold freq pats avx2 ssse3 = some ch →
      (fold = true → (∀ n, ch ≠ .memmem n) ∧ (∀ s, ch ≠ .packed s)) ∧
      (k = .std → ∀ s, ch ≠ .packed s)) := by
  constructor
  · intro h
    have := PreBuilder.foldl_empty K freq pats h (PreBuilder.new k fold)
    unfold buildPrefilter
    rw [build_eq]
    simp [this]
  · intro ch hb
    by_cases hemp : [] ∈ pats
    · have := PreBuilder.foldl_empty K freq pats hemp (PreBuilder.new k fold)
      obtain ⟨hen, _⟩ := build_cases hb
      rw [this] at hen; cases hen
    · have hne : ∀ p ∈ pats, p ≠ [] := fun p hp h => hemp (h ▸ hp)
      obtain ⟨_, hf, hk, _⟩ := PreBuilder.foldl_nonempty K freq pats hne (PreBuilder.new k fold) rfl
      obtain ⟨_, hc⟩ := build_cases hb
      refine ⟨fun hfold => ⟨?_, ?_⟩, fun hstd => ?_⟩
      · rintro n rfl
        cases hc.1.symm.trans (hf.trans hfold)
      · rintro s rfl
        cases hc.1.symm.trans (hf.trans hfold)
      · rintro s rfl
        exact hc.2 (hk.trans hstd)

end AcVerif

/-! ## the modelled prefilters are sound (case-insensitive builder, `fold = true`)

The searcher is then `(ideal k (pats folded) …).comap foldByte`: the automaton reads the
haystack through the fold while the prefilter reads the raw haystack.  Soundness is relative to
the occurrences of the folded patterns in the folded haystack (`PrefilterSoundAt`), which is
what the transparency theorem `C05_transparent_fold` consumes. -/
namespace AcVerif
open AcVerif.PreP

theorem foldPats_ne_nil {P : List (List UInt8)} (hne : ∀ p ∈ P, p ≠ []) :
    ∀ p' ∈ P.map (·.map foldByte), p' ≠ [] :=
  MiscP.map_map_ne_nil foldByte hne

/-- transparency for the case-insensitive searcher -/
theorem C05_transparent_fold (k : MatchKind) (P : List (List UInt8)) (hne : ∀ p ∈ P, p ≠ [])
    (pre : Prefilter UInt8)
    (hs : ∀ hay, PrefilterSoundAt k (P.map (·.map foldByte)) (pre hay) (hay.map foldByte))
    (sk : StartKind) (i : Input UInt8)
    (he : k = .std ∨ i.earliest = false) (h : supportsAnch sk i.anch) :
    tryFindFwd ((ideal k (P.map (·.map foldByte)) sk true).comap foldByte) (some pre) i =
      tryFindFwd ((ideal k (P.map (·.map foldByte)) sk false).comap foldByte) none i := by
  exact transparent_comap k _ (foldPats_ne_nil hne) pre sk foldByte i (hs i.hay) he h

/-- start bytes, case-insensitive: every pattern's first byte is listed in both cases -/
theorem C05_start_sound_fold (K : Consts) (k : MatchKind) (freq : UInt8 → Nat)
    (pats : List (List UInt8)) (avx2 ssse3 : Bool) (hne : ∀ p ∈ pats, p ≠ []) (ch : PreChoice)
    (hb : buildPrefilter K k true freq pats avx2 ssse3 = some ch) (bs : List UInt8)
    (hch : ch = .startBytes bs) :
    (∀ p ∈ pats, ∃ b, p.head? = some b ∧ b ∈ bs ∧ oppositeAsciiCase b ∈ bs) ∧
    ∀ hay, PrefilterSoundAt k (pats.map (·.map foldByte)) (ch.findIn hay) (hay.map foldByte) := by
  subst hch
  have hcov := build_start_cover hne hb
  exact ⟨fun p hp => (hcov p hp).imp fun b h => ⟨h.1, h.2.1, h.2.2 rfl⟩,
    startBytes_sound_at k caseMap_fold pats bs hcov⟩

/-- rare bytes, case-insensitive: every pattern contains a byte listed in both cases, and the
offset table bounds every position of every byte of every pattern, in both cases -/
theorem C05_rare_sound_fold (K : Consts) (k : MatchKind) (freq : UInt8 → Nat)
    (pats : List (List UInt8)) (avx2 ssse3 : Bool) (hne : ∀ p ∈ pats, p ≠ []) (ch : PreChoice)
    (hb : buildPrefilter K k true freq pats avx2 ssse3 = some ch) (bs : List UInt8)
    (offs : UInt8 → Nat) (hch : ch = .rareBytes bs offs) :
    (∀ p ∈ pats, ∃ (j : Nat) (b : UInt8), p[j]? = some b ∧ b ∈ bs ∧ oppositeAsciiCase b ∈ bs) ∧
    (∀ p ∈ pats, ∀ (j : Nat) (b : UInt8), p[j]? = some b →
      j ≤ offs b ∧ j ≤ offs (oppositeAsciiCase b)) ∧
    ∀ hay, PrefilterSoundAt k (pats.map (·.map foldByte)) (ch.findIn hay) (hay.map foldByte) := by
  subst hch
  obtain ⟨hcov, hoff⟩ := build_rare_cover hne hb
  exact ⟨fun p hp => (hcov p hp).imp fun j ⟨b, h⟩ => ⟨b, h.1, h.2.1, h.2.2 rfl⟩,
    fun p hp j b hj => ⟨(hoff p hp j b hj).1, (hoff p hp j b hj).2 rfl⟩,
    rareBytes_sound_at k caseMap_fold pats bs offs hcov hoff⟩

end AcVerif

/-! ## the builder's choice, end to end -/
namespace AcVerif
open AcVerif.PreP

/-- every prefilter the case-sensitive builder can return is sound (the packed one given C06) -/
theorem C05_builder_sound (K : Consts) (k : MatchKind) (freq : UInt8 → Nat)
    (pats : List (List UInt8)) (avx2 ssse3 : Bool) (hne : ∀ p ∈ pats, p ≠ []) (ch : PreChoice)
    (hb : buildPrefilter K k false freq pats avx2 ssse3 = some ch)
    (hC06 : ∀ srch, ch = .packed srch → ∀ hay s e, s ≤ e → e ≤ hay.length →
      IsFind k pats hay s e false (srch.findIn hay s e)) :
    PrefilterSound k pats ch.findIn := by
  cases hch : ch with
  | memmem needle =>
    exact hch ▸ (C05_memmem_sound K k freq pats avx2 ssse3 hne ch hb needle hch).2
  | startBytes bs =>
    exact hch ▸ (C05_start_sound K k freq pats avx2 ssse3 hne ch hb bs hch).2
  | rareBytes bs offs =>
    exact hch ▸ (C05_rare_sound K k freq pats avx2 ssse3 hne ch hb bs offs hch).2.2
  | packed srch => exact C05_packed_sound k pats srch (hC06 srch hch)

/-- the searcher with the prefilter chosen by the builder equals the searcher without -/
theorem C05_builder_transparent (K : Consts) (k : MatchKind) (freq : UInt8 → Nat)
    (pats : List (List UInt8)) (avx2 ssse3 : Bool) (hne : ∀ p ∈ pats, p ≠ []) (ch : PreChoice)
    (hb : buildPrefilter K k false freq pats avx2 ssse3 = some ch)
    (hC06 : ∀ srch, ch = .packed srch → ∀ hay s e, s ≤ e → e ≤ hay.length →
      IsFind k pats hay s e false (srch.findIn hay s e))
    (sk : StartKind) (i : Input UInt8) (he : k = .std ∨ i.earliest = false)
    (h : supportsAnch sk i.anch) :
    tryFindFwd (ideal k pats sk true) (some ch.findIn) i =
      tryFindFwd (ideal k pats sk false) none i :=
  C05_transparent k pats hne _ (C05_builder_sound K k freq pats avx2 ssse3 hne ch hb hC06) sk i he h

/-- every prefilter the case-insensitive builder can return is sound, unconditionally (it is
never `memmem` nor packed) -/
theorem C05_builder_sound_fold (K : Consts) (k : MatchKind) (freq : UInt8 → Nat)
    (pats : List (List UInt8)) (avx2 ssse3 : Bool) (hne : ∀ p ∈ pats, p ≠ []) (ch : PreChoice)
    (hb : buildPrefilter K k true freq pats avx2 ssse3 = some ch) (hay : List UInt8) :
    PrefilterSoundAt k (pats.map (·.map foldByte)) (ch.findIn hay) (hay.map foldByte) := by
  have hg := ((C05_builder_gates K k true freq pats avx2 ssse3).2 ch hb).1 rfl
  exact builder_byteset_sound hne hb hg.1 hg.2 caseMap_fold k hay

/-- the case-insensitive searcher with the prefilter chosen by the builder equals the one
without -/
theorem C05_builder_transparent_fold (K : Consts) (k : MatchKind) (freq : UInt8 → Nat)
    (pats : List (List UInt8)) (avx2 ssse3 : Bool) (hne : ∀ p ∈ pats, p ≠ []) (ch : PreChoice)
    (hb : buildPrefilter K k true freq pats avx2 ssse3 = some ch)
    (sk : StartKind) (i : Input UInt8) (he : k = .std ∨ i.earliest = false)
    (h : supportsAnch sk i.anch) :
    tryFindFwd ((ideal k (pats.map (·.map foldByte)) sk true).comap foldByte) (some ch.findIn) i =
      tryFindFwd ((ideal k (pats.map (·.map foldByte)) sk false).comap foldByte) none i :=
  C05_transparent_fold k pats hne _
    (C05_builder_sound_fold K k freq pats avx2 ssse3 hne ch hb) sk i he h

end AcVerif

/-! ## non-vacuity -/
namespace AcVerif

/-- a concrete sound prefilter: the start-byte prefilter for `[[1,2],[1,3]]` -/
example : PrefilterSound .lf [[1, 2], [1, 3]] (PreChoice.startBytes [1]).findIn :=
  PreP.startBytes_sound .lf _ _ (by decide)

/-- ... and it is the one the builder model chooses (here with all ranks equal) -/
example : (buildPrefilter {} .lf false (fun _ => 0) [[1, 2], [1, 3]] false false).map
    PreChoice.name = some "start1" := by decide +kernel

private def exJ : Input UInt8 := ⟨[0, 0, 0, 1, 3, 1, 2], 0, 7, false, false, by decide⟩

/-- the prefilter jumps: the initial call skips to position 3 -/
example : (PreChoice.startBytes [1]).findIn exJ.hay exJ.s exJ.e = .pos 3 := by decide +kernel

/-- the search with the (jumping) prefilter returns the leftmost match -/
example : tryFindFwd (ideal .lf [[1, 2], [1, 3]] .both true)
    (some (PreChoice.startBytes [1]).findIn) exJ = .ok (some ⟨1, 3, 5⟩) := by
  rw [C05_transparent .lf _ (by decide) _ (PreP.startBytes_sound .lf _ _ (by decide)) .both exJ
    (Or.inr rfl) (Or.inl rfl)]
  rw [LmP.tryFind_ideal .lf (Or.inr rfl) _ .both exJ (Or.inl rfl) (by decide)]
  rfl

/-- a rare-byte prefilter chosen by the builder (ranks = byte values): start bytes `200`, `201`
are not ASCII, the rare set is `{1}` with offset `1` -/
example : (buildPrefilter {} .lf false (fun b => b.toNat) [[200, 1], [201, 1]] false false).map
    PreChoice.name = some "rare1" := by decide +kernel

private def rareOffs : UInt8 → Nat := fun b => if b == 1 then 1 else 0

private theorem rareCov : ∀ p ∈ ([[200, 1], [201, 1]] : List (List UInt8)),
    ∃ j : Nat, ∃ b ∈ ([1] : List UInt8), p[j]? = some b := by
  intro p hp
  simp only [List.mem_cons, List.not_mem_nil, or_false] at hp
  rcases hp with rfl | rfl <;> exact ⟨1, 1, by simp, rfl⟩

private theorem rareOff : ∀ p ∈ ([[200, 1], [201, 1]] : List (List UInt8)),
    ∀ (j : Nat) (b : UInt8), p[j]? = some b → j ≤ rareOffs b := by
  intro p hp j b hj
  simp only [List.mem_cons, List.not_mem_nil, or_false] at hp
  rcases hp with rfl | rfl <;>
  · match j, hj with
    | 0, _ => exact Nat.zero_le _
    | 1, hj =>
      simp only [List.getElem?_cons_succ, List.getElem?_cons_zero, Option.some.injEq] at hj
      subst hj; decide
    | j + 2, hj => simp at hj

example : PrefilterSound .lf [[200, 1], [201, 1]] (PreChoice.rareBytes [1] rareOffs).findIn :=
  PreP.rareBytes_sound .lf _ _ _ rareCov rareOff

private def exR : Input UInt8 := ⟨[0, 0, 201, 1, 0], 0, 5, false, false, by decide⟩

/-- the rare byte `1` is found at 3 and the candidate is moved back by its offset -/
example : (PreChoice.rareBytes [1] rareOffs).findIn exR.hay exR.s exR.e = .pos 2 := by decide +kernel

example : tryFindFwd (ideal .lf [[200, 1], [201, 1]] .both true)
    (some (PreChoice.rareBytes [1] rareOffs).findIn) exR = .ok (some ⟨1, 2, 4⟩) := by
  rw [C05_transparent .lf _ (by decide) _
    (PreP.rareBytes_sound .lf _ _ _ rareCov rareOff) .both exR (Or.inr rfl) (Or.inl rfl)]
  rw [LmP.tryFind_ideal .lf (Or.inr rfl) _ .both exR (Or.inl rfl) (by decide)]
  rfl

/-- a single pattern: `memmem`, which confirms the match itself -/
example : (buildPrefilter {} .ll false (fun _ => 0) [[1, 3]] false false).map
    PreChoice.name = some "memmem" := by decide +kernel

example : (PreChoice.memmem [1, 3]).findIn exJ.hay exJ.s exJ.e = .mtch ⟨0, 3, 5⟩ := by decide +kernel

/-- case-insensitive: pattern `"ab"`, the start set holds `A` and `a` -/
example : (buildPrefilter {} .lf true (fun _ => 0) [[0x61, 0x62]] false false).map
    PreChoice.name = some "start2" := by decide +kernel

private def exF : Input UInt8 := ⟨[0x78, 0x78, 0x41, 0x62], 0, 4, false, false, by decide⟩

example : (PreChoice.startBytes [0x41, 0x61]).findIn exF.hay exF.s exF.e = .pos 2 := by decide +kernel

example : tryFindFwd ((ideal .lf ([[0x61, 0x62]].map (·.map foldByte)) .both true).comap foldByte)
    (some (PreChoice.startBytes [0x41, 0x61]).findIn) exF = .ok (some ⟨0, 2, 4⟩) := by
  rw [C05_transparent_fold .lf [[0x61, 0x62]] (by decide) _
    (PreP.startBytes_sound_at .lf PreP.caseMap_fold _ _ (by decide)) .both exF (Or.inr rfl)
    (Or.inl rfl)]
  rw [MiscP.tryFindFwd_comap,
    LmP.tryFind_ideal .lf (Or.inr rfl) _ .both (exF.mapHay foldByte) (Or.inl rfl) (by decide)]
  rfl

end AcVerif
