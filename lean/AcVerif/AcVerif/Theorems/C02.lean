import AcVerif.Proofs.EngFind
/-!
# C02 – standard semantics, non-overlapping search

On the ideal standard automaton (no prefilter) `try_find_fwd` (Lean `tryFindFwd`) succeeds for
every supported anchoring mode and returns *the* standard answer: among the
admissible occurrences the one ending first, then the longest, then the one
supplied first (`IsFind .std`); `none` iff there is no admissible occurrence.
-/
namespace AcVerif
open AcVerif.StdP
variable {α : Type} [DecidableEq α]

theorem C02_find (P : List (List α)) (sk : StartKind) (i : Input α)
    (h : supportsAnch sk i.anch) :
    ∃ r, tryFindFwd (ideal .std P sk false) none i = .ok r ∧
         IsFind .std P i.hay i.s i.e i.anch r :=
  EngP.find_ideal .std P sk i (Or.inl rfl) h

/-! ## non-vacuity: concrete instances (nested, duplicate and empty patterns)

`tryFindFwd` is defined by well-founded recursion, which `decide` cannot
unfold; the instances are evaluated through `tryFindFwd_eq` (the loop equals
the head of the structural `allMatches`) and closed by `rfl`. -/

private def ex1 : Input Nat := ⟨[0, 1, 2], 0, 3, false, false, by decide⟩
private def ex2 : Input Nat := ⟨[0, 1, 2], 1, 3, true, false, by decide⟩

/-- the hypotheses of `C02_find` are satisfiable -/
example : ∃ r, tryFindFwd (ideal .std [[1, 2], [2], []] .both false) none ex1 = .ok r ∧
    IsFind .std [[1, 2], [2], []] ex1.hay ex1.s ex1.e ex1.anch r :=
  C02_find _ _ ex1 (Or.inl rfl)

/-- the empty pattern matches at the span start -/
example : tryFindFwd (ideal .std [[1, 2], [2], []] .both false) none ex1 =
    .ok (some ⟨2, 0, 0⟩) := by
  rw [tryFindFwd_eq (stdLike_ideal _ _) ex1 (q0 := .at []) rfl rfl]; rfl

/-- earliest end, then longest, then first supplied (duplicates `[2]`, `[2]`) -/
example : tryFindFwd (ideal .std [[2], [1, 2], [2]] .both false) none ex1 =
    .ok (some ⟨1, 1, 3⟩) := by
  rw [tryFindFwd_eq (stdLike_ideal _ _) ex1 (q0 := .at []) rfl rfl]; rfl

/-- anchored at 1: `[2]` does not start at the span start; `[1]` (first of two copies) does -/
example : tryFindFwd (ideal .std [[2], [1, 2], [1], [1]] .anchored false) none ex2 =
    .ok (some ⟨2, 1, 2⟩) := by
  rw [tryFindFwd_eq (stdLike_ideal _ _) ex2 (q0 := .at []) rfl rfl]; rfl

/-- anchored, nothing starts at the span start -/
example : tryFindFwd (ideal .std [[2], [0, 1]] .both false) none ex2 = .ok none := by
  rw [tryFindFwd_eq (stdLike_ideal _ _) ex2 (q0 := .at []) rfl rfl]; rfl

end AcVerif
