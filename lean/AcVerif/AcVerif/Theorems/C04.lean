import AcVerif.Cert
import AcVerif.Table
import AcVerif.Proofs.Transfer
import AcVerif.Proofs.Struct
/-!
# C04 – automaton kind and representation options never change any result

Per pattern list and configuration pair, a passing certificate
`certOk A B … = true` (A, B dumped real automata, or A the ideal automaton)
implies equal observations after **every** byte string (`C04_cert_all_haystacks`).

The second part carries this to the engines, for any two automaton records: if the start states
of the mode are observationally equivalent (`StartEquiv`, which a passing certificate gives:
`C04_cert_gives_StartEquiv`) and kind and pattern lengths agree, then `tryFindFwd`, the sequence
of overlapping calls and both iterators return the same on both (`C04_find_transfer`,
`C04_overlap_transfer`, `C04_iter_transfer`, `C04_overlap_iter_transfer`).
-/
namespace AcVerif

theorem C04_cert_all_haystacks {σ : Type} [DecidableEq σ]
    (A : Aut σ UInt8) (B : Aut Nat UInt8) (n : Nat) (anch first : Bool)
    (f : Array (Option σ)) (a0 : σ) (b0 : Nat)
    (ha : A.start anch = some a0) (hb : B.start anch = some b0)
    (h : certOk A B n anch first f allBytes = true) (w : List UInt8) :
    A.obs first (A.runFrom anch a0 w) = B.obs first (B.runFrom anch b0 w) :=
  certOk_sound ha hb h mem_allBytes w

theorem C04_cert_start {σ : Type} [DecidableEq σ]
    (A : Aut σ UInt8) (B : Aut Nat UInt8) (n : Nat) (anch first : Bool)
    (f : Array (Option σ)) (h : certOk A B n anch first f allBytes = true) :
    (A.start anch).isSome = (B.start anch).isSome :=
  certOk_start h

end AcVerif

/-! ## Engine level: observationally equivalent automata give identical search
results, for every prefilter function and every input

The non-overlapping search reads only the first listed pattern of a match state, so
equivalence with `first = true` suffices for it; the overlapping search reads the whole
match list and needs `first = false`, which implies the other. -/

namespace AcVerif
variable {σ τ α : Type}

theorem C04_ObsEquiv_false_true (A : Aut σ α) (B : Aut τ α) (anch : Bool) (a : σ) (b : τ)
    (h : ObsEquiv A B false anch a b) : ObsEquiv A B true anch a b := h.toFirst

theorem C04_StartEquiv_false_true (A : Aut σ α) (B : Aut τ α) (anch : Bool)
    (h : StartEquiv A B false anch) : StartEquiv A B true anch := by
  rcases h.cases with ⟨hA, hB⟩ | ⟨a, b, hA, hB, h⟩ <;> unfold StartEquiv <;> rw [hA, hB]
  · trivial
  · exact h.toFirst

theorem C04_find_transfer (A : Aut σ α) (B : Aut τ α) (pre : Option (Prefilter α)) (i : Input α)
    (hk : A.kind = B.kind) (hl : ∀ pid, A.patLen pid = B.patLen pid)
    (h : StartEquiv A B true i.anch) :
    tryFindFwd A pre i = tryFindFwd B pre i := by
  unfold tryFindFwd
  rw [hk]
  by_cases hd : i.isDone = true
  · rw [if_pos hd, if_pos hd]
    rcases h.cases with ⟨hA, hB⟩ | ⟨a, b, hA, hB, _⟩ <;> rw [hA, hB]
  · by_cases ha : i.anch = true
    · simp only [if_neg hd, if_pos ha]
      exact EngP.findImp_transfer A B _ i hl true true _ ha.symm h
    · simp only [if_neg hd, if_neg ha]
      exact EngP.findImp_transfer A B _ i hl true false _ (Bool.eq_false_iff.2 ha).symm h

theorem C04_overlap_transfer (A : Aut σ α) (B : Aut τ α) (pre : Option (Prefilter α)) (i : Input α)
    (hk : A.kind = B.kind) (hl : ∀ pid, A.patLen pid = B.patLen pid)
    (h : StartEquiv A B false i.anch) (n : Nat) :
    ovlCalls A pre i n OState.start = ovlCalls B pre i n OState.start := by
  suffices ∀ x y, EngP.ORel A B i.anch x y → ovlCalls A pre i n x = ovlCalls B pre i n y from
    this _ _ (EngP.ORel.start A B i.anch)
  induction n with
  | zero => intro x y _; rfl
  | succ n ih =>
    intro x y hxy
    rcases (EngP.tryFindOverlappingFwd_transfer A B pre i hk hl h x y hxy).cases with
      ⟨e, hA, hB⟩ | ⟨x', y', hA, hB, hr⟩ <;> simp only [ovlCalls, hA, hB]
    rw [hr.1, ih _ _ hr]

theorem C04_overlap_iter_transfer (A : Aut σ α) (B : Aut τ α) (pre : Option (Prefilter α))
    (i : Input α) (hk : A.kind = B.kind) (hl : ∀ pid, A.patLen pid = B.patLen pid)
    (h : StartEquiv A B false i.anch) (fuel : Nat) :
    ovlIterAux A pre i fuel OState.start = ovlIterAux B pre i fuel OState.start := by
  rw [ovlIterAux_eq_yielded, ovlIterAux_eq_yielded, C04_overlap_transfer A B pre i hk hl h fuel]

theorem C04_iter_transfer (A : Aut σ α) (B : Aut τ α) (pre : Option (Prefilter α)) (i : Input α)
    (hk : A.kind = B.kind) (hl : ∀ pid, A.patLen pid = B.patLen pid)
    (h : StartEquiv A B true i.anch) :
    findIter A pre i = findIter B pre i := by
  have hf : findAt A pre i = findAt B pre i := by
    funext start
    unfold findAt
    split
    · rename_i hs
      rw [C04_find_transfer A B pre { i with s := start, valid := ⟨i.valid.1, hs⟩ } hk hl h]
    · rfl
  unfold findIter
  rcases h.cases with ⟨hA, hB⟩ | ⟨a, b, hA, hB, h⟩ <;> rw [hA, hB]
  simp only [hf]

theorem C04_cert_gives_StartEquiv {σ : Type} [DecidableEq σ] (A : Aut σ UInt8) (B : Aut Nat UInt8)
    (n : Nat) (anch first : Bool) (f : Array (Option σ))
    (h : certOk A B n anch first f allBytes = true) : StartEquiv A B first anch := by
  have hs := certOk_start h
  unfold StartEquiv
  cases hA : A.start anch <;> cases hB : B.start anch <;> rw [hA, hB] at hs <;> simp only
  · simp at hs
  · simp at hs
  · exact fun w => certOk_sound hA hB h mem_allBytes w

end AcVerif
