import AcVerif.Proofs.BuildCheckedTop
import AcVerif.Proofs.BuildCheckedWf
import AcVerif.Proofs.ShufflePerm
import AcVerif.Proofs.TableEval
/-!
# C20, the clause "every pattern collection builds", with the error paths of the builders

(The other clause of C20, the metadata accessors, is `Theorems/C20.lean`.)

`AcVerif/BuildChecked.lean` adds to the transcribed builders the range checks of the real code
(`StateID::new`, `PatternID::new`, `SmallIndex::new`), parameterised by `Limits` (defaults: the
crate's constants on 32/64-bit targets), and transcribes the fallback chain of
`AhoCorasickBuilder::build` / `build_auto`.

* `C20_build_nnc_ok_iff`: the checked noncontiguous build succeeds **iff** the pattern count, the
  pattern lengths and the final lengths of `states`, `sparse`, `matches` (and the last `dense`
  allocation) are within the limits, and then it returns exactly `CNfa.compile`.
* `C20_build_contig_ok_iff`, `C20_build_dfa_ok_iff`: the same for the other two builders.
* `C20_build_ok_nnc`, `C20_build_ok_contig`, `C20_build_ok_dfa`, `C20_build_ok`: explicit sufficient
  conditions in terms of the number of patterns and their total length;
  `C20_build_ok_default`: with the real limits, every collection of at most 1000 patterns with at
  most 10^6 bytes in total builds, in every configuration.
* `C20_build_auto_total`: with `kind(None)` the build fails only if the noncontiguous build fails,
  with the same error; otherwise the searcher is the first of DFA (if tried) / contiguous /
  noncontiguous whose checked build succeeds, and it is the unchecked transcription.
* `C20_build_err_pattern_too_long`, `C20_build_err_pattern_id`, `C20_build_err_state_id`: when the
  noncontiguous build fails, per error kind, exactly.
* `C20_build_sizes`, `C20_shuffle_unwraps_safe`, `C20_dfa_shl_never_fails`, `C20_dfa_shl_no_wrap`:
  side conditions of the real code that are panics, not errors (`with_state_ids` asserts, the
  `unwrap`s of `shuffle`, `checked_shl`), shown unreachable.
* `C20_build_nnc_ok_iff_min`: `states.len()` is never the binding constraint
  (`states.len() + 509 ≤ sparse.len()`).
-/
namespace AcVerif
open CNfa BuildP

/-! ## success, exactly -/

/-- The checked noncontiguous build succeeds iff every test that the real code performs passes, and
the tests collapse to: number of patterns, every pattern length, and the final lengths of the
vectors.  On success the result is the unchecked transcription. -/
theorem C20_build_nnc_ok_iff (L : Limits) (k : MatchKind) (fold : Bool) (dd : Nat)
    (P : List (List UInt8)) (n : CNfa) :
    compileChecked L k fold dd P = .ok n ↔
      n = compile k fold P ∧
      P.length ≤ L.patternIdLimit ∧ (∀ p ∈ P, p.length ≤ L.smallIndexMax) ∧
      (compile k fold P).size ≤ L.stateIdLimit ∧
      sparseLen (buildTrie k fold P) ≤ L.stateIdLimit ∧
      matchesLen (compile k fold P) ≤ L.stateIdLimit ∧
      denseAllocOk L (compile k fold P) dd = true := by
  rw [compile_ok_iff]
  unfold TrieFits PostOk
  rw [size_compile]
  have hm := matchesLen_trie_le_compile k fold P
  constructor
  · rintro ⟨h0, h1, h2, ⟨h3, h4, _⟩, h6, h7⟩
    exact ⟨h0, h1, h2, h3, h4, h6, h7⟩
  · rintro ⟨h0, h1, h2, h3, h4, h6, h7⟩
    exact ⟨h0, h1, h2, ⟨h3, h4, by omega⟩, h6, h7⟩

theorem C20_build_nnc_eq {L : Limits} {k : MatchKind} {fold : Bool} {dd : Nat}
    {P : List (List UInt8)} {n : CNfa} (h : compileChecked L k fold dd P = .ok n) :
    n = compile k fold P :=
  ((C20_build_nnc_ok_iff L k fold dd P n).1 h).1

/-- A successfully built noncontiguous NFA has at most `LIMIT` states, `sparse` and `matches`
entries: the `assert!(len <= LIMIT)` of `with_state_ids()` / `StateID::iter` (primitives.rs:648) in
the later builders and in `Debug` cannot fire. -/
theorem C20_build_sizes {L : Limits} {k : MatchKind} {fold : Bool} {dd : Nat}
    {P : List (List UInt8)} {n : CNfa} (h : compileChecked L k fold dd P = .ok n) :
    4 ≤ n.size ∧ n.size ≤ L.stateIdLimit ∧ matchesLen n ≤ L.stateIdLimit ∧
      P.length ≤ L.patternIdLimit := by
  obtain ⟨rfl, h1, _, h3, _, h5, _⟩ := (C20_build_nnc_ok_iff L k fold dd P n).1 h
  exact ⟨(size_compile_bounds k fold P).1, h3, h5, h1⟩

/-- `states.len() + 509 ≤ sparse.len()` (every trie state that is not a child of the unanchored
start state comes with a fresh `sparse` entry, and the preamble has `769 = 4 + 256 + 509` of them):
the `alloc_state` test can never be the one that fails, and the success condition needs no bound on
the number of states. -/
theorem C20_build_nnc_ok_iff_min (L : Limits) (k : MatchKind) (fold : Bool) (dd : Nat)
    (P : List (List UInt8)) (n : CNfa) :
    compileChecked L k fold dd P = .ok n ↔
      n = compile k fold P ∧
      P.length ≤ L.patternIdLimit ∧ (∀ p ∈ P, p.length ≤ L.smallIndexMax) ∧
      sparseLen (buildTrie k fold P) ≤ L.stateIdLimit ∧
      matchesLen (compile k fold P) ≤ L.stateIdLimit ∧
      denseAllocOk L (compile k fold P) dd = true := by
  rw [C20_build_nnc_ok_iff]
  have := size_compile_lt_sparseLen k fold P
  constructor
  · rintro ⟨h0, h1, h2, _, h4, h5, h6⟩; exact ⟨h0, h1, h2, h4, h5, h6⟩
  · rintro ⟨h0, h1, h2, h4, h5, h6⟩; exact ⟨h0, h1, h2, by omega, h4, h5, h6⟩

/-- The `unwrap`s of `Compiler::shuffle` and `densify` cannot panic after a successful build:
`StateID::new(i).unwrap()` for `i < states.len()` (noncontiguous.rs:1434, :1513),
`StateID::new(next_avail.one_more()).unwrap()` (:1445; the new value is at most the final
`next_avail ≤ states.len()`), and `next_avail.checked_sub(1 | 2 | 3).unwrap()` followed by
`StateID::new(..).unwrap()` (:1474-1483) need `3 ≤ next_avail ≤ states.len() < LIMIT`.  The strict
inequality is not implied by the `alloc_state` test alone (which allows `states.len() = LIMIT`); it
holds because `sparse` overflows 509 entries earlier. -/
theorem C20_shuffle_unwraps_safe {L : Limits} {k : MatchKind} {fold : Bool} {dd : Nat}
    {P : List (List UInt8)} {n : CNfa} (h : compileChecked L k fold dd P = .ok n) :
    n.size + 509 ≤ L.stateIdLimit ∧ 4 ≤ (shuffleOrder n).2 ∧ (shuffleOrder n).2 ≤ n.size ∧
      (shuffleOrder n).2 < L.stateIdLimit := by
  obtain ⟨rfl, _, _, _, h4, _, _⟩ := (C20_build_nnc_ok_iff L k fold dd P n).1 h
  have h1 := size_compile_lt_sparseLen k fold P
  have hS := L1eP.shufOK (compile k fold P) (size_compile_bounds k fold P).1
  have h2 : 4 ≤ (shuffleOrder (compile k fold P)).2 := hS.na_ge
  have h3 : (shuffleOrder (compile k fold P)).2 ≤ (compile k fold P).size := hS.na_le
  exact ⟨by omega, h2, h3, by omega⟩

/-! ## explicit sufficient conditions -/

/-- Sufficient for the noncontiguous build, in terms of the number of patterns `|P|` and their total
length `Σ = totalLen P`:
* `states.len() ≤ 4 + Σ`;
* `sparse.len() ≤ 769 + c·Σ` with `c = 2` under ASCII case folding, else `1`
  (`1 + 3·256` entries of the preamble, then at most `c` per new trie state);
* `matches.len() ≤ 1 + |P|·(states.len() - 2)` (no state lists a pattern twice; `DEAD` and `FAIL`
  list none);
* `dense`: at most `states.len()` rows of at most 256 entries (none when `dense_depth = 0`). -/
structure NncFits (L : Limits) (fold : Bool) (dd : Nat) (P : List (List UInt8)) : Prop where
  npats : P.length ≤ L.patternIdLimit
  plen : ∀ p ∈ P, p.length ≤ L.smallIndexMax
  sparse : 769 + foldC fold * totalLen P ≤ L.stateIdLimit
  matches_ : 1 + P.length * (2 + totalLen P) ≤ L.stateIdLimit
  dense : dd = 0 ∨ 256 * (4 + totalLen P) < L.stateIdLimit

theorem C20_build_ok_nnc {L : Limits} {fold : Bool} {dd : Nat} {P : List (List UInt8)}
    (k : MatchKind) (h : NncFits L fold dd P) :
    compileChecked L k fold dd P = .ok (compile k fold P) := by
  rw [C20_build_nnc_ok_iff]
  have hs := size_compile_bounds k fold P
  have ht := buildTrie_sizes k fold P
  have hc := foldC_pos fold
  have hsp := h.sparse
  refine ⟨rfl, h.npats, h.plen, ?_, ?_, ?_, ?_⟩
  · have : totalLen P ≤ foldC fold * totalLen P := Nat.le_mul_of_pos_left _ hc
    omega
  · omega
  · have h1 := matchesLen_compile_le k fold P
    have h2 : P.length * ((compile k fold P).size - 2) ≤ P.length * (2 + totalLen P) :=
      Nat.mul_le_mul_left _ (by omega)
    have := h.matches_
    omega
  · unfold denseAllocOk
    rcases h.dense with h0 | h0
    · subst h0; rw [denseCount_zero]; rfl
    · simp only [Bool.or_eq_true, beq_iff_eq, decide_eq_true_eq]
      right
      have h1 := denseCount_le (compile k fold P) dd
      have h2 := nncAlphabetLen_le (compile k fold P)
      have h3 : (denseCount (compile k fold P) dd - 1) * nncAlphabetLen (compile k fold P) ≤
          (3 + totalLen P) * 256 :=
        Nat.mul_le_mul (by omega) h2
      omega

/-- Sufficient for the contiguous NFA: `repr.len() ≤ (259 + c)·states.len()` when no state has more
than `c` matches (a state takes at most 2 header words, 256 dense entries or 32 + 127 sparse words,
one match-count word and its matches). -/
theorem C20_build_ok_contig (L : Limits) (n : CNfa) (dd : Nat) (bc hp : Bool) (c : Nat)
    (hc : ∀ sid, (n.getD sid {}).matches_.length ≤ c)
    (h : (259 + c) * n.size ≤ L.stateIdLimit + 1) :
    buildContigChecked L n dd bc hp = .ok (buildContig n dd bc hp) := by
  rw [buildContigChecked_eq, if_pos (contigAllocOk_of_matches L n dd bc c hc h)]

/-- … for a compiled pattern list: `(259 + |P|)·(4 + Σ) ≤ LIMIT + 1` -/
theorem C20_build_ok_contig_compile (L : Limits) (k : MatchKind) (fold : Bool)
    (P : List (List UInt8)) (dd : Nat) (bc hp : Bool)
    (h : (259 + P.length) * (4 + totalLen P) ≤ L.stateIdLimit + 1) :
    buildContigChecked L (compile k fold P) dd bc hp = .ok (buildContig (compile k fold P) dd bc hp) := by
  rw [buildContigChecked_eq, if_pos (contigAllocOk_compile L k fold P dd bc h)]

/-- Sufficient for the DFA: at most `2·states.len()` rows of stride at most 256 -/
theorem C20_build_ok_dfa (L : Limits) (n : CNfa) (sk : StartKind) (bc hp : Bool)
    (h : 512 * n.size ≤ L.stateIdLimit) (h0 : 0 < n.size) :
    buildDfaChecked L n sk bc hp = .ok (buildDfaIds n sk bc hp) := by
  rw [buildDfaChecked_eq, if_pos (DfaFits_of_size L n sk bc hp h h0)]

/-- The contiguous build succeeds iff the offset at which the *last* state is written is a valid
`StateID` (the offsets tested at contiguous.rs:696 increase), and then returns `buildContig`.
`offAt n dd bc i` is the number of words written before the state at shuffled position `i`. -/
theorem C20_build_contig_ok_iff (L : Limits) (n : CNfa) (dd : Nat) (bc hp : Bool) (h3 : 3 ≤ n.size)
    (c : ContigM) :
    buildContigChecked L n dd bc hp = .ok c ↔
      c = buildContig n dd bc hp ∧ L1eP.offAt n dd bc (n.size - 1) < L.stateIdLimit := by
  rw [buildContigChecked_eq, ite_eq_ok, contigAllocOk_iff_last L n dd bc h3, and_comm]

/-- The DFA build succeeds iff the id of the last state, `(state_len - 1) << stride2`, is a valid
`StateID`, and then returns `buildDfaIds`. -/
theorem C20_build_dfa_ok_iff (L : Limits) (n : CNfa) (sk : StartKind) (bc hp : Bool) (d : DfaI) :
    buildDfaChecked L n sk bc hp = .ok d ↔
      d = buildDfaIds n sk bc hp ∧
      ((buildDfaIds n sk bc hp).stateLen <<< (buildDfaIds n sk bc hp).stride2) -
        (1 <<< (buildDfaIds n sk bc hp).stride2) < L.stateIdLimit := by
  rw [buildDfaChecked_eq, ite_eq_ok]
  exact and_comm

/-- the kind `AhoCorasickBuilder::build` ends up with when no build fails -/
def chosenKind (cfg : BuildCfg) (npats : Nat) : AcKind :=
  match cfg.kind with
  | some kd => kd
  | none => if tryDfa cfg npats then .dfa else .contiguous

/-- **Every collection within explicit bounds builds**, and the searcher is the unchecked
transcription of the kind the configuration asks for (automatic choice: a DFA for at most
`autoDfaLimit` patterns unless both start kinds are requested, else the contiguous NFA).  The
contiguous bound is only needed when a contiguous NFA is built, the DFA bound only when a DFA is. -/
theorem C20_build_ok (L : Limits) (cfg : BuildCfg) (P : List (List UInt8))
    (hn : NncFits L cfg.fold cfg.nncDenseDepth P)
    (hc : chosenKind cfg P.length = .contiguous →
      (259 + P.length) * (4 + totalLen P) ≤ L.stateIdLimit + 1)
    (hd : chosenKind cfg P.length = .dfa → 512 * (4 + totalLen P) ≤ L.stateIdLimit) :
    buildChecked L cfg P = .ok (buildUnchecked cfg P (chosenKind cfg P.length)) := by
  rw [buildChecked_eq, C20_build_ok_nnc cfg.matchKind hn]
  have hs := size_compile_bounds cfg.matchKind cfg.fold P
  have hdfa : chosenKind cfg P.length = .dfa →
      DfaFits L (compile cfg.matchKind cfg.fold P) cfg.startKind cfg.byteClasses cfg.hasPre :=
    fun hk => DfaFits_of_size L _ _ _ _ (by have := hd hk; omega) (by omega)
  have hcon : chosenKind cfg P.length = .contiguous →
      contigAllocOk L (compile cfg.matchKind cfg.fold P) cfg.contigDenseDepth cfg.byteClasses = true :=
    fun hk => contigAllocOk_compile L _ _ P _ _ (hc hk)
  unfold chosenKind at hdfa hcon ⊢
  unfold buildUnchecked
  cases hk : cfg.kind with
  | none =>
    simp only [hk] at hdfa hcon ⊢
    unfold autoChoice
    by_cases ht : tryDfa cfg P.length = true
    · simp only [ht, if_true, true_and] at hdfa hcon ⊢
      rw [if_pos (hdfa trivial)]
    · simp only [ht, if_false, false_and, Bool.false_eq_true] at hdfa hcon ⊢
      rw [if_pos (hcon trivial)]
  | some kd =>
    simp only [hk] at hdfa hcon ⊢
    cases kd with
    | noncontiguous => rfl
    | contiguous => simp only [if_pos (hcon rfl)]
    | dfa => simp only [if_pos (hdfa rfl)]

/-- With the real limits (`StateID::LIMIT = 2^31 - 1`): every collection of at most 1000 patterns
with at most 10^6 bytes in total builds, whatever the match kind, case folding, start kind, requested
kind, dense depths and byte-class setting. -/
theorem C20_build_ok_default (cfg : BuildCfg) (P : List (List UInt8))
    (hP : P.length ≤ 1000) (hT : totalLen P ≤ 1000000) :
    buildChecked {} cfg P = .ok (buildUnchecked cfg P (chosenKind cfg P.length)) := by
  apply C20_build_ok
  · have hc : foldC cfg.fold ≤ 2 := by unfold foldC; split <;> omega
    have h1 : foldC cfg.fold * totalLen P ≤ 2 * 1000000 := Nat.mul_le_mul hc hT
    have h2 : P.length * (2 + totalLen P) ≤ 1000 * (2 + 1000000) :=
      Nat.mul_le_mul hP (by omega)
    exact
      { npats := by show P.length ≤ 2147483647; omega
        plen := fun p hp => by
          have := length_le_totalLen hp
          show p.length ≤ 2147483646; omega
        sparse := by show _ ≤ 2147483647; omega
        matches_ := by show _ ≤ 2147483647; omega
        dense := Or.inr (by show _ < 2147483647; omega) }
  · intro _
    have h2 : (259 + P.length) * (4 + totalLen P) ≤ (259 + 1000) * (4 + 1000000) :=
      Nat.mul_le_mul (by omega) (by omega)
    show _ ≤ 2147483647 + 1; omega
  · intro _
    show _ ≤ 2147483647; omega

/-! ## the fallback chain of `build_auto` -/

/-- With `kind(None)`, `AhoCorasickBuilder::build` is the noncontiguous build followed by an
infallible choice: the error (if any) is the error of the noncontiguous build; otherwise the
searcher is the DFA if it is tried (`start_kind != Both` and at most `autoDfaLimit` patterns) and its
table fits, else the contiguous NFA if all its state offsets fit, else the noncontiguous NFA – each
being the unchecked transcription built from `CNfa.compile`. -/
theorem C20_build_auto_total (L : Limits) (cfg : BuildCfg) (P : List (List UInt8))
    (hk : cfg.kind = none) :
    buildChecked L cfg P =
      match compileChecked L cfg.matchKind cfg.fold cfg.nncDenseDepth P with
      | .error e => .error e
      | .ok n =>
        .ok (if tryDfa cfg P.length = true ∧ DfaFits L n cfg.startKind cfg.byteClasses cfg.hasPre then
            .dfa (buildDfaIds n cfg.startKind cfg.byteClasses cfg.hasPre)
          else if contigAllocOk L n cfg.contigDenseDepth cfg.byteClasses = true then
            .contig (buildContig n cfg.contigDenseDepth cfg.byteClasses cfg.hasPre)
          else builtNnc cfg n) := by
  rw [buildChecked_eq]
  cases compileChecked L cfg.matchKind cfg.fold cfg.nncDenseDepth P with
  | error e => rfl
  | ok n => simp only [hk]; rfl

/-- … it fails only if the noncontiguous build fails, and with the same error -/
theorem C20_build_auto_err_iff (L : Limits) (cfg : BuildCfg) (P : List (List UInt8))
    (hk : cfg.kind = none) (e : BuildErr) :
    buildChecked L cfg P = .error e ↔
      compileChecked L cfg.matchKind cfg.fold cfg.nncDenseDepth P = .error e := by
  rw [C20_build_auto_total L cfg P hk]
  cases compileChecked L cfg.matchKind cfg.fold cfg.nncDenseDepth P with
  | error e' => simp
  | ok n => simp

/-- … and otherwise it succeeds, with the first kind of the chain whose checked build succeeds -/
theorem C20_build_auto_kind (L : Limits) (cfg : BuildCfg) (P : List (List UInt8))
    (hk : cfg.kind = none) {n : CNfa}
    (hn : compileChecked L cfg.matchKind cfg.fold cfg.nncDenseDepth P = .ok n) :
    ∃ b, buildChecked L cfg P = .ok b ∧
      b.kind =
        if tryDfa cfg P.length = true ∧
            errOf (buildDfaChecked L n cfg.startKind cfg.byteClasses cfg.hasPre) = none then .dfa
        else if errOf (buildContigChecked L n cfg.contigDenseDepth cfg.byteClasses cfg.hasPre) = none
          then .contiguous
        else .noncontiguous := by
  rw [C20_build_auto_total L cfg P hk, hn]
  refine ⟨_, rfl, ?_⟩
  simp only [buildDfaChecked_eq, buildContigChecked_eq, errOf_ite]
  rw [apply_ite Built.kind, apply_ite Built.kind]
  rfl

/-- with an explicit kind the error of the requested builder is returned -/
theorem C20_build_explicit (L : Limits) (cfg : BuildCfg) (P : List (List UInt8)) (kd : AcKind)
    (hk : cfg.kind = some kd) {n : CNfa}
    (hn : compileChecked L cfg.matchKind cfg.fold cfg.nncDenseDepth P = .ok n) :
    buildChecked L cfg P =
      match kd with
      | .noncontiguous => .ok (builtNnc cfg n)
      | .contiguous =>
        (buildContigChecked L n cfg.contigDenseDepth cfg.byteClasses cfg.hasPre).map .contig
      | .dfa => (buildDfaChecked L n cfg.startKind cfg.byteClasses cfg.hasPre).map .dfa := by
  rw [buildChecked_eq, hn]
  simp only [hk]
  cases kd with
  | noncontiguous => rfl
  | contiguous => simp only; rw [buildContigChecked_eq]; split <;> rfl
  | dfa => simp only; rw [buildDfaChecked_eq]; split <;> rfl

/-! ## failure of the noncontiguous build, per error kind -/

/-- `PatternTooLong(i, len)`: pattern `i` is the first problem – its id fits, it is too long, the
earlier patterns are short enough and the trie of the earlier patterns fits. -/
theorem C20_build_err_pattern_too_long (L : Limits) (k : MatchKind) (fold : Bool) (dd : Nat)
    (P : List (List UInt8)) (i len : Nat) :
    compileChecked L k fold dd P = .error (.patternTooLong i len) ↔
      ∃ h : i < P.length, i < L.patternIdLimit ∧ len = P[i].length ∧ L.smallIndexMax < len ∧
        (∀ p ∈ P.take i, p.length ≤ L.smallIndexMax) ∧
        TrieFits L (buildTrie k fold (P.take i)) := by
  rw [compile_error_iff]
  simp only [trieStepChecked_tooLong, reduceCtorEq, and_false, false_or, or_false]
  constructor
  · rintro ⟨_, hi, _, hlen, hfit, h1, h2, rfl, rfl⟩
    exact ⟨hi, h1, rfl, Nat.lt_of_not_le h2, hlen, hfit⟩
  · rintro ⟨hi, h1, rfl, h3, hlen, hfit⟩
    exact ⟨i, hi, Nat.le_of_lt h1, hlen, hfit, h1, Nat.not_le_of_lt h3, rfl, rfl⟩

/-- `PatternIDOverflow`: there are more than `patternIdLimit` patterns and the first
`patternIdLimit` of them build. -/
theorem C20_build_err_pattern_id (L : Limits) (k : MatchKind) (fold : Bool) (dd : Nat)
    (P : List (List UInt8)) :
    compileChecked L k fold dd P = .error .patternIdOverflow ↔
      L.patternIdLimit < P.length ∧
        (∀ p ∈ P.take L.patternIdLimit, p.length ≤ L.smallIndexMax) ∧
        TrieFits L (buildTrie k fold (P.take L.patternIdLimit)) := by
  rw [compile_error_iff]
  simp only [trieStepChecked_patternId, reduceCtorEq, and_false, false_or, or_false]
  constructor
  · rintro ⟨i, hi, hle, hlen, hfit, hnot⟩
    obtain rfl : i = L.patternIdLimit := Nat.le_antisymm hle (Nat.le_of_not_lt hnot)
    exact ⟨hi, hlen, hfit⟩
  · rintro ⟨h1, hlen, hfit⟩
    exact ⟨_, h1, Nat.le_refl _, hlen, hfit, Nat.lt_irrefl _⟩

/-- `StateIDOverflow`: the preamble does not fit; or the patterns up to and including some pattern
`i` pass their tests, the trie of the first `i` patterns fits and the trie of the first `i + 1` does
not; or `build_trie` succeeds and `matches` / `dense` overflow in a later phase. -/
theorem C20_build_err_state_id (L : Limits) (k : MatchKind) (fold : Bool) (dd : Nat)
    (P : List (List UInt8)) :
    compileChecked L k fold dd P = .error .stateIdOverflow ↔
      ¬ TrieFits L init ∨
      (∃ i, i < P.length ∧ i < L.patternIdLimit ∧
        (∀ p ∈ P.take (i + 1), p.length ≤ L.smallIndexMax) ∧
        TrieFits L (buildTrie k fold (P.take i)) ∧
        ¬ TrieFits L (buildTrie k fold (P.take (i + 1)))) ∨
      (P.length ≤ L.patternIdLimit ∧ (∀ p ∈ P, p.length ≤ L.smallIndexMax) ∧
        TrieFits L (buildTrie k fold P) ∧
        ¬ (matchesLen (compile k fold P) ≤ L.stateIdLimit ∧
            denseAllocOk L (compile k fold P) dd = true)) := by
  rw [compile_error_iff]
  simp only [trieStepChecked_stateId, and_true]
  refine or_congr Iff.rfl (or_congr ?_ Iff.rfl)
  constructor
  · rintro ⟨i, hi, _, hlen, hfit, ⟨h1, h2⟩, hnf⟩
    rw [buildTrie_take_succ k fold P i hi] at hnf
    exact ⟨i, hi, h1, (forall_mem_take_succ hi).2 ⟨hlen, h2⟩, hfit, hnf⟩
  · rintro ⟨i, hi, h1, hlen, hfit, hnf⟩
    obtain ⟨hlen, h2⟩ := (forall_mem_take_succ hi).1 hlen
    rw [← buildTrie_take_succ k fold P i hi] at hnf
    exact ⟨i, hi, Nat.le_of_lt h1, hlen, hfit, ⟨h1, h2⟩, hnf⟩

/-! ## side conditions of the DFA builder that are not errors -/

/-- `state_len.checked_shl(stride2)` (dfa.rs:463) is never `None`: `stride2 ≤ 8 < usize::BITS` -/
theorem C20_dfa_shl_never_fails (n : CNfa) (sk : StartKind) (bc hp : Bool) :
    (buildDfaIds n sk bc hp).stride2 < usizeBits := by
  have := buildDfaIds_stride2_le n sk bc hp
  unfold usizeBits; omega

/-- … and with the real limits it loses no bit on a 64-bit target, so `trans_len` is the product the
model uses: `state_len << stride2 < 2^64` for every successfully built noncontiguous NFA -/
theorem C20_dfa_shl_no_wrap {k : MatchKind} {fold : Bool} {dd : Nat} {P : List (List UInt8)}
    {n : CNfa} (h : compileChecked {} k fold dd P = .ok n) (sk : StartKind) (bc hp : Bool) :
    (buildDfaIds n sk bc hp).stateLen <<< (buildDfaIds n sk bc hp).stride2 < 2 ^ 64 := by
  have hs : n.size ≤ 2147483647 := (C20_build_sizes h).2.1
  have h1 := buildDfaIds_shl_le n sk bc hp
  omega

/-! ## non-vacuity: small artificial limits (the preamble alone needs 769 `sparse` entries) -/

/-- two patterns: 7 states, 770 `sparse` entries, 4 `matches` entries -/
def exP : List (List UInt8) := [[97, 98], [98]]

/-- builds with the real limits (automatic choice: a DFA) … -/
example : (buildChecked {} {} exP).toOption.map Built.kind = some .dfa := by
  rw [C20_build_ok_default {} exP (by decide) (by decide)]; rfl

/-- … and with `LIMIT = 770`, but not with `LIMIT = 769` (`sparse`) -/
example : errOf (compileChecked { stateIdLimit := 770 } .std false 3 exP) = none := by
  unfold compileChecked denseAllocOk nncAlphabetLen
  rw [classOfMarks_eq_classLt]
  decide +kernel
example : errOf (compileChecked { stateIdLimit := 769 } .std false 3 exP) =
    some .stateIdOverflow := by decide +kernel

/-- the preamble alone overflows below 769 -/
example : errOf (compileChecked { stateIdLimit := 10 } .std false 3 []) = some .stateIdOverflow := by
  decide +kernel

/-- a second pattern when only one id is available -/
example : errOf (compileChecked { patternIdLimit := 1 } .std false 3 exP) =
    some .patternIdOverflow := by decide +kernel

/-- a pattern longer than `SmallIndex::MAX` – the error names the first such pattern -/
example : errOf (compileChecked { smallIndexMax := 1 } .std false 3 exP) =
    some (.patternTooLong 0 2) := by decide +kernel

/-- order of the tests: pattern 1 is too long *and* has no id; the id test comes first -/
example : errOf (compileChecked { patternIdLimit := 1, smallIndexMax := 2 } .std false 3
    [[97], [97, 98, 99]]) = some .patternIdOverflow := by decide +kernel

/-- an explicitly requested DFA whose table (7 states × 256) exceeds the limit is an error … -/
example : errOf (buildChecked { stateIdLimit := 1000 }
    { byteClasses := false, contigDenseDepth := 0, kind := some .dfa } exP) =
    some .stateIdOverflow := by
  unfold buildChecked compileChecked denseAllocOk nncAlphabetLen
  rw [classOfMarks_eq_classLt]
  decide +kernel

/-- … the automatic choice falls back to the contiguous NFA (last state at offset 782) … -/
example : (buildChecked { stateIdLimit := 1000 } { byteClasses := false, contigDenseDepth := 0 }
    exP).toOption.map Built.kind = some .contiguous := by
  unfold buildChecked buildAutoChecked buildContigChecked contigAllocOk contigOffsets compileChecked
    denseAllocOk nncAlphabetLen
  rw [classOfMarks_eq_classLt]
  simp only [L1eP.writeState_length]
  decide +kernel

/-- … and, when that does not fit either, to the noncontiguous NFA -/
example : (buildChecked { stateIdLimit := 780 } { byteClasses := false, contigDenseDepth := 0 }
    exP).toOption.map Built.kind = some .noncontiguous := by
  unfold buildChecked buildAutoChecked buildContigChecked contigAllocOk contigOffsets compileChecked
    denseAllocOk nncAlphabetLen
  rw [classOfMarks_eq_classLt]
  simp only [L1eP.writeState_length]
  decide +kernel

end AcVerif
