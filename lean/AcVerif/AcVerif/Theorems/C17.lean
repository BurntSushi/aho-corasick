import AcVerif.Engine.History
/-!
# C17 – searches are pure (model part)

In the model a searcher is an immutable value, so these theorems are close to
definitional; their role is to *state* what the concurrent differential run
compares: (1) a plain search in any history returns what it returns alone
(`C17_find_pure`, `C17_finds_in_history`); (2) what a caller observes on one of its
own handles (an overlapping-search state) depends only on the operations issued on
that handle, not on anything interleaved with them (`C17_handles_independent`).
Absence of data races in the compiled code is not expressible in the model:
it is checked by a source audit (no interior mutability outside the
cfg-guarded hooks; `Send + Sync` bounds) and observed by the concurrent run.
-/
namespace AcVerif
variable {σ α : Type}

theorem C17_find_pure (A : Aut σ α) (pre : Option (Prefilter α)) (st : Nat → OState σ)
    (i : Input α) : stepOp A pre st (.find i) = (st, .found (tryFindFwd A pre i)) := rfl

theorem stepOp_other (A : Aut σ α) (pre : Option (Prefilter α)) (st : Nat → OState σ)
    (k h : Nat) (hk : k ≠ h) (i : Input α) : (stepOp A pre st (.ovl k i)).1 h = st h := by
  simp only [stepOp]
  cases tryFindOverlappingFwd A pre i (st k) with
  | ok s' => simp [Ne.symm hk]
  | error e => rfl

theorem stepOp_local (A : Aut σ α) (pre : Option (Prefilter α)) (st st' : Nat → OState σ)
    (h : Nat) (i : Input α) (heq : st h = st' h) :
    (stepOp A pre st (.ovl h i)).2 = (stepOp A pre st' (.ovl h i)).2 ∧
    (stepOp A pre st (.ovl h i)).1 h = (stepOp A pre st' (.ovl h i)).1 h := by
  simp only [stepOp, heq]
  cases tryFindOverlappingFwd A pre i (st' h) with
  | ok s' => simp
  | error e => exact ⟨rfl, heq⟩

/-- **Handles are independent.**  The results a caller sees on handle `h` in an
arbitrary history (operations of other callers interleaved in any way) are
exactly the results of running only its own operations. -/
theorem C17_handles_independent (A : Aut σ α) (pre : Option (Prefilter α)) (h : Nat)
    (ops : List (Op α)) (st st' : Nat → OState σ) (heq : st h = st' h) :
    resultsOn A pre h st ops = resultsOn A pre h st' (onHandle h ops) := by
  induction ops generalizing st st' with
  | nil => rfl
  | cons op ops ih =>
    cases op with
    | find i =>
      simp only [resultsOn, onHandle]
      exact ih _ _ (by rw [C17_find_pure]; exact heq)
    | ovl k i =>
      by_cases hk : k = h
      · subst hk
        simp only [resultsOn, onHandle, if_true]
        obtain ⟨h1, h2⟩ := stepOp_local A pre st st' k i heq
        rw [h1]
        exact congrArg _ (ih _ _ h2)
      · simp only [resultsOn, onHandle, if_neg hk]
        exact ih _ _ (by rw [stepOp_other A pre st k h hk i]; exact heq)

theorem C17_finds_in_history (A : Aut σ α) (pre : Option (Prefilter α)) (ops : List (Op α))
    (st : Nat → OState σ) (n : Nat) (i : Input α) (hn : ops[n]? = some (.find i)) :
    (runHist A pre st ops)[n]? = some (.found (tryFindFwd A pre i)) := by
  induction ops generalizing st n with
  | nil => simp at hn
  | cons op ops ih =>
    cases n with
    | zero =>
      simp only [List.getElem?_cons_zero, Option.some.injEq] at hn
      subst hn
      simp [runHist, stepOp]
    | succ n =>
      simp only [List.getElem?_cons_succ] at hn
      simp only [runHist, List.getElem?_cons_succ]
      exact ih _ _ hn

end AcVerif
