import AcVerif.Theorems.C02
import AcVerif.Theorems.C03
import AcVerif.Proofs.Comap
import AcVerif.Proofs.FoldFacts
/-!
# C11 – ASCII case-insensitive search

(a) The byte-level facts about `foldByte` (ASCII lower-casing) and `opposite_ascii_case` (Lean
`oppositeAsciiCase`); they rest on a complete case analysis over all 256 bytes
(`Proofs/FoldFacts.lean`).

(b) The case-insensitive searcher is the automaton of the folded patterns whose
transition function folds the input byte first (`Aut.comap foldByte`).  By
`tryFindFwd_comap` / `ovlCalls_comap` (valid for every automaton and every
map) searching with it is searching the folded haystack, so the standard
theorems C02/C03 apply with "pattern and haystack compared after folding
both" as the reading of an occurrence.  Pattern ids, starts and lengths are
those of the supplied patterns (`C11_ids`).
-/
namespace AcVerif
open AcVerif.MiscP

/-! ## (a) the fold, byte by byte -/

theorem C11_fold_letters (b : UInt8) :
    foldByte b = if 0x41 ≤ b ∧ b ≤ 0x5A then b + 32 else b := rfl

theorem C11_fold_idem (b : UInt8) : foldByte (foldByte b) = foldByte b := fold_idem b

theorem C11_fold_nonletter (b : UInt8)
    (h : ¬ ((0x41 ≤ b ∧ b ≤ 0x5A) ∨ (0x61 ≤ b ∧ b ≤ 0x7A))) :
    foldByte b = b ∧ oppositeAsciiCase b = b := fold_nonletter b h

theorem C11_opp_involution (b : UInt8) : oppositeAsciiCase (oppositeAsciiCase b) = b :=
  opp_involution b

theorem C11_fold_opp (b : UInt8) : foldByte (oppositeAsciiCase b) = foldByte b := fold_opp b

theorem C11_fold_eq_iff (a b : UInt8) :
    foldByte a = foldByte b ↔ a = b ∨ a = oppositeAsciiCase b := fold_eq_iff a b

/-! ## (b) the case-insensitive searcher -/

theorem C11_find_std (P : List (List UInt8)) (sk : StartKind) (i : Input UInt8)
    (h : supportsAnch sk i.anch) :
    ∃ r, tryFindFwd ((ideal .std (P.map (·.map foldByte)) sk false).comap foldByte) none i
          = .ok r ∧
       IsFind .std (P.map (·.map foldByte)) (i.hay.map foldByte) i.s i.e i.anch r :=
  EngP.find_ideal_comap foldByte .std P sk i (Or.inl rfl) h

theorem C11_overlap_std (P : List (List UInt8)) (sk : StartKind) (i : Input UInt8)
    (h : supportsAnch sk i.anch) :
    ∃ l, IsOverlapList (P.map (·.map foldByte)) (i.hay.map foldByte) i.s i.e i.anch l ∧
      ∀ n, ovlCalls ((ideal .std (P.map (·.map foldByte)) sk false).comap foldByte) none i n
          OState.start =
        (l.take n).map (fun m => Except.ok (some m)) ++
          List.replicate (n - l.length) (Except.ok none) := by
  obtain ⟨l, hl, hn⟩ := C03_calls (P.map (·.map foldByte)) sk (i.mapHay foldByte) h
  refine ⟨l, hl, fun n => ?_⟩
  exact (ovlCalls_comap _ foldByte i n _).trans (hn n)

theorem C11_ids (P : List (List UInt8)) (pid : Nat) :
    (P.map (·.map foldByte))[pid]? = (P[pid]?).map (·.map foldByte) ∧
    ((P.map (·.map foldByte)).getD pid []).length = (P.getD pid []).length := by
  exact ⟨List.getElem?_map .., List.length_getD_map_map foldByte P pid⟩

/-! ## non-vacuity: pattern `"aB"` (and `"B"`) in haystack `"xAb"`, case-insensitively -/

private def exI : Input UInt8 := ⟨[0x78, 0x41, 0x62], 0, 3, false, false, by decide⟩

example : tryFindFwd ((ideal .std ([[0x61, 0x42], [0x42]].map (·.map foldByte)) .both false).comap
    foldByte) none exI = .ok (some ⟨0, 1, 3⟩) := by
  rw [tryFindFwd_comap,
    StdP.tryFindFwd_eq (StdP.stdLike_ideal _ _) (exI.mapHay foldByte) (q0 := .at []) rfl rfl]
  exact congrArg Except.ok (by decide +kernel)

example : ∃ r, tryFindFwd ((ideal .std ([[0x61, 0x42], [0x42]].map (·.map foldByte)) .both
    false).comap foldByte) none exI = .ok r ∧
    IsFind .std ([[0x61, 0x42], [0x42]].map (·.map foldByte)) (exI.hay.map foldByte)
      exI.s exI.e exI.anch r :=
  C11_find_std _ _ exI (Or.inl rfl)

end AcVerif
