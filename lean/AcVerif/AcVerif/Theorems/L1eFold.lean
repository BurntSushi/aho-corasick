import AcVerif.Proofs.SearchEquiv
import AcVerif.Theorems.L1e
import AcVerif.Theorems.L1dFold
import AcVerif.Proofs.TableEval
/-!
# L1e (fold) – the contiguous NFA built from the NFA compiled with `ascii_case_insensitive(true)`

`buildContig N dd bc hasPre` applied to `N = CNfa.compile k true P` (both-case edges in the trie)
is, for **every** pattern list (`P.length < 2^31`, as in L1e), match kind, dense depth, both
settings of `byte_classes`, with or without prefilter, and both anchoring modes observationally
equivalent to `N` run on the RAW input bytes, follows exactly as many failure links
(`L1eG_obsEquiv` of `Proofs/Layers.lean`, `L1eG_hops` of `Theorems/L1e.lean` at `fold = true`; with
L1cFold: `Ideal.hops` of the folded patterns on the folded byte, `L1eFold_hops_ideal`), and hence is
equivalent to the specification of the case-insensitive searcher (C11),
`(ideal k (P.map (·.map foldByte)) .both hasPre).comap foldByte` (`L1eFold_searchEquiv`,
`L1eFold_startEquiv`).  So every search result transfers (`L1eFold_find`, `L1eFold_iter`,
`L1eFold_overlap`, `L1eFold_overlap_iter`) and the contiguous NFA meets the specification read on
folded patterns and folded haystack (`L1eFold_find_std`, `L1eFold_find_ll`, `L1eFold_find_lf`,
`L1eFold_overlap_calls`).
-/
namespace AcVerif
open AcVerif.L1cP AcVerif.L1dP AcVerif.L1eP AcVerif.L1cFoldP
open AcVerif.L1cIdsP
open AcVerif.CNfa

/-- the state the contiguous `next_state` reaches is the new id of the state the noncontiguous NFA
reaches, both on the raw byte -/
theorem L1eFold_next (k : MatchKind) (P : List (List UInt8)) (hasPre bc : Bool) (dd : Nat) (anch : Bool)
    (w : List UInt8) (c : UInt8) :
    ((buildContig (CNfa.compile k true P) dd bc hasPre).toAut k P hasPre).next anch
        (((buildContig (CNfa.compile k true P) dd bc hasPre).toAut k P hasPre).runFrom anch
          (if anch then (buildContig (CNfa.compile k true P) dd bc hasPre).startA
            else (buildContig (CNfa.compile k true P) dd bc hasPre).startU) w) c =
      cNewId (CNfa.compile k true P) dd bc
        (((CNfa.compile k true P).toAut k P hasPre).next anch
          (((CNfa.compile k true P).toAut k P hasPre).runFrom anch
            (if anch then CNfa.SA else CNfa.SU) w) c) :=
  L1eG_next k true P hasPre bc dd anch w c

theorem L1eFold_searchEquiv (k : MatchKind) (P : List (List UInt8)) (hasPre bc : Bool) (dd : Nat)
    (hP : P.length < 2147483648) :
    SearchEquiv ((buildContig (CNfa.compile k true P) dd bc hasPre).toAut k P hasPre)
      ((ideal k (P.map (·.map foldByte)) .both hasPre).comap foldByte) :=
  L1eG_searchEquiv k true P hasPre bc dd hP

/-- composed with L1cFold: `StartEquiv` with the case-insensitive ideal automaton -/
theorem L1eFold_startEquiv (k : MatchKind) (P : List (List UInt8)) (hasPre bc : Bool) (dd : Nat)
    (hP : P.length < 2147483648) (anch : Bool) :
    StartEquiv ((buildContig (CNfa.compile k true P) dd bc hasPre).toAut k P hasPre)
      ((ideal k (P.map (·.map foldByte)) .both hasPre).comap foldByte) false anch :=
  (L1eFold_searchEquiv k P hasPre bc dd hP).start anch

/-- the hop count is the ideal chain length of the folded patterns on the folded byte -/
theorem L1eFold_hops_ideal (k : MatchKind) (P : List (List UInt8)) (hasPre bc : Bool) (dd : Nat)
    (w : List UInt8) (c : UInt8) :
    ((buildContig (CNfa.compile k true P) dd bc hasPre).nextState false
        ((buildContig (CNfa.compile k true P) dd bc hasPre).repr.size + 1)
        (((buildContig (CNfa.compile k true P) dd bc hasPre).toAut k P hasPre).runFrom false
          (buildContig (CNfa.compile k true P) dd bc hasPre).startU w) c (0, 0)).2 =
      Ideal.hops k (patSet k (P.map (·.map foldByte))) false
        (((ideal k (P.map (·.map foldByte)) .both hasPre).comap foldByte).runFrom false
          (.at []) w) (foldByte c) :=
  (L1eG_hops k true P hasPre bc dd w c).trans (L1cFold_hops k P hasPre w c)

/-! ## corollaries: every search result transfers -/

theorem L1eFold_find (k : MatchKind) (P : List (List UInt8)) (hasPre bc : Bool) (dd : Nat)
    (hP : P.length < 2147483648) (pre : Option (Prefilter UInt8)) (i : Input UInt8) :
    tryFindFwd ((buildContig (CNfa.compile k true P) dd bc hasPre).toAut k P hasPre) pre i =
      tryFindFwd ((ideal k (P.map (·.map foldByte)) .both hasPre).comap foldByte) pre i :=
  (L1eFold_searchEquiv k P hasPre bc dd hP).find pre i

theorem L1eFold_iter (k : MatchKind) (P : List (List UInt8)) (hasPre bc : Bool) (dd : Nat)
    (hP : P.length < 2147483648) (pre : Option (Prefilter UInt8)) (i : Input UInt8) :
    findIter ((buildContig (CNfa.compile k true P) dd bc hasPre).toAut k P hasPre) pre i =
      findIter ((ideal k (P.map (·.map foldByte)) .both hasPre).comap foldByte) pre i :=
  (L1eFold_searchEquiv k P hasPre bc dd hP).iter pre i

theorem L1eFold_overlap (k : MatchKind) (P : List (List UInt8)) (hasPre bc : Bool) (dd : Nat)
    (hP : P.length < 2147483648) (pre : Option (Prefilter UInt8)) (i : Input UInt8) (n : Nat) :
    ovlCalls ((buildContig (CNfa.compile k true P) dd bc hasPre).toAut k P hasPre) pre i n
        OState.start =
      ovlCalls ((ideal k (P.map (·.map foldByte)) .both hasPre).comap foldByte) pre i n
        OState.start :=
  (L1eFold_searchEquiv k P hasPre bc dd hP).overlap pre i n

theorem L1eFold_overlap_iter (k : MatchKind) (P : List (List UInt8)) (hasPre bc : Bool) (dd : Nat)
    (hP : P.length < 2147483648) (pre : Option (Prefilter UInt8)) (i : Input UInt8) (fuel : Nat) :
    ovlIterAux ((buildContig (CNfa.compile k true P) dd bc hasPre).toAut k P hasPre) pre i fuel
        OState.start =
      ovlIterAux ((ideal k (P.map (·.map foldByte)) .both hasPre).comap foldByte) pre i fuel
        OState.start :=
  (L1eFold_searchEquiv k P hasPre bc dd hP).overlap_iter pre i fuel

/-! ## the case-insensitive contiguous NFA meets the specification (C11): occurrences are read on
the folded patterns and the folded haystack -/

/-- standard semantics (C02 through C11) -/
theorem L1eFold_find_std (P : List (List UInt8)) (bc : Bool) (dd : Nat)
    (hP : P.length < 2147483648) (i : Input UInt8) :
    ∃ r, tryFindFwd ((buildContig (CNfa.compile .std true P) dd bc false).toAut .std P false)
        none i = .ok r ∧
      IsFind .std (P.map (·.map foldByte)) (i.hay.map foldByte) i.s i.e i.anch r := by
  rw [L1eFold_find _ _ _ _ _ hP]
  exact C11_find_std P .both i (Or.inl rfl)

/-- leftmost-longest (C01 through C11), both anchoring modes -/
theorem L1eFold_find_ll (P : List (List UInt8)) (bc : Bool) (dd : Nat)
    (hP : P.length < 2147483648) (i : Input UInt8) (he : i.earliest = false) :
    ∃ r, tryFindFwd ((buildContig (CNfa.compile .ll true P) dd bc false).toAut .ll P false)
        none i = .ok r ∧
      IsFind .ll (P.map (·.map foldByte)) (i.hay.map foldByte) i.s i.e i.anch r := by
  rw [L1eFold_find _ _ _ _ _ hP]
  exact C11_find_ll P .both i he (Or.inl rfl)

/-- leftmost-first (C01 through C11), both anchoring modes -/
theorem L1eFold_find_lf (P : List (List UInt8)) (bc : Bool) (dd : Nat)
    (hP : P.length < 2147483648) (i : Input UInt8) (he : i.earliest = false) :
    ∃ r, tryFindFwd ((buildContig (CNfa.compile .lf true P) dd bc false).toAut .lf P false)
        none i = .ok r ∧
      IsFind .lf (P.map (·.map foldByte)) (i.hay.map foldByte) i.s i.e i.anch r := by
  rw [L1eFold_find _ _ _ _ _ hP]
  exact C11_find_lf P .both i he (Or.inl rfl)

/-- overlapping search (C03 through C11) -/
theorem L1eFold_overlap_calls (P : List (List UInt8)) (bc : Bool) (dd : Nat)
    (hP : P.length < 2147483648) (i : Input UInt8) :
    ∃ l, IsOverlapList (P.map (·.map foldByte)) (i.hay.map foldByte) i.s i.e i.anch l ∧
      ∀ n, ovlCalls ((buildContig (CNfa.compile .std true P) dd bc false).toAut .std P false)
          none i n OState.start =
        (l.take n).map (fun m => Except.ok (some m)) ++
          List.replicate (n - l.length) (Except.ok none) := by
  obtain ⟨l, h1, h2⟩ := C11_overlap_std P .both i (Or.inl rfl)
  exact ⟨l, h1, fun n => by rw [L1eFold_overlap _ _ _ _ _ hP]; exact h2 n⟩

/-! ## non-vacuity: patterns `"aB"`, `"Ab"`, dense depth 0, byte classes on, no prefilter

Seven classes (`A`, `B`, `a`, `b` are singletons).  The node `a` (old id 4) has the two edges `B`,
`b` to the shared leaf `ab`; the leaf lists both pattern ids. -/

example :
    let m := buildContig (CNfa.compile .std true [[0x61, 0x42], [0x41, 0x62]]) 0 true false
    m.alphabetLen = 7 ∧
      (m.toAut .std [[0x61, 0x42], [0x41, 0x62]] false).runFrom false m.startU [0x78, 0x41, 0x42] =
        (m.toAut .std [[0x61, 0x42], [0x41, 0x62]] false).runFrom false m.startU [0x61, 0x62] ∧
      m.matchList ((m.toAut .std [[0x61, 0x42], [0x41, 0x62]] false).runFrom false m.startU
        [0x61, 0x62]) = [0, 1] := by
  rw [buildContig, classOfMarks_eq_classLt, writeState_eq_denseSkip]
  decide +kernel

end AcVerif
