import AcVerif.Theorems.C05
import AcVerif.Theorems.C03
import AcVerif.Proofs.PreResumedIdeal
import AcVerif.Proofs.PreResumedCex
/-!
# C05 – prefilters are transparent, resumed searches

`C05_transparent` (Theorems/C05.lean) is about one non-overlapping search.  Here:

* `C05_iter_transparent`: the non-overlapping iterator (`FindIter`) with a sound prefilter
  yields exactly what it yields without one (all three semantics);
* `C05_overlap_transparent`, `C05_overlap_iter_transparent`: the stepwise overlapping search
  (`try_find_overlapping_fwd` called repeatedly on one `OverlappingState`, and
  `FindOverlappingIter`) under a prefilter that is sound *for the overlapping loop*
  (`PrefilterSoundOvl`: `None` means no occurrence in the span, a candidate / confirmed match at
  `i` means no occurrence of the span starts before `i`);
* `C05_overlap_needs_start_soundness`: `PrefilterSound .std` alone does NOT suffice – a
  confirming prefilter that returns the earliest-*ending* occurrence makes the overlapping
  search lose a match (formal counterexample);
* `C05_overlap_transparent_of_sound`, `…_of_leftmost`, `…_single`: `PrefilterSound` plus what is
  missing (confirmed matches are leftmost; or sound for a leftmost semantics; or one pattern);
* `C05_builder_sound_ovl`, `C05_builder_overlap_transparent`, `C05_builder_overlap_iter_transparent`:
  the prefilter the (case-sensitive) builder model chooses under standard semantics is sound for
  the overlapping loop, for every frequency table, constant set and CPU feature combination –
  it never confirms matches unless there is a single pattern;
* `…_fold`: the same for the case-insensitive searcher (automaton reading through `foldByte`).
-/
namespace AcVerif
open AcVerif.PreP AcVerif.PreP2
variable {α : Type} [DecidableEq α]

/-- the non-overlapping iterator with a sound prefilter yields exactly what it yields without
one -/
theorem C05_iter_transparent (k : MatchKind) (P : List (List α)) (hne : ∀ p ∈ P, p ≠ [])
    (pre : Prefilter α) (hs : PrefilterSound k P pre) (sk : StartKind) (i : Input α)
    (he : k = .std ∨ i.earliest = false) (h : supportsAnch sk i.anch) :
    findIter (ideal k P sk true) (some pre) i = findIter (ideal k P sk false) none i :=
  findIter_transparent_comap k P hne pre sk id i (hs.at_id i.hay) he h

/-- every search of the iterator, taken alone (`self.input.set_start(start); self.search()`) -/
theorem C05_findAt_transparent (k : MatchKind) (P : List (List α)) (hne : ∀ p ∈ P, p ≠ [])
    (pre : Prefilter α) (hs : PrefilterSound k P pre) (sk : StartKind) (i : Input α)
    (he : k = .std ∨ i.earliest = false) (h : supportsAnch sk i.anch) (start : Nat) :
    findAt (ideal k P sk true) (some pre) i start = findAt (ideal k P sk false) none i start :=
  congrFun (findAt_transparent_comap k P hne pre sk id i (hs.at_id i.hay) he h) start

/-! ## stepwise overlapping search -/

/-- Stepwise overlapping search (standard semantics): every prefix of the call history reports
the same matches with the prefilter as without. -/
theorem C05_overlap_transparent (P : List (List α)) (hne : ∀ p ∈ P, p ≠ []) (pre : Prefilter α)
    (hs : PrefilterSoundOvl P pre) (sk : StartKind) (i : Input α) (h : supportsAnch sk i.anch)
    (n : Nat) :
    ovlCalls (ideal .std P sk true) (some pre) i n OState.start =
      ovlCalls (ideal .std P sk false) none i n OState.start :=
  ovlCalls_transparent_comap P hne pre sk id i (hs.at_id i.hay) h n OState.start

/-- ... and from ANY overlapping state, not only the initial one (the two runs do not stay in the
same state, but from a common state they report the same matches) -/
theorem C05_overlap_transparent_from (P : List (List α)) (hne : ∀ p ∈ P, p ≠ [])
    (pre : Prefilter α) (hs : PrefilterSoundOvl P pre) (sk : StartKind) (i : Input α)
    (h : supportsAnch sk i.anch) (n : Nat) (st : OState (St α)) :
    ovlCalls (ideal .std P sk true) (some pre) i n st =
      ovlCalls (ideal .std P sk false) none i n st :=
  ovlCalls_transparent_comap P hne pre sk id i (hs.at_id i.hay) h n st

/-- `FindOverlappingIter`, for every fuel -/
theorem C05_overlap_iter_transparent (P : List (List α)) (hne : ∀ p ∈ P, p ≠ [])
    (pre : Prefilter α) (hs : PrefilterSoundOvl P pre) (sk : StartKind) (i : Input α)
    (h : supportsAnch sk i.anch) (fuel : Nat) :
    ovlIterAux (ideal .std P sk true) (some pre) i fuel OState.start =
      ovlIterAux (ideal .std P sk false) none i fuel OState.start :=
  ovlIterAux_transparent_comap P hne pre sk id i (hs.at_id i.hay) h fuel OState.start

/-- with the prefilter the calls report THE overlapping enumeration, then `None` for ever -/
theorem C05_overlap_calls (P : List (List α)) (hne : ∀ p ∈ P, p ≠ []) (pre : Prefilter α)
    (hs : PrefilterSoundOvl P pre) (sk : StartKind) (i : Input α) (h : supportsAnch sk i.anch) :
    ∃ l, IsOverlapList P i.hay i.s i.e i.anch l ∧
      ∀ n, ovlCalls (ideal .std P sk true) (some pre) i n OState.start =
        (l.take n).map (fun m => Except.ok (some m)) ++
          List.replicate (n - l.length) (Except.ok none) := by
  obtain ⟨l, h1, h2⟩ := C03_calls P sk i h
  exact ⟨l, h1, fun n => (C05_overlap_transparent P hne pre hs sk i h n).trans (h2 n)⟩

/-- call history and iterator together, as the corollaries below state them -/
theorem C05_overlap_both (P : List (List α)) (hne : ∀ p ∈ P, p ≠ []) (pre : Prefilter α)
    (hs : PrefilterSoundOvl P pre) (sk : StartKind) (i : Input α) (h : supportsAnch sk i.anch)
    (n fuel : Nat) :
    ovlCalls (ideal .std P sk true) (some pre) i n OState.start =
        ovlCalls (ideal .std P sk false) none i n OState.start ∧
      ovlIterAux (ideal .std P sk true) (some pre) i fuel OState.start =
        ovlIterAux (ideal .std P sk false) none i fuel OState.start :=
  ⟨C05_overlap_transparent P hne pre hs sk i h n,
    C05_overlap_iter_transparent P hne pre hs sk i h fuel⟩

/-! ### from `PrefilterSound` -/

/-- `PrefilterSound .std` plus: a confirmed match is leftmost in its span -/
theorem C05_overlap_transparent_of_sound (P : List (List α)) (hne : ∀ p ∈ P, p ≠ [])
    (pre : Prefilter α) (hs : PrefilterSound .std P pre)
    (hm : ∀ hay s e m, e ≤ hay.length → s ≤ e → pre hay s e = .mtch m →
      ∀ m', IsOcc P hay s e m' → m.start ≤ m'.start)
    (sk : StartKind) (i : Input α) (h : supportsAnch sk i.anch) (n fuel : Nat) :
    ovlCalls (ideal .std P sk true) (some pre) i n OState.start =
        ovlCalls (ideal .std P sk false) none i n OState.start ∧
      ovlIterAux (ideal .std P sk true) (some pre) i fuel OState.start =
        ovlIterAux (ideal .std P sk false) none i fuel OState.start :=
  C05_overlap_both P hne pre (hs.ovl hm) sk i h n fuel

/-- a prefilter that never confirms matches: `PrefilterSound .std` suffices -/
theorem C05_overlap_transparent_of_no_mtch (P : List (List α)) (hne : ∀ p ∈ P, p ≠ [])
    (pre : Prefilter α) (hs : PrefilterSound .std P pre)
    (hm : ∀ hay s e m, pre hay s e ≠ .mtch m)
    (sk : StartKind) (i : Input α) (h : supportsAnch sk i.anch) (n fuel : Nat) :
    ovlCalls (ideal .std P sk true) (some pre) i n OState.start =
        ovlCalls (ideal .std P sk false) none i n OState.start ∧
      ovlIterAux (ideal .std P sk true) (some pre) i fuel OState.start =
        ovlIterAux (ideal .std P sk false) none i fuel OState.start :=
  C05_overlap_transparent_of_sound P hne pre hs
    (fun hay s e m _ _ hp => absurd hp (hm hay s e m)) sk i h n fuel

/-- a prefilter that is sound for a leftmost semantics -/
theorem C05_overlap_transparent_of_leftmost (k : MatchKind) (hk : k = .lf ∨ k = .ll)
    (P : List (List α)) (hne : ∀ p ∈ P, p ≠ []) (pre : Prefilter α) (hs : PrefilterSound k P pre)
    (sk : StartKind) (i : Input α) (h : supportsAnch sk i.anch) (n fuel : Nat) :
    ovlCalls (ideal .std P sk true) (some pre) i n OState.start =
        ovlCalls (ideal .std P sk false) none i n OState.start ∧
      ovlIterAux (ideal .std P sk true) (some pre) i fuel OState.start =
        ovlIterAux (ideal .std P sk false) none i fuel OState.start :=
  C05_overlap_both P hne pre (hs.ovl_of_leftmost hk) sk i h n fuel

/-- a single pattern: `PrefilterSound .std` suffices -/
theorem C05_overlap_transparent_single (p : List α) (hne : p ≠ []) (pre : Prefilter α)
    (hs : PrefilterSound .std [p] pre) (sk : StartKind) (i : Input α)
    (h : supportsAnch sk i.anch) (n fuel : Nat) :
    ovlCalls (ideal .std [p] sk true) (some pre) i n OState.start =
        ovlCalls (ideal .std [p] sk false) none i n OState.start ∧
      ovlIterAux (ideal .std [p] sk true) (some pre) i fuel OState.start =
        ovlIterAux (ideal .std [p] sk false) none i fuel OState.start :=
  C05_overlap_both [p] (fun _ hq => List.mem_singleton.1 hq ▸ hne) pre hs.ovl_of_single sk i h n
    fuel

/-! ### `PrefilterSound .std` alone is not enough -/

/-- A prefilter that is sound for the standard non-overlapping search (`PrefilterSound .std`)
and makes the overlapping search lose a match: patterns `[1,2,3]`, `[2]`, haystack `[0,1,2,3]`,
the prefilter confirms `[2]` at `2..3` (the occurrence that ends first); the loop jumps to `2`
and never reports `[1,2,3]` at `1..4`. -/
theorem C05_overlap_needs_start_soundness :
    ∃ (P : List (List Nat)) (pre : Prefilter Nat) (i : Input Nat),
      (∀ p ∈ P, p ≠ []) ∧ PrefilterSound .std P pre ∧ supportsAnch .both i.anch ∧
      ovlCalls (ideal .std P .both true) (some pre) i 3 OState.start =
        [.ok (some ⟨1, 2, 3⟩), .ok none, .ok none] ∧
      ovlCalls (ideal .std P .both false) none i 3 OState.start =
        [.ok (some ⟨1, 2, 3⟩), .ok (some ⟨0, 1, 4⟩), .ok none] ∧
      ovlIterAux (ideal .std P .both true) (some pre) i 5 OState.start = [⟨1, 2, 3⟩] ∧
      ovlIterAux (ideal .std P .both false) none i 5 OState.start = [⟨1, 2, 3⟩, ⟨0, 1, 4⟩] :=
  ⟨cexP, cexPre, cexI, by decide, cexPre_sound, Or.inl rfl, cex_calls_pre, cex_calls_nopre,
    cex_iter_pre, cex_iter_nopre⟩

/-- the statement with `PrefilterSound .std` as only hypothesis is false -/
theorem C05_overlap_not_transparent_std :
    ¬ ∀ (P : List (List Nat)) (_ : ∀ p ∈ P, p ≠ []) (pre : Prefilter Nat)
        (_ : PrefilterSound .std P pre) (sk : StartKind) (i : Input Nat)
        (_ : supportsAnch sk i.anch) (n : Nat),
        ovlCalls (ideal .std P sk true) (some pre) i n OState.start =
          ovlCalls (ideal .std P sk false) none i n OState.start := by
  intro hall
  have := hall cexP (by decide) cexPre cexPre_sound .both cexI (Or.inl rfl) 3
  rw [cex_calls_pre, cex_calls_nopre] at this
  simp at this

end AcVerif

/-! ## the builder's choice under standard semantics -/
namespace AcVerif
open AcVerif.PreP AcVerif.PreP2

/-- Every prefilter the case-sensitive builder can return for a standard-semantics searcher is
sound for the overlapping loop: it is never the packed searcher (`C05_builder_gates`), `memmem`
is only chosen for a single pattern, and the byte-set prefilters never confirm matches. -/
theorem C05_builder_sound_ovl (K : Consts) (freq : UInt8 → Nat) (pats : List (List UInt8))
    (avx2 ssse3 : Bool) (hne : ∀ p ∈ pats, p ≠ []) (ch : PreChoice)
    (hb : buildPrefilter K .std false freq pats avx2 ssse3 = some ch) :
    PrefilterSoundOvl pats ch.findIn := by
  cases hch : ch with
  | memmem needle =>
    obtain ⟨hp, hs⟩ := C05_memmem_sound K .std freq pats avx2 ssse3 hne ch hb needle hch
    rw [hch] at hs
    subst hp
    exact hs.ovl_of_single
  | startBytes bs =>
    obtain ⟨hcov, _⟩ := C05_start_sound K .std freq pats avx2 ssse3 hne ch hb bs hch
    exact (startBytes_sound .ll pats bs hcov).ovl_of_leftmost (Or.inr rfl)
  | rareBytes bs offs =>
    obtain ⟨hcov, hoff, _⟩ := C05_rare_sound K .std freq pats avx2 ssse3 hne ch hb bs offs hch
    exact (rareBytes_sound .ll pats bs offs hcov hoff).ovl_of_leftmost (Or.inr rfl)
  | packed srch =>
    exact absurd hch (((C05_builder_gates K .std false freq pats avx2 ssse3).2 ch hb).2 rfl srch)

/-- the standard searcher with the prefilter chosen by the builder: the stepwise overlapping
search reports the same call history as the searcher without prefilter -/
theorem C05_builder_overlap_transparent (K : Consts) (freq : UInt8 → Nat)
    (pats : List (List UInt8)) (avx2 ssse3 : Bool) (hne : ∀ p ∈ pats, p ≠ []) (ch : PreChoice)
    (hb : buildPrefilter K .std false freq pats avx2 ssse3 = some ch)
    (sk : StartKind) (i : Input UInt8) (h : supportsAnch sk i.anch) (n : Nat) :
    ovlCalls (ideal .std pats sk true) (some ch.findIn) i n OState.start =
      ovlCalls (ideal .std pats sk false) none i n OState.start :=
  C05_overlap_transparent pats hne _ (C05_builder_sound_ovl K freq pats avx2 ssse3 hne ch hb)
    sk i h n

theorem C05_builder_overlap_iter_transparent (K : Consts) (freq : UInt8 → Nat)
    (pats : List (List UInt8)) (avx2 ssse3 : Bool) (hne : ∀ p ∈ pats, p ≠ []) (ch : PreChoice)
    (hb : buildPrefilter K .std false freq pats avx2 ssse3 = some ch)
    (sk : StartKind) (i : Input UInt8) (h : supportsAnch sk i.anch) (fuel : Nat) :
    ovlIterAux (ideal .std pats sk true) (some ch.findIn) i fuel OState.start =
      ovlIterAux (ideal .std pats sk false) none i fuel OState.start :=
  C05_overlap_iter_transparent pats hne _
    (C05_builder_sound_ovl K freq pats avx2 ssse3 hne ch hb) sk i h fuel

/-- the non-overlapping iterator with the prefilter chosen by the builder (any semantics; the
packed searcher relative to C06) -/
theorem C05_builder_iter_transparent (K : Consts) (k : MatchKind) (freq : UInt8 → Nat)
    (pats : List (List UInt8)) (avx2 ssse3 : Bool) (hne : ∀ p ∈ pats, p ≠ []) (ch : PreChoice)
    (hb : buildPrefilter K k false freq pats avx2 ssse3 = some ch)
    (hC06 : ∀ srch, ch = .packed srch → ∀ hay s e, s ≤ e → e ≤ hay.length →
      IsFind k pats hay s e false (srch.findIn hay s e))
    (sk : StartKind) (i : Input UInt8) (he : k = .std ∨ i.earliest = false)
    (h : supportsAnch sk i.anch) :
    findIter (ideal k pats sk true) (some ch.findIn) i = findIter (ideal k pats sk false) none i :=
  C05_iter_transparent k pats hne _ (C05_builder_sound K k freq pats avx2 ssse3 hne ch hb hC06)
    sk i he h

/-! ## case-insensitive searcher (`fold = true`)

The automaton reads the haystack through `foldByte`, the prefilter reads the raw haystack and is
sound relative to the folded patterns in the folded haystack. -/

/-- the non-overlapping iterator of the case-insensitive searcher -/
theorem C05_iter_transparent_fold (k : MatchKind) (P : List (List UInt8)) (hne : ∀ p ∈ P, p ≠ [])
    (pre : Prefilter UInt8)
    (hs : ∀ hay, PrefilterSoundAt k (P.map (·.map foldByte)) (pre hay) (hay.map foldByte))
    (sk : StartKind) (i : Input UInt8)
    (he : k = .std ∨ i.earliest = false) (h : supportsAnch sk i.anch) :
    findIter ((ideal k (P.map (·.map foldByte)) sk true).comap foldByte) (some pre) i =
      findIter ((ideal k (P.map (·.map foldByte)) sk false).comap foldByte) none i :=
  findIter_transparent_comap k _ (foldPats_ne_nil hne) pre sk foldByte i (hs i.hay) he h

/-- the stepwise overlapping search of the case-insensitive searcher -/
theorem C05_overlap_transparent_fold (P : List (List UInt8)) (hne : ∀ p ∈ P, p ≠ [])
    (pre : Prefilter UInt8)
    (hs : ∀ hay, PrefilterSoundOvlAt (P.map (·.map foldByte)) (pre hay) (hay.map foldByte))
    (sk : StartKind) (i : Input UInt8) (h : supportsAnch sk i.anch) (n fuel : Nat) :
    ovlCalls ((ideal .std (P.map (·.map foldByte)) sk true).comap foldByte) (some pre) i n
        OState.start =
      ovlCalls ((ideal .std (P.map (·.map foldByte)) sk false).comap foldByte) none i n
        OState.start ∧
    ovlIterAux ((ideal .std (P.map (·.map foldByte)) sk true).comap foldByte) (some pre) i fuel
        OState.start =
      ovlIterAux ((ideal .std (P.map (·.map foldByte)) sk false).comap foldByte) none i fuel
        OState.start :=
  ⟨ovlCalls_transparent_comap _ (foldPats_ne_nil hne) pre sk foldByte i (hs i.hay) h n _,
    ovlIterAux_transparent_comap _ (foldPats_ne_nil hne) pre sk foldByte i (hs i.hay) h fuel _⟩

/-- every prefilter the case-insensitive builder can return for a standard-semantics searcher is
sound for the overlapping loop (it is a byte-set prefilter: it never confirms matches) -/
theorem C05_builder_sound_ovl_fold (K : Consts) (freq : UInt8 → Nat) (pats : List (List UInt8))
    (avx2 ssse3 : Bool) (hne : ∀ p ∈ pats, p ≠ []) (ch : PreChoice)
    (hb : buildPrefilter K .std true freq pats avx2 ssse3 = some ch) (hay : List UInt8) :
    PrefilterSoundOvlAt (pats.map (·.map foldByte)) (ch.findIn hay) (hay.map foldByte) := by
  have hg := ((C05_builder_gates K .std true freq pats avx2 ssse3).2 ch hb).1 rfl
  exact (builder_byteset_sound hne hb hg.1 hg.2 caseMap_fold .ll hay).ovl_of_leftmost (Or.inr rfl)

/-- the case-insensitive standard searcher with the prefilter chosen by the builder: stepwise
overlapping search and overlapping iterator -/
theorem C05_builder_overlap_transparent_fold (K : Consts) (freq : UInt8 → Nat)
    (pats : List (List UInt8)) (avx2 ssse3 : Bool) (hne : ∀ p ∈ pats, p ≠ []) (ch : PreChoice)
    (hb : buildPrefilter K .std true freq pats avx2 ssse3 = some ch)
    (sk : StartKind) (i : Input UInt8) (h : supportsAnch sk i.anch) (n fuel : Nat) :
    ovlCalls ((ideal .std (pats.map (·.map foldByte)) sk true).comap foldByte) (some ch.findIn) i n
        OState.start =
      ovlCalls ((ideal .std (pats.map (·.map foldByte)) sk false).comap foldByte) none i n
        OState.start ∧
    ovlIterAux ((ideal .std (pats.map (·.map foldByte)) sk true).comap foldByte) (some ch.findIn)
        i fuel OState.start =
      ovlIterAux ((ideal .std (pats.map (·.map foldByte)) sk false).comap foldByte) none i fuel
        OState.start :=
  C05_overlap_transparent_fold pats hne _
    (C05_builder_sound_ovl_fold K freq pats avx2 ssse3 hne ch hb) sk i h n fuel

/-- the case-insensitive non-overlapping iterator with the prefilter chosen by the builder -/
theorem C05_builder_iter_transparent_fold (K : Consts) (k : MatchKind) (freq : UInt8 → Nat)
    (pats : List (List UInt8)) (avx2 ssse3 : Bool) (hne : ∀ p ∈ pats, p ≠ []) (ch : PreChoice)
    (hb : buildPrefilter K k true freq pats avx2 ssse3 = some ch)
    (sk : StartKind) (i : Input UInt8) (he : k = .std ∨ i.earliest = false)
    (h : supportsAnch sk i.anch) :
    findIter ((ideal k (pats.map (·.map foldByte)) sk true).comap foldByte) (some ch.findIn) i =
      findIter ((ideal k (pats.map (·.map foldByte)) sk false).comap foldByte) none i :=
  C05_iter_transparent_fold k pats hne _
    (C05_builder_sound_fold K k freq pats avx2 ssse3 hne ch hb) sk i he h

/-! ## non-vacuity -/

/-- a concrete `PrefilterSoundOvl` prefilter: the start-byte prefilter for `[[1,2],[1,3]]` -/
example : PrefilterSoundOvl [[1, 2], [1, 3]] (PreChoice.startBytes [1]).findIn :=
  (PreP.startBytes_sound .ll _ _ (by decide)).ovl_of_leftmost (Or.inr rfl)

/-- the builder picks it under standard semantics -/
example : (buildPrefilter {} .std false (fun _ => 0) [[1, 2], [1, 3]] false false).map
    PreChoice.name = some "start1" := by decide +kernel

private def exO : Input UInt8 := ⟨[0, 0, 0, 1, 3, 1, 2], 0, 7, false, false, by decide⟩

/-- the prefilter jumps (from position 0 to position 3) ... -/
example : (PreChoice.startBytes [1]).findIn exO.hay 0 exO.e = .pos 3 := by decide +kernel

/-- ... and the overlapping iterator still yields every match -/
example : ovlIterAux (ideal .std [[1, 2], [1, 3]] .both true)
    (some (PreChoice.startBytes [1]).findIn) exO 9 OState.start = [⟨1, 3, 5⟩, ⟨0, 5, 7⟩] := by
  rw [C05_overlap_iter_transparent _ (by decide) _
    ((PreP.startBytes_sound .ll _ _ (by decide)).ovl_of_leftmost (Or.inr rfl)) .both exO
    (Or.inl rfl)]
  decide +kernel

end AcVerif
