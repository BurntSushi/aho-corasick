import AcVerif.Proofs.Layers
import AcVerif.Proofs.DfaIdsAll
import AcVerif.Proofs.BuildCheckedMatches
import AcVerif.Theorems.L1d
import AcVerif.Proofs.TableEval
/-!
# L1d-ids – the DFA *as stored* (premultiplied ids, flat table, `Special` id ranges) agrees with
the abstract DFA, the NFA and the ideal automaton, and never reads out of bounds

`buildDfaIds N sk bc hasPre` (`AcVerif/DfaIds.lean`) is `dfa::Builder::build_from_noncontiguous`
down to the stored representation: the shuffled NFA (`shuffleOrder`), `stride2`, the flat `trans`
vector of premultiplied ids, the `matches` vector indexed by `(sid >> stride2) - 2`, and the four
`Special` ids; `is_special` / `is_match` / `is_dead` / `is_start` are id comparisons and
`start_state` fails iff the start id is `DEAD`.  For **every** pattern list `P`, match kind, start
kind, both settings of `byte_classes`, with or without prefilter, and `N = CNfa.compile k fold P`
(the `buildDfaIds_*` theorems are about any `N` that meets `NfaSpec f`; the `L1dIds_*` statements
are their instances at `fold = false`, `L1dIdsG_*` are stated for both values of `fold`):

* `L1dIdsG_start`: a start state exists exactly for the supported anchoring modes;
* `L1dIdsG_obsEquiv_nfa`, `L1dIds_obsEquiv`: its start state is observationally equivalent to the
  NFA's and to that of the abstract DFA `buildDfa N sk bc` (L1d);
* `L1dIds_startEquiv`, `L1dIds_find`, `L1dIds_iter`, `L1dIds_overlap`, `L1dIds_overlap_iter`:
  hence to the ideal automaton, so every search result (including the error for an unsupported
  mode) transfers;
* `sim_of_spec`, `toAut_reach` (`Proofs/DfaIdsAll.lean`): the run is the image of the NFA run under
  an explicit id map (`pos s << stride2`, resp. `remap_unanchored[pos s]` / `remap_anchored[pos s]`);
* `L1dIds_inbounds`: at every reachable state every table read is in bounds
  (`sid + class < trans.len()`), ids are multiples of the stride with index `< state_len`, and at
  a match state the `matches` index `(sid >> stride2) - 2` neither underflows nor overflows, the
  list is non-empty and holds valid pattern ids;
* `L1dIds_special_contract`: at every reachable state
  `is_special ⇔ is_dead ∨ is_match ∨ (prefilter ∧ is_start)`, and the dead state is absorbing
  (its whole row is `DEAD`);
* `L1dIds_setMatches_ok_one` / `_both`: at build time `set_matches` never panics: every match
  state of the shuffled NFA gets DFA state indices `x` with `2 ≤ x` and `x - 2 < matches.len()`.

The model was also compared entry by entry with the crate's own `dfa::DFA` (all rows of all
states – reachable or not – on all 256 bytes, the three flags, the match lists, the start ids,
stride and state count) on 9 pattern lists × 3 match kinds × 3 start kinds × `byte_classes` ×
prefilter: identical.  Three of these tables are reproduced at the end of this file.

Remark (the row of `FAIL`).  In the crate the states `DEAD`, `FAIL` and the unanchored start state
are allocated while `special.start_unanchored_id` is still `0`, so their failure link is `DEAD`,
whereas `CNfa.init` gives them the link `SU`.  No search can observe this (`DEAD` and the start
state have all 256 transitions, `FAIL` is never entered), but the *row* the DFA builder writes for
`FAIL` with one start kind depends on it: all `DEAD` in the crate.  `idsOne` therefore leaves that
row `DEAD` instead of calling `dfaRow` (which `buildOne` of `DfaModel.lean` does).

Remark (`is_start`).  With one start kind the unsupported start id is `DEAD = 0`, so the crate's
`is_start(DEAD)` is `true` (`sid == start_anchored_id`); the model keeps this.  It is harmless:
the dead state is special anyway, and the search loops test `is_dead` first.

The proof (`AcVerif/Proofs/DfaIds*.lean`, namespace `AcVerif.L1dIdsP`) goes through `Sim`, what an
id map must satisfy (`one_sim`, `both_sim`); the id ranges are the flags because of where `ShufOK`
puts the match and start states (`pos_le_maxMatch_iff` / `pos_le_maxSpecial_iff`).
-/
namespace AcVerif
open AcVerif.L1cP AcVerif.L1dP AcVerif.L1eP AcVerif.L1dIdsP AcVerif.CNfa

/-! ## the stored DFA of any automaton that meets the compiler's specification -/

section
variable {f : UInt8 → UInt8} {k : MatchKind} {Q : PatSet UInt8} {L : List (List UInt8)} {N : CNfa}
variable {P' : List (List UInt8)}

theorem buildDfaIds_obsEquiv (h : NfaSpec f k Q L N) (P : List (List UInt8)) (sk : StartKind)
    (bc hasPre anch : Bool) (hs : supportsAnch sk anch) :
    ∃ s0 m0, ((buildDfaIds N sk bc hasPre).toAut k P hasPre).start anch = some s0 ∧
      ((buildDfa N sk bc).toAut k P hasPre).start anch = some m0 ∧
      ObsEquiv ((buildDfaIds N sk bc hasPre).toAut k P hasPre) ((buildDfa N sk bc).toAut k P hasPre)
        false anch s0 m0 := by
  obtain ⟨s0, h0, h1⟩ := buildDfaIds_obsEquiv_nfa h P sk bc hasPre anch hs
  obtain ⟨m0, g0, g1⟩ := buildDfa_obsEquiv h P hasPre bc sk anch hs
  exact ⟨s0, m0, h0, g0, fun w => (h1 w).trans (g1 w).symm⟩

theorem buildDfaIds_inbounds (h : NfaSpec f k (patSet k P') L N) (P : List (List UInt8))
    (sk : StartKind) (bc hasPre anch : Bool) (s0 : Nat)
    (hs : ((buildDfaIds N sk bc hasPre).toAut k P hasPre).start anch = some s0) (w : List UInt8) :
    let D := buildDfaIds N sk bc hasPre
    let q := (D.toAut k P hasPre).runFrom anch s0 w
    (∀ b, D.next? q b = some (D.next q b)) ∧
      q % 2 ^ D.stride2 = 0 ∧ q >>> D.stride2 < D.stateLen ∧
      (D.isMatch q = true →
        D.matchList? q = some (D.matchList q) ∧ D.matchList q ≠ [] ∧
          ∀ p ∈ D.matchList q, p < P'.length) := by
  intro D q
  obtain ⟨hsup, s, q', hr, hq⟩ := toAut_reach h P sk bc hasPre anch hs w
  obtain ⟨h1, h2, h3, h4⟩ := (sim_of_spec h sk bc hasPre anch hsup).inbounds (LvA.of_Rel hr)
  rw [show q = _ from hq]
  refine ⟨h1, h2, h3, fun hm => ?_⟩
  obtain ⟨e1, e2, e3⟩ := h4 hm
  rw [e2]
  exact ⟨e2 ▸ e1, e3, h.mats_lt hr⟩

theorem buildDfaIds_special_contract (h : NfaSpec f k Q L N) (P : List (List UInt8))
    (sk : StartKind) (bc hasPre anch : Bool) (s0 : Nat)
    (hs : ((buildDfaIds N sk bc hasPre).toAut k P hasPre).start anch = some s0) (w : List UInt8) :
    let D := buildDfaIds N sk bc hasPre
    let q := (D.toAut k P hasPre).runFrom anch s0 w
    (D.isSpecial q = true ↔
        (D.isDead q = true ∨ D.isMatch q = true ∨ (hasPre = true ∧ D.isStart q = true))) ∧
      (D.isDead q = true → ∀ b, D.next q b = 0) := by
  intro D q
  obtain ⟨hsup, s, q', hr, hq⟩ := toAut_reach h P sk bc hasPre anch hs w
  rw [show q = _ from hq]
  exact (sim_of_spec h sk bc hasPre anch hsup).special_contract h (LvA.of_Rel hr)

end

/-! ## `N = CNfa.compile k fold P`, for both settings of `ascii_case_insensitive` -/

theorem L1dIdsG_start (k : MatchKind) (fold : Bool) (P : List (List UInt8)) (sk : StartKind)
    (bc hasPre anch : Bool) :
    (((buildDfaIds (CNfa.compile k fold P) sk bc hasPre).toAut k P hasPre).start anch).isSome ↔
      supportsAnch sk anch := by
  obtain ⟨L, h⟩ := compile_specG k fold P
  exact toAut_start_isSome h P sk bc hasPre anch

theorem L1dIdsG_obsEquiv_nfa (k : MatchKind) (fold : Bool) (P : List (List UInt8))
    (sk : StartKind) (bc hasPre anch : Bool) (hs : supportsAnch sk anch) :
    ∃ s0, ((buildDfaIds (CNfa.compile k fold P) sk bc hasPre).toAut k P hasPre).start anch =
        some s0 ∧
      ObsEquiv ((buildDfaIds (CNfa.compile k fold P) sk bc hasPre).toAut k P hasPre)
        ((CNfa.compile k fold P).toAut k P hasPre) false anch s0
        (if anch then CNfa.SA else CNfa.SU) := by
  obtain ⟨L, h⟩ := compile_specG k fold P
  exact buildDfaIds_obsEquiv_nfa h P sk bc hasPre anch hs

/-! ## stored DFA = abstract DFA, `fold = false` -/

theorem L1dIds_obsEquiv (k : MatchKind) (P : List (List UInt8)) (sk : StartKind)
    (bc hasPre anch : Bool) (h : supportsAnch sk anch) :
    ∃ s0 m0,
      ((buildDfaIds (CNfa.compile k false P) sk bc hasPre).toAut k P hasPre).start anch = some s0 ∧
      ((buildDfa (CNfa.compile k false P) sk bc).toAut k P hasPre).start anch = some m0 ∧
      ObsEquiv ((buildDfaIds (CNfa.compile k false P) sk bc hasPre).toAut k P hasPre)
        ((buildDfa (CNfa.compile k false P) sk bc).toAut k P hasPre) false anch s0 m0 :=
  have ⟨_, hN⟩ := compile_specG k false P
  buildDfaIds_obsEquiv hN P sk bc hasPre anch h

/-! ## stored DFA = ideal automaton -/

theorem L1dIds_searchEquiv (k : MatchKind) (P : List (List UInt8)) (sk : StartKind)
    (bc hasPre : Bool) :
    SearchEquiv ((buildDfaIds (CNfa.compile k false P) sk bc hasPre).toAut k P hasPre)
      (ideal k P sk hasPre) := by
  have := L1dIdsG_searchEquiv k false P sk bc hasPre
  rwa [List.map_id'' map_foldIf_false] at this

/-- `StartEquiv` with the ideal automaton of the same start kind, for **every** anchoring mode:
equivalent start states if the mode is supported, both reject it otherwise -/
theorem L1dIds_startEquiv (k : MatchKind) (P : List (List UInt8)) (sk : StartKind)
    (bc hasPre anch : Bool) :
    StartEquiv ((buildDfaIds (CNfa.compile k false P) sk bc hasPre).toAut k P hasPre)
      (ideal k P sk hasPre) false anch :=
  (L1dIds_searchEquiv k P sk bc hasPre).start anch

/-! ## corollaries: every search result transfers -/

theorem L1dIds_find (k : MatchKind) (P : List (List UInt8)) (sk : StartKind) (bc hasPre : Bool)
    (pre : Option (Prefilter UInt8)) (i : Input UInt8) :
    tryFindFwd ((buildDfaIds (CNfa.compile k false P) sk bc hasPre).toAut k P hasPre) pre i =
      tryFindFwd (ideal k P sk hasPre) pre i :=
  (L1dIds_searchEquiv k P sk bc hasPre).find pre i

theorem L1dIds_iter (k : MatchKind) (P : List (List UInt8)) (sk : StartKind) (bc hasPre : Bool)
    (pre : Option (Prefilter UInt8)) (i : Input UInt8) :
    findIter ((buildDfaIds (CNfa.compile k false P) sk bc hasPre).toAut k P hasPre) pre i =
      findIter (ideal k P sk hasPre) pre i :=
  (L1dIds_searchEquiv k P sk bc hasPre).iter pre i

theorem L1dIds_overlap (k : MatchKind) (P : List (List UInt8)) (sk : StartKind) (bc hasPre : Bool)
    (pre : Option (Prefilter UInt8)) (i : Input UInt8) (n : Nat) :
    ovlCalls ((buildDfaIds (CNfa.compile k false P) sk bc hasPre).toAut k P hasPre) pre i n
        OState.start =
      ovlCalls (ideal k P sk hasPre) pre i n OState.start :=
  (L1dIds_searchEquiv k P sk bc hasPre).overlap pre i n

theorem L1dIds_overlap_iter (k : MatchKind) (P : List (List UInt8)) (sk : StartKind)
    (bc hasPre : Bool) (pre : Option (Prefilter UInt8)) (i : Input UInt8) (fuel : Nat) :
    ovlIterAux ((buildDfaIds (CNfa.compile k false P) sk bc hasPre).toAut k P hasPre) pre i fuel
        OState.start =
      ovlIterAux (ideal k P sk hasPre) pre i fuel OState.start :=
  (L1dIds_searchEquiv k P sk bc hasPre).overlap_iter pre i fuel

/-- … and the stored DFA meets the specification (standard semantics, C02) -/
theorem L1dIds_find_std (P : List (List UInt8)) (bc : Bool) (sk : StartKind) (i : Input UInt8)
    (h : supportsAnch sk i.anch) :
    ∃ r, tryFindFwd ((buildDfaIds (CNfa.compile .std false P) sk bc false).toAut .std P false) none i =
        .ok r ∧ IsFind .std P i.hay i.s i.e i.anch r := by
  rw [L1dIds_find]
  exact C02_find P sk i h

/-! ## every read is in bounds -/

/-- at every state reachable from a supported start state: the table read of every byte is in
bounds, the id is a multiple of the stride with index `< state_len`; at a match state the
`matches` read is in bounds (no underflow of `- 2`, index `< matches.len()`), the list is
non-empty and holds pattern ids `< P.length` -/
theorem L1dIds_inbounds (k : MatchKind) (P : List (List UInt8)) (sk : StartKind)
    (bc hasPre anch : Bool) (s0 : Nat)
    (hs : ((buildDfaIds (CNfa.compile k false P) sk bc hasPre).toAut k P hasPre).start anch = some s0)
    (w : List UInt8) :
    let D := buildDfaIds (CNfa.compile k false P) sk bc hasPre
    let q := (D.toAut k P hasPre).runFrom anch s0 w
    (∀ b, D.next? q b = some (D.next q b)) ∧
      q % 2 ^ D.stride2 = 0 ∧ q >>> D.stride2 < D.stateLen ∧
      (D.isMatch q = true →
        D.matchList? q = some (D.matchList q) ∧ D.matchList q ≠ [] ∧
          ∀ p ∈ D.matchList q, p < P.length) :=
  have ⟨_, hN⟩ := compile_specG k false P
  List.length_map (as := P) _ ▸ buildDfaIds_inbounds hN P sk bc hasPre anch s0 hs w

/-! ## the `is_special` contract -/

/-- at every state reachable from a supported start state, `is_special` holds exactly for the
dead state, the match states and (with a prefilter) the start states; and every transition of the
dead state leads to the dead state -/
theorem L1dIds_special_contract (k : MatchKind) (P : List (List UInt8)) (sk : StartKind)
    (bc hasPre anch : Bool) (s0 : Nat)
    (hs : ((buildDfaIds (CNfa.compile k false P) sk bc hasPre).toAut k P hasPre).start anch = some s0)
    (w : List UInt8) :
    let D := buildDfaIds (CNfa.compile k false P) sk bc hasPre
    let q := (D.toAut k P hasPre).runFrom anch s0 w
    (D.isSpecial q = true ↔
        (D.isDead q = true ∨ D.isMatch q = true ∨ (hasPre = true ∧ D.isStart q = true))) ∧
      (D.isDead q = true → ∀ b, D.next q b = 0) :=
  have ⟨_, hN⟩ := compile_specG k false P
  buildDfaIds_special_contract hN P sk bc hasPre anch s0 hs w

/-! ## `set_matches` never panics -/

/-- one start kind: a match state of the shuffled NFA at position `i` has the DFA id `i << stride2`,
and `set_matches` indexes `matches` with `i - 2`: no underflow, in range -/
theorem L1dIds_setMatches_ok_one (k : MatchKind) (P : List (List UInt8)) (sk : StartKind)
    (bc hasPre : Bool) (hsk : sk ≠ .both) (i : Nat) (hi : i < (CNfa.compile k false P).size)
    (hm : CNfa.isMatch (CNfa.compile k false P)
      ((shuffleOrder (CNfa.compile k false P)).1.getD i 0) = true) :
    let D := buildDfaIds (CNfa.compile k false P) sk bc hasPre
    (i <<< D.stride2) >>> D.stride2 = i ∧ 2 ≤ i ∧ i - 2 < D.matches_.size :=
  have ⟨_, hN, _, hf⟩ := BuildP.compile_specG' k false P
  setMatches_ok_one hN hf sk bc hasPre hsk hi hm

/-- start kind `Both`: the DFA state indices handed out to position `i` are
`cntB na i ≤ x < cntB na (i + 1)` (`remFoldB_eq`); for a match state each of them is `≥ 2` and
`x - 2` is in range of `matches` -/
theorem L1dIds_setMatches_ok_both (k : MatchKind) (P : List (List UInt8)) (bc hasPre : Bool)
    (i : Nat) (hi : i < (CNfa.compile k false P).size)
    (hm : CNfa.isMatch (CNfa.compile k false P)
      ((shuffleOrder (CNfa.compile k false P)).1.getD i 0) = true)
    (x : Nat) (hx1 : cntB (shuffleOrder (CNfa.compile k false P)).2 i ≤ x)
    (hx2 : x < cntB (shuffleOrder (CNfa.compile k false P)).2 (i + 1)) :
    2 ≤ x ∧ x - 2 < (buildDfaIds (CNfa.compile k false P) .both bc hasPre).matches_.size :=
  have ⟨_, hN, _, hf⟩ := BuildP.compile_specG' k false P
  setMatches_ok_both hN hf bc hasPre hi hm hx1 hx2

/-! ## non-vacuity: the stored tables of three small automata, as the crate builds them

(the values below were read off `dfa::DFA` built by the crate itself: `next_state` on every id,
`is_special` / `is_match` / `is_start`, `match_pattern`, `start_state`) -/

/-- `"a"`, `"ab"`, `"b"`, standard semantics, start kind `Both`, byte classes on, no prefilter.
Classes: `'a' ↦ 1`, `'b' ↦ 2`, below `'a'` `0`, above `'b'` `3`; stride 4.  Shuffled NFA: dead, fail,
`ab`, `b`, `a`, the two start states; DFA indices 2/3 = `ab` (unanchored / anchored), 4/5 = `b`,
6/7 = `a`, 8 = unanchored start (id 32), 9 = anchored start (id 36). -/
example :
    let D := buildDfaIds (CNfa.compile .std false [[97], [97, 98], [98]]) .both true false
    D.trans.toList = [0, 0, 0, 0,  0, 0, 0, 0,  32, 24, 16, 32,  0, 0, 0, 0,  32, 24, 16, 32,
        0, 0, 0, 0,  32, 24, 8, 32,  0, 0, 12, 0,  32, 24, 16, 32,  0, 28, 20, 0] ∧
      D.matches_.toList = [[1, 2], [1, 2], [2], [2], [0], [0]] ∧
      (D.stride2, D.alphabetLen, D.stateLen, D.maxSpecialId, D.maxMatchId, D.startU, D.startA) =
        (2, 4, 10, 28, 28, 32, 36) ∧
      -- a search on the stored table: after `a b` the DFA is at id 8 (`ab`, unanchored copy), a
      -- match state listing patterns 1 and 2; checked and unchecked accessors agree; the start
      -- state (id 32) is not special without a prefilter; the `FAIL` id 4 has no `matches` entry
      (D.toAut .std [[97], [97, 98], [98]] false).start false = some 32 ∧
      (D.toAut .std [[97], [97, 98], [98]] false).runFrom false 32 [97, 98] = 8 ∧
      D.next? 8 97 = some 24 ∧ D.isMatch 8 = true ∧ D.isSpecial 8 = true ∧
      D.matchList? 8 = some [1, 2] ∧ D.isSpecial 32 = false ∧ D.matchList? 4 = none := by
  unfold buildDfaIds idsBoth idsRowsStep idsStartRow idsARow idsURow dfaRow
  rw [classOfMarks_eq_classLt, sparseIter_eq_sparseIterReps]
  decide +kernel

/-- the same patterns, start kind `Unanchored`, with a prefilter: ids are `pos << 2`, the anchored
start id is `DEAD`, `max_special_id` is the id of the (unreachable) anchored start state -/
example :
    let D := buildDfaIds (CNfa.compile .std false [[97], [97, 98], [98]]) .unanchored true true
    D.trans.toList = [0, 0, 0, 0,  0, 0, 0, 0,  20, 16, 12, 20,  20, 16, 12, 20,  20, 16, 8, 20,
        20, 16, 12, 20,  0, 16, 12, 0] ∧
      D.matches_.toList = [[1, 2], [2], [0]] ∧
      (D.stride2, D.alphabetLen, D.stateLen, D.maxSpecialId, D.maxMatchId, D.startU, D.startA) =
        (2, 4, 7, 24, 16, 20, 0) := by
  unfold buildDfaIds idsOne dfaRow
  rw [classOfMarks_eq_classLt, sparseIter_eq_sparseIterReps]
  decide +kernel

/-- `""`, `"a"`, leftmost-first, start kind `Anchored`: `"a"` is never added to the trie, so there is
one byte class and the stride is `1` (`stride2 = 0`); the start states are match states, hence
`max_match_id` is the anchored start id -/
example :
    let D := buildDfaIds (CNfa.compile .lf false [[], [97]]) .anchored true false
    D.trans.toList = [0, 0, 0, 0] ∧ D.matches_.toList = [[0], [0]] ∧
      (D.stride2, D.alphabetLen, D.stateLen, D.maxSpecialId, D.maxMatchId, D.startU, D.startA) =
        (0, 1, 4, 3, 3, 0, 3) := by
  unfold buildDfaIds idsOne dfaRow
  rw [classOfMarks_eq_classLt, sparseIter_eq_sparseIterReps]
  decide +kernel

end AcVerif
