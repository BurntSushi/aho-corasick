import AcVerif.Aut
/-!
# Tie A: the bisimulation certificate checker and its soundness proof

`certOk A B n anch first f alphabet` checks a *candidate* functional
simulation `f` from the states `0..n-1` of a dumped automaton `B` to the states
of a reference automaton `A` (the ideal automaton, or another dump):

* the start states correspond (or neither automaton supports the anchoring);
* whenever `f b = some a`, the observations of `a` and `b` agree, and for
  every symbol `c` of the alphabet `f (B.next b c) = some (A.next a c)`.

`f` is computed by an untrusted worklist in the driver; only this checker is
trusted, and `certOk_sound` proves that a passing check implies equal
observations after **every** input word – i.e. for haystacks of every length.
-/
namespace AcVerif
variable {σ α : Type} [DecidableEq σ]

def certOk (A : Aut σ α) (B : Aut Nat α) (n : Nat) (anch first : Bool)
    (f : Array (Option σ)) (alphabet : List α) : Bool :=
  match A.start anch, B.start anch with
  | Option.none, Option.none => true
  | some a0, some b0 =>
    f.size == n && f[b0]? == some (some a0) &&
    (List.range n).all fun b =>
      match f[b]? with
      | some (some a) =>
        decide (A.obs first a = B.obs first b) &&
        alphabet.all fun c => f[B.next anch b c]? == some (some (A.next anch a c))
      | _ => true
  | _, _ => false

/-- the invariant the check establishes -/
private def Rel (f : Array (Option σ)) (a : σ) (b : Nat) : Prop := f[b]? = some (some a)

theorem certOk_step {A : Aut σ α} {B : Aut Nat α} {n : Nat} {anch first : Bool}
    {f : Array (Option σ)} {alphabet : List α} {a0 : σ} {b0 : Nat}
    (ha : A.start anch = some a0) (hb : B.start anch = some b0)
    (h : certOk A B n anch first f alphabet = true) (hal : ∀ c : α, c ∈ alphabet) :
    f[b0]? = some (some a0) ∧
    ∀ a b, f[b]? = some (some a) →
      A.obs first a = B.obs first b ∧
      ∀ c, f[B.next anch b c]? = some (some (A.next anch a c)) := by
  unfold certOk at h
  rw [ha, hb] at h
  simp only [Bool.and_eq_true, beq_iff_eq, List.all_eq_true, List.mem_range] at h
  obtain ⟨⟨hsz, h0⟩, hall⟩ := h
  refine ⟨h0, ?_⟩
  intro a b hab
  have hb_lt : b < n := by
    have : b < f.size := by
      rcases Nat.lt_or_ge b f.size with h | h
      · exact h
      · rw [Array.getElem?_eq_none (by omega)] at hab; cases hab
    omega
  have := hall b hb_lt
  rw [hab] at this
  simp only [Bool.and_eq_true, decide_eq_true_eq, List.all_eq_true, beq_iff_eq] at this
  exact ⟨this.1, fun c => this.2 c (hal c)⟩

/-- **Soundness of the certificate check.**  If the check passes for an
alphabet that contains every symbol, the two automata make identical
observations after every input word. -/
theorem certOk_sound {A : Aut σ α} {B : Aut Nat α} {n : Nat} {anch first : Bool}
    {f : Array (Option σ)} {alphabet : List α} {a0 : σ} {b0 : Nat}
    (ha : A.start anch = some a0) (hb : B.start anch = some b0)
    (h : certOk A B n anch first f alphabet = true) (hal : ∀ c : α, c ∈ alphabet)
    (w : List α) :
    A.obs first (A.runFrom anch a0 w) = B.obs first (B.runFrom anch b0 w) := by
  obtain ⟨h0, hstep⟩ := certOk_step ha hb h hal
  suffices ∀ (w : List α) a b, f[b]? = some (some a) →
      A.obs first (A.runFrom anch a w) = B.obs first (B.runFrom anch b w) from this w a0 b0 h0
  intro w
  induction w with
  | nil => intro a b hab; exact (hstep a b hab).1
  | cons c w ih => intro a b hab; exact ih _ _ ((hstep a b hab).2 c)

theorem certOk_start {A : Aut σ α} {B : Aut Nat α} {n : Nat} {anch first : Bool}
    {f : Array (Option σ)} {alphabet : List α}
    (h : certOk A B n anch first f alphabet = true) :
    (A.start anch).isSome = (B.start anch).isSome := by
  unfold certOk at h
  cases hA : A.start anch <;> cases hB : B.start anch <;> simp_all

end AcVerif
