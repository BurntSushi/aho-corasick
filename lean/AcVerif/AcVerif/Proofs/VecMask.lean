import AcVerif.Proofs.VecOps
/-!
# The Slim / Fat mask tables are the lane model's bucket bit sets

`maskTables t fat i` is decomposed into its two tables, each a fold over buckets
and their patterns that ORs a bucket bit into one (fat) or two (slim) entries.
Entry `x` of the table is related to `Teddy.maskLo/maskHi i x`:
slim – both halves hold the 8-bit set; fat – the low half holds bits 0–7 and the
high half bits 8–15.
Names: `tblOf t fat i nybF` is one table, `maskTables_eq` the decomposition, `tbl_entry` /
`tbl_part` an entry as a projection of the lane model's fold, `tbl_slim` and `tbl_fat` the results.
-/
namespace AcVerif.VecP
open AcVerif.PackedP

/-! ## decomposition of `maskTables` into two single-table folds -/

def updT (tbl : Vec8) (idx : Nat) (bit : UInt8) : Vec8 := tbl.set idx ((tbl.getD idx 0) ||| bit)

/-- the inner step of `maskTables`, literally -/
def stepP (t : Teddy) (fat : Bool) (i b : Nat) (acc : Vec8 × Vec8) (pid : Nat) : Vec8 × Vec8 :=
  let byte := (t.pats.get pid).getD i 0
  let lo := (byte &&& 0xF).toNat
  let hi := ((byte >>> 4) &&& 0xF).toNat
  let (l, h) := acc
  if !fat then
    let bit : UInt8 := (1 : UInt8) <<< b.toUInt8
    (updT (updT l lo bit) (lo + 16) bit, updT (updT h hi bit) (hi + 16) bit)
  else if b < 8 then
    let bit : UInt8 := (1 : UInt8) <<< b.toUInt8
    (updT l lo bit, updT h hi bit)
  else
    let bit : UInt8 := (1 : UInt8) <<< (b % 8).toUInt8
    (updT l (lo + 16) bit, updT h (hi + 16) bit)

/-- the bit a bucket contributes -/
def bitB (fat : Bool) (b : Nat) : UInt8 :=
  if !fat then (1 : UInt8) <<< b.toUInt8
  else if b < 8 then (1 : UInt8) <<< b.toUInt8 else (1 : UInt8) <<< (b % 8).toUInt8

/-- one pattern's update of a single table; `x` is the pattern byte's nybble -/
def stepT (fat : Bool) (b : Nat) (tbl : Vec8) (x : Nat) : Vec8 :=
  if !fat then updT (updT tbl x (bitB fat b)) (x + 16) (bitB fat b)
  else if b < 8 then updT tbl x (bitB fat b) else updT tbl (x + 16) (bitB fat b)

theorem stepP_eq (t : Teddy) (fat : Bool) (i b : Nat) (l h : Vec8) (pid : Nat) :
    stepP t fat i b (l, h) pid =
      (stepT fat b l (((t.pats.get pid).getD i 0) &&& 0xF).toNat,
       stepT fat b h (((t.pats.get pid).getD i 0) >>> 4).toNat) := by
  unfold stepP stepT bitB
  dsimp only
  rw [nyb_and _ (hi_nyb_lt _)]
  cases fat with
  | false => rfl
  | true => by_cases hb : b < 8 <;> simp [hb]

/-- a single table: `nybF` extracts the nybble of a pattern byte -/
def tblOf (t : Teddy) (fat : Bool) (i : Nat) (nybF : UInt8 → UInt8) : Vec8 :=
  (List.range t.nBuckets).foldl (fun tbl b =>
    (t.buckets.getD b []).foldl (fun tbl pid =>
      stepT fat b tbl (nybF ((t.pats.get pid).getD i 0)).toNat) tbl) (List.replicate 32 0)

theorem maskTables_eq (t : Teddy) (fat : Bool) (i : Nat) :
    maskTables t fat i =
      (tblOf t fat i (fun c => c &&& 0xF), tblOf t fat i (fun c => c >>> 4)) :=
  List.foldl_pair _ _ _ (fun l h b => List.foldl_pair _ _ _ (stepP_eq t fat i b) _ l h) _ _ _

/-! ## entries of a single table -/

theorem updT_length (tbl : Vec8) (idx : Nat) (bit : UInt8) : (updT tbl idx bit).length = tbl.length := by
  unfold updT; rw [List.length_set]

theorem updT_getD (tbl : Vec8) (idx : Nat) (bit : UInt8) (j : Nat) (hj : j < tbl.length) :
    (updT tbl idx bit).getD j 0 = if idx = j then tbl.getD j 0 ||| bit else tbl.getD j 0 := by
  unfold updT
  rw [List.getD_eq_getElem?_getD, List.getElem?_set]
  by_cases h : idx = j
  · subst h; rw [if_pos rfl, if_pos hj, if_pos rfl]; rfl
  · rw [if_neg h, if_neg h, List.getD_eq_getElem?_getD]

/-- does the update of a pattern with nybble `x` in bucket `b` touch entry `j`? -/
def hit (fat : Bool) (b x j : Nat) : Bool :=
  if !fat then (x == j || x + 16 == j) else if b < 8 then x == j else x + 16 == j

section
variable (fat : Bool) (b : Nat)

theorem stepT_length (tbl : Vec8) (x : Nat) :
    (stepT fat b tbl x).length = tbl.length := by
  unfold stepT
  split
  · rw [updT_length, updT_length]
  · split <;> rw [updT_length]

theorem stepT_getD (tbl : Vec8) (x j : Nat) (hj : j < tbl.length) :
    (stepT fat b tbl x).getD j 0 =
      if hit fat b x j then tbl.getD j 0 ||| bitB fat b else tbl.getD j 0 := by
  unfold stepT hit
  cases fat with
  | false =>
    simp only [Bool.not_false, if_true]
    rw [updT_getD _ _ _ _ (by rw [updT_length]; exact hj), updT_getD _ _ _ _ hj]
    by_cases h1 : x = j
    · subst h1; simp
    · by_cases h2 : x + 16 = j <;> simp [h1, h2]
  | true =>
    simp only [Bool.not_true, Bool.false_eq_true, if_false]
    split <;> rw [updT_getD _ _ _ _ hj] <;> simp

theorem inner_length (xs : Nat → Nat) (pids : List Nat) (tbl : Vec8) :
    (pids.foldl (fun tbl pid => stepT fat b tbl (xs pid)) tbl).length = tbl.length := by
  induction pids generalizing tbl with
  | nil => rfl
  | cons pid pids ih => rw [List.foldl_cons, ih, stepT_length]

theorem inner_getD (xs : Nat → Nat) (pids : List Nat) (tbl : Vec8) (j : Nat)
    (hj : j < tbl.length) :
    (pids.foldl (fun tbl pid => stepT fat b tbl (xs pid)) tbl).getD j 0 =
      if pids.any (fun pid => hit fat b (xs pid) j) then tbl.getD j 0 ||| bitB fat b
      else tbl.getD j 0 := by
  induction pids generalizing tbl with
  | nil => rfl
  | cons pid pids ih =>
    rw [List.foldl_cons, ih _ (by rw [stepT_length]; exact hj), stepT_getD _ _ _ _ _ hj,
      List.any_cons]
    cases hit fat b (xs pid) j <;> cases pids.any (fun pid => hit fat b (xs pid) j) <;>
      simp [UInt8.or_assoc]

end

theorem outer_getD (t : Teddy) (fat : Bool) (xs : Nat → Nat) (bs : List Nat) (tbl : Vec8) (j : Nat)
    (hj : j < tbl.length) :
    ((bs.foldl (fun tbl b => (t.buckets.getD b []).foldl (fun tbl pid =>
        stepT fat b tbl (xs pid)) tbl) tbl).getD j 0).toNat =
      bs.foldl (fun a b =>
        if (t.buckets.getD b []).any (fun pid => hit fat b (xs pid) j)
        then a ||| (bitB fat b).toNat else a) (tbl.getD j 0).toNat := by
  induction bs generalizing tbl with
  | nil => rfl
  | cons b bs ih =>
    rw [List.foldl_cons, List.foldl_cons, ih _ (by rw [inner_length]; exact hj),
      inner_getD _ _ _ _ _ _ hj]
    congr 1
    split
    · exact UInt8.toNat_or _ _
    · rfl

/-- a projection (`id`, `% 2 ^ 8`, `/ 2 ^ 8`) of the lane model's mask fold -/
theorem fold_part (part : Nat → Nat) (c c' : Nat → Bool) (v : Nat → Nat) (bs : List Nat)
    (h : ∀ b ∈ bs, ∀ A, part (if c b then A ||| 1 <<< b else A) =
      (if c' b then part A ||| v b else part A)) (A0 : Nat) :
    part (bs.foldl (fun a b => if c b then a ||| 1 <<< b else a) A0) =
      bs.foldl (fun a b => if c' b then a ||| v b else a) (part A0) := by
  induction bs generalizing A0 with
  | nil => rfl
  | cons b bs ih =>
    rw [List.foldl_cons, List.foldl_cons, ih (fun b' hb' => h b' (List.mem_cons_of_mem _ hb')),
      h b (List.mem_cons_self ..)]

theorem tbl_entry (t : Teddy) (fat : Bool) (i : Nat) (nybF : UInt8 → UInt8) (j : Nat) (hj : j < 32) :
    ((tblOf t fat i nybF).getD j 0).toNat =
      (List.range t.nBuckets).foldl (fun a b =>
        if (t.buckets.getD b []).any (fun pid =>
          hit fat b (nybF ((t.pats.get pid).getD i 0)).toNat j)
        then a ||| (bitB fat b).toNat else a) 0 := by
  unfold tblOf
  rw [outer_getD t fat (fun pid => (nybF ((t.pats.get pid).getD i 0)).toNat) _ _ j (by simpa using hj)]
  congr 1
  rw [List.getD_eq_getElem?_getD, List.getElem?_replicate, if_pos hj]
  rfl

/-- is entry `x + h` (`h = 0`: low half, `h = 16`: high half) updated for a pattern of bucket `b`
with nybble `x`? -/
def live (fat : Bool) (b h : Nat) : Bool := !fat || (decide (b < 8) == decide (h = 0))

theorem hit_live (fat : Bool) (b x nyb h : Nat) (hx : x < 16) (hn : nyb < 16) (hh : h = 0 ∨ h = 16) :
    hit fat b x (nyb + h) = (x == nyb && live fat b h) := by
  unfold hit live
  rw [Bool.eq_iff_iff]
  cases fat <;> by_cases hb : b < 8 <;> rcases hh with rfl | rfl <;> simp [hb] <;> omega

/-- an entry of a table is a projection `part` of the lane model's mask, when `part` reads off
bucket `b` the bit that this half of the table holds for it -/
theorem tbl_part (t : Teddy) (fat : Bool) (i : Nat) (nybF : UInt8 → UInt8)
    (hF : ∀ c, (nybF c).toNat < 16) (nyb : UInt8) (hn : nyb.toNat < 16) (h : Nat)
    (hh : h = 0 ∨ h = 16) (part : Nat → Nat) (hp0 : part 0 = 0)
    (hpart : ∀ b, b < t.nBuckets → ∀ A, part (A ||| 1 <<< b) =
      if live fat b h then part A ||| (bitB fat b).toNat else part A) :
    ((tblOf t fat i nybF).getD (nyb.toNat + h) 0).toNat = part (maskG t i nybF nyb) := by
  rw [tbl_entry _ _ _ _ _ (by omega), ← hp0]
  unfold maskG
  symm
  refine fold_part part _ _ _ _ ?_ 0
  intro b hb A
  have hc : (t.buckets.getD b []).any (fun pid =>
      hit fat b (nybF ((t.pats.get pid).getD i 0)).toNat (nyb.toNat + h)) =
      ((t.buckets.getD b []).any (fun id => nybF ((t.pats.get id).getD i 0) == nyb) &&
        live fat b h) := by
    simp only [hit_live _ _ _ _ _ (hF _) hn hh, toNat_beq]
    cases live fat b h <;> simp
  rw [hc]
  cases (t.buckets.getD b []).any (fun id => nybF ((t.pats.get id).getD i 0) == nyb) with
  | false => rfl
  | true => exact hpart b (List.mem_range.1 hb) A

theorem tbl_slim (t : Teddy) (hB : t.nBuckets = 8) (i : Nat) (nybF : UInt8 → UInt8)
    (hF : ∀ c, (nybF c).toNat < 16) (nyb : UInt8) (hn : nyb.toNat < 16) (h : Nat)
    (hh : h = 0 ∨ h = 16) :
    ((tblOf t false i nybF).getD (nyb.toNat + h) 0).toNat = maskG t i nybF nyb :=
  tbl_part t false i nybF hF nyb hn h hh id rfl fun b hb A => by
    rw [hB] at hb
    show _ = A ||| (bitB false b).toNat
    rw [show (bitB false b).toNat = 1 <<< b from bit_lo b hb]; rfl

theorem tbl_fat (t : Teddy) (hB : t.nBuckets = 16) (i : Nat) (nybF : UInt8 → UInt8)
    (hF : ∀ c, (nybF c).toNat < 16) (nyb : UInt8) (hn : nyb.toNat < 16) :
    ((tblOf t true i nybF).getD nyb.toNat 0).toNat = maskG t i nybF nyb % 2 ^ 8 ∧
    ((tblOf t true i nybF).getD (16 + nyb.toNat) 0).toNat = maskG t i nybF nyb / 2 ^ 8 := by
  rw [Nat.add_comm]
  constructor
  · refine tbl_part t true i nybF hF nyb hn 0 (Or.inl rfl) (· % 2 ^ 8) rfl fun b hb A => ?_
    rw [hB] at hb
    show (A ||| 1 <<< b) % 2 ^ 8 = _
    rw [Nat.or_mod_two_pow]
    unfold live bitB
    by_cases hb8 : b < 8
    · simp [hb8, (bit_fat_lo b hb8).1, bit_lo b hb8]
    · simp [hb8, (bit_fat_hi b hb hb8).1]
  · refine tbl_part t true i nybF hF nyb hn 16 (Or.inr rfl) (· / 2 ^ 8) rfl fun b hb A => ?_
    rw [hB] at hb
    show (A ||| 1 <<< b) / 2 ^ 8 = _
    rw [Nat.or_div_two_pow]
    unfold live bitB
    by_cases hb8 : b < 8
    · simp [hb8, (bit_fat_lo b hb8).2]
    · simp [hb8, (bit_fat_hi b hb hb8).2]

end AcVerif.VecP
