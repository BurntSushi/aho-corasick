import AcVerif.Fold
/-!
# Finite facts about ASCII case folding, by complete enumeration of the 256 bytes

`forall_uint8` reduces a statement over `UInt8` to one over the naturals below 256, which
`decide +kernel` then checks.
-/
namespace AcVerif.MiscP

theorem forall_uint8 (p : UInt8 → Prop) (h : ∀ n, n < 256 → p (UInt8.ofNat n)) : ∀ b, p b := by
  intro b
  have := h b.toNat b.toNat_lt
  simpa using this

theorem forall_uint8_2 (p : UInt8 → UInt8 → Prop)
    (h : ∀ n, n < 256 → ∀ m, m < 256 → p (UInt8.ofNat n) (UInt8.ofNat m)) : ∀ a b, p a b :=
  fun a b => forall_uint8 (fun a => p a b)
    (fun n hn => forall_uint8 (fun b => p (UInt8.ofNat n) b) (h n hn) b) a

theorem fold_nonletter : ∀ b : UInt8,
    ¬ ((0x41 ≤ b ∧ b ≤ 0x5A) ∨ (0x61 ≤ b ∧ b ≤ 0x7A)) → foldByte b = b ∧ oppositeAsciiCase b = b := by
  apply forall_uint8
  decide +kernel

theorem opp_involution : ∀ b : UInt8, oppositeAsciiCase (oppositeAsciiCase b) = b := by
  apply forall_uint8
  decide +kernel

theorem fold_opp : ∀ b : UInt8, foldByte (oppositeAsciiCase b) = foldByte b := by
  apply forall_uint8
  decide +kernel

theorem fold_self_or_opp : ∀ b : UInt8, foldByte b = b ∨ foldByte b = oppositeAsciiCase b := by
  apply forall_uint8
  decide +kernel

theorem fold_idem (b : UInt8) : foldByte (foldByte b) = foldByte b := by
  rcases fold_self_or_opp b with h | h
  · rw [h, h]
  · rw [h, fold_opp, h]

theorem fold_eq_iff (a b : UInt8) :
    foldByte a = foldByte b ↔ a = b ∨ a = oppositeAsciiCase b := by
  constructor
  · intro h
    rcases fold_self_or_opp a with ha | ha <;> rcases fold_self_or_opp b with hb | hb <;>
      rw [ha, hb] at h
    · exact Or.inl h
    · exact Or.inr h
    · right; rw [← h, opp_involution]
    · left; rw [← opp_involution a, h, opp_involution]
  · rintro (rfl | rfl)
    · rfl
    · exact fold_opp b

end AcVerif.MiscP
