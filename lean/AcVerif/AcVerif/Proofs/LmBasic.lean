import AcVerif.Ideal
import AcVerif.Proofs.Common
import AcVerif.Proofs.ListArray
/-!
# Leftmost semantics: facts about `isPref`, `lsp`, `blocked`, `idsOf`, `outLm`

The functions the ideal automaton (`AcVerif.Ideal`) is made of, and `OccIn`, the occurrences of a
kept pattern in a text with offsets relative to it.  Main lemmas: `lsp_max`, `lsp_step`,
`OccIn.ge_of_reach`, `outLm_cons` / `outLm_nil` (what a non-empty resp. empty match list of a
node says), `stepLm_eq` (the leftmost step in one equation), and on the kept sets `idsInc_patSet`,
`mem_patSet`, `keepLF_eq_false`, `kept_prefix` (every pattern has a kept prefix with no larger id,
strong induction on the id).

`LmP` is the namespace of the proof that the searches on the ideal leftmost automaton
(`MatchKind.ll`, `.lf`) meet `IsFind`: this file, `EngSpan` (span text versus haystack),
`Leftmost`, `LeftmostAnch`, `LfReduce`, `LmTop`, and `Earliest` (earliest versus normal mode, for
any automaton).  The facts on `lsp`, `isPref` and `enumPats` here are used by the standard
development and the compiler proofs as well.
-/
namespace AcVerif.LmP
open AcVerif
set_option linter.unusedSectionVars false
variable {α : Type} [DecidableEq α] {Q : PatSet α}

/-! ## `isPref` -/

theorem isPref_iff {u : List α} :
    isPref Q u = true ↔ ∃ q ∈ Q, u <+: q.1 := by
  simp only [isPref, List.any_eq_true, List.isPrefixOf_iff_prefix]

theorem isPref_of_append {a b : List α} (h : isPref Q (a ++ b) = true) :
    isPref Q a = true := by
  rw [isPref_iff] at *
  obtain ⟨q, hq, hp⟩ := h
  exact ⟨q, hq, (List.prefix_append a b).trans hp⟩

theorem isPref_of_prefix {a b : List α} (hab : a <+: b) (h : isPref Q b = true) :
    isPref Q a = true := by
  obtain ⟨t, rfl⟩ := hab
  exact isPref_of_append h

theorem isPref_of_mem {q : List α × Nat} (h : q ∈ Q) : isPref Q q.1 = true :=
  isPref_iff.2 ⟨q, h, List.prefix_refl _⟩

/-! ## `lsp` -/

theorem lsp_suffix (Q : PatSet α) (w : List α) : lsp Q w <:+ w := by
  induction w with
  | nil => exact List.suffix_refl _
  | cons c t ih =>
    simp only [lsp]
    split
    · exact List.suffix_refl _
    · exact ih.trans (List.suffix_cons c t)

theorem lsp_of_isPref {w : List α} (h : isPref Q w = true) : lsp Q w = w := by
  cases w with
  | nil => rfl
  | cons c t => simp [lsp, h]

theorem lsp_isPref {w : List α} (h : lsp Q w ≠ []) : isPref Q (lsp Q w) = true := by
  induction w with
  | nil => simp [lsp] at h
  | cons c t ih =>
    simp only [lsp] at h ⊢
    split
    · assumption
    · rename_i hc
      simp only [hc] at h
      exact ih (by simpa using h)

theorem lsp_max {Q : PatSet α} {v w : List α} (hs : v <:+ w) (hp : isPref Q v = true) :
    v <:+ lsp Q w := by
  induction w with
  | nil =>
    have : v = [] := List.suffix_nil.1 hs
    subst this; exact List.suffix_refl _
  | cons c t ih =>
    simp only [lsp]
    split
    · exact hs
    · rename_i hc
      rcases List.suffix_cons_iff.1 hs with h | h
      · subst h; exact absurd hp hc
      · exact ih h

theorem lsp_length_le (Q : PatSet α) (w : List α) : (lsp Q w).length ≤ w.length :=
  (lsp_suffix Q w).length_le

/-- the failure computation only needs the current node -/
theorem lsp_step (Q : PatSet α) (w : List α) (c : α) :
    lsp Q (w ++ [c]) = lsp Q (lsp Q w ++ [c]) := by
  have h1 : lsp Q (lsp Q w ++ [c]) <:+ lsp Q (w ++ [c]) := by
    by_cases hn : lsp Q (lsp Q w ++ [c]) = []
    · rw [hn]; exact List.nil_suffix
    · apply lsp_max _ (lsp_isPref hn)
      exact (lsp_suffix Q _).trans (List.suffix_append_self_iff.2 (lsp_suffix Q w))
  have h2 : lsp Q (w ++ [c]) <:+ lsp Q (lsp Q w ++ [c]) := by
    by_cases hn : lsp Q (w ++ [c]) = []
    · rw [hn]; exact List.nil_suffix
    · have hp := lsp_isPref hn
      rcases List.suffix_concat_iff.1 (lsp_suffix Q (w ++ [c])) with h | ⟨t, ht, hts⟩
      · exact absurd h hn
      · rw [ht] at hp ⊢
        have : t <:+ lsp Q w := lsp_max hts (isPref_of_append hp)
        exact lsp_max (List.suffix_append_self_iff.2 this) hp
  exact h2.eq_of_length_le h1.length_le

/-! ## Occurrences relative to a text -/

def OccIn (Q : PatSet α) (w : List α) (q : List α × Nat) (st : Nat) : Prop :=
  q ∈ Q ∧ st ≤ w.length ∧ q.1 <+: w.drop st

theorem OccIn.len_le {w : List α} {q : List α × Nat} {st : Nat}
    (h : OccIn Q w q st) : st + q.1.length ≤ w.length := by
  have := h.2.2.length_le
  have := h.2.1
  simp only [List.length_drop] at *
  omega

theorem OccIn.append {Q : PatSet α} {w : List α} {q : List α × Nat} {st : Nat}
    (h : OccIn Q w q st) (r : List α) : OccIn Q (w ++ r) q st := by
  refine ⟨h.1, ?_, ?_⟩
  · have := h.2.1; simp only [List.length_append]; omega
  · rw [List.drop_append_of_le_length h.2.1]
    exact h.2.2.trans (List.prefix_append _ _)

theorem OccIn.of_append {w r : List α} {q : List α × Nat} {st : Nat}
    (h : OccIn Q (w ++ r) q st) (hl : st + q.1.length ≤ w.length) : OccIn Q w q st := by
  have hst : st ≤ w.length := by omega
  refine ⟨h.1, hst, ?_⟩
  have h2 := h.2.2
  rw [List.drop_append_of_le_length hst] at h2
  exact List.prefix_of_prefix_length_le h2 (List.prefix_append _ _)
    (by simp only [List.length_drop]; omega)

theorem OccIn.eq_drop {w : List α} {q : List α × Nat} {st : Nat}
    (h : OccIn Q w q st) (hl : w.length ≤ st + q.1.length) : q.1 = w.drop st :=
  h.2.2.eq_of_length_le (by simp only [List.length_drop]; omega)

theorem drop_of_suffix {u w : List α} (h : u <:+ w) (st : Nat) :
    w.drop (st + (w.length - u.length)) = u.drop st := by
  obtain ⟨a, rfl⟩ := h
  have : st + ((a ++ u).length - u.length) = a.length + st := by
    simp only [List.length_append]; omega
  rw [this, ← List.drop_drop, List.drop_append_length]

theorem OccIn.shift {u w : List α} {q : List α × Nat} {st : Nat}
    (hs : u <:+ w) (h : OccIn Q u q st) : OccIn Q w q (st + (w.length - u.length)) := by
  refine ⟨h.1, ?_, ?_⟩
  · have := h.2.1; have := hs.length_le; omega
  · rw [drop_of_suffix hs]; exact h.2.2

theorem OccIn.unshift {u w : List α} {q : List α × Nat} {st : Nat}
    (hs : u <:+ w) (h : OccIn Q w q st) (hl : w.length - u.length ≤ st) :
    OccIn Q u q (st - (w.length - u.length)) := by
  refine ⟨h.1, ?_, ?_⟩
  · have := h.2.1; have := hs.length_le; omega
  · rw [← drop_of_suffix hs]
    have : st - (w.length - u.length) + (w.length - u.length) = st := by omega
    rw [this]; exact h.2.2

/-- an occurrence reaching position `|w|` (or beyond, in a longer text) starts inside the
window of `lsp Q w` -/
theorem OccIn.ge_of_reach {w r : List α} {q : List α × Nat} {st : Nat}
    (h : OccIn Q (w ++ r) q st) (hst : st ≤ w.length) (hl : w.length ≤ st + q.1.length) :
    w.length - (lsp Q w).length ≤ st := by
  have h2 := h.2.2
  rw [List.drop_append_of_le_length hst] at h2
  have hp : w.drop st <+: q.1 :=
    List.prefix_of_prefix_length_le (List.prefix_append _ _) h2
      (by simp only [List.length_drop]; omega)
  have hpre : isPref Q (w.drop st) = true := isPref_of_prefix hp (isPref_of_mem h.1)
  have := (lsp_max (List.drop_suffix st w) hpre).length_le
  simp only [List.length_drop] at this
  omega

theorem OccIn.ge_of_end {w : List α} {q : List α × Nat} {st : Nat}
    (h : OccIn Q w q st) (hl : w.length ≤ st + q.1.length) :
    w.length - (lsp Q w).length ≤ st := by
  have h' : OccIn Q (w ++ []) q st := by simpa using h
  exact h'.ge_of_reach h.2.1 hl

/-! ## `blocked`, `idsOf`, `outLm` -/

theorem blocked_iff {u : List α} {k : Nat} :
    blocked Q u k = true ↔ ∃ st, st < k ∧ ∃ q ∈ Q, q.1 <+: u.drop st := by
  simp only [blocked, List.any_eq_true, List.mem_range, List.isPrefixOf_iff_prefix]

theorem blocked_eq_false {u : List α} {k : Nat} (h : blocked Q u k = false) :
    ∀ st, st < k → ∀ q ∈ Q, ¬ q.1 <+: u.drop st := by
  intro st hst q hq hp
  have : blocked Q u k = true := blocked_iff.2 ⟨st, hst, q, hq, hp⟩
  simp [h] at this

def IdsInc (Q : PatSet α) : Prop := Q.Pairwise fun a b => a.2 < b.2

theorem idsOf_eq_nil_iff {v : List α} : idsOf Q v = [] ↔ ∀ q ∈ Q, q.1 ≠ v := by
  simp only [idsOf, List.map_eq_nil_iff, List.filter_eq_nil_iff, decide_eq_true_eq, ne_eq]

theorem idsOf_ne_nil_iff {v : List α} : idsOf Q v ≠ [] ↔ ∃ q ∈ Q, q.1 = v := by
  simp only [ne_eq, idsOf_eq_nil_iff, Classical.not_forall, Decidable.not_not, exists_prop]

theorem isPref_of_idsOf_ne_nil {v : List α} (h : idsOf Q v ≠ []) : isPref Q v = true := by
  obtain ⟨q, hq, hv⟩ := idsOf_ne_nil_iff.1 h
  subst hv
  exact isPref_of_mem hq

theorem idsOf_nil_of_not_isPref {v : List α} (h : isPref Q v = false) : idsOf Q v = [] := by
  apply Classical.byContradiction
  intro hne
  rw [isPref_of_idsOf_ne_nil hne] at h
  cases h

theorem idsOf_head (hI : IdsInc Q) {v : List α} {pid : Nat} {rest : List Nat}
    (h : idsOf Q v = pid :: rest) :
    ∃ q ∈ Q, q.1 = v ∧ q.2 = pid ∧ ∀ q' ∈ Q, q'.1 = v → pid ≤ q'.2 := by
  -- the first kept copy of `v`; the later ones follow it in the list, hence have larger ids
  obtain ⟨x, l, hf, rfl, -⟩ := List.map_eq_cons_iff.1 h
  have hx : x ∈ Q.filter fun q => q.1 = v := hf ▸ List.mem_cons_self
  have hp := hI.filter fun q => decide (q.1 = v)
  rw [hf, List.pairwise_cons] at hp
  refine ⟨x, (List.mem_filter.1 hx).1, of_decide_eq_true (List.mem_filter.1 hx).2, rfl,
    fun q' hq' hv => ?_⟩
  have : q' ∈ x :: l := hf ▸ List.mem_filter.2 ⟨hq', decide_eq_true hv⟩
  rcases List.mem_cons.1 this with rfl | h'
  · exact Nat.le_refl _
  · exact Nat.le_of_lt (hp.1 q' h')

/-- `outLm` by cases: no suffix of `u` is a kept pattern; or the longest such suffix starts at
`k`, and its ids are listed unless an occurrence inside `u` starts before `k` -/
theorem outLm_cases (Q : PatSet α) (u : List α) :
    (outLm Q u = [] ∧ ∀ j, j ≤ u.length → ∀ q ∈ Q, q.1 ≠ u.drop j) ∨
    ∃ k, k ≤ u.length ∧ (∃ q ∈ Q, q.1 = u.drop k) ∧ (∀ j, j < k → ∀ q ∈ Q, q.1 ≠ u.drop j) ∧
      outLm Q u = if blocked Q u k then [] else idsOf Q (u.drop k) := by
  have hno : ∀ j, (!(Q.any fun q => decide (q.1 = u.drop j))) = true →
      ∀ q ∈ Q, q.1 ≠ u.drop j := by
    intro j h q hq he
    simp only [Bool.not_eq_eq_eq_not, Bool.not_true, List.any_eq_false] at h
    exact h q hq (by simpa using he)
  unfold outLm
  cases hf : (List.range (u.length + 1)).find? fun k => Q.any fun q => q.1 = u.drop k with
  | none =>
    rw [List.find?_range_eq_none] at hf
    exact Or.inl ⟨rfl, fun j hj => hno j (hf j (by omega))⟩
  | some k =>
    rw [List.find?_range_eq_some] at hf
    obtain ⟨hk1, hk2, hk3⟩ := hf
    simp only [List.any_eq_true, decide_eq_true_eq] at hk1
    exact Or.inr ⟨k, by have := List.mem_range.1 hk2; omega, hk1, fun j hj => hno j (hk3 j hj), rfl⟩

theorem outLm_cons (hI : IdsInc Q) {u : List α} {pid : Nat} {rest : List Nat}
    (h : outLm Q u = pid :: rest) :
    ∃ k, k ≤ u.length ∧ ∃ q ∈ Q, q.1 = u.drop k ∧ q.2 = pid ∧
      (∀ q' ∈ Q, q'.1 = u.drop k → pid ≤ q'.2) ∧
      (∀ j, j < k → ∀ q' ∈ Q, q'.1 ≠ u.drop j) ∧ blocked Q u k = false := by
  rcases outLm_cases Q u with ⟨h0, _⟩ | ⟨k, hk, _, hmin, hout⟩
  · rw [h0] at h; cases h
  · rw [hout] at h
    cases hb : blocked Q u k with
    | true => rw [hb, if_pos rfl] at h; cases h
    | false =>
      rw [hb, if_neg Bool.false_ne_true] at h
      obtain ⟨q, hq, h1, h2, h3⟩ := idsOf_head hI h
      exact ⟨k, hk, q, hq, h1, h2, h3, hmin, hb⟩

theorem outLm_nil {u : List α} (h : outLm Q u = []) :
    ∀ j, j ≤ u.length → ∀ q ∈ Q, q.1 = u.drop j →
      ∃ st0, st0 < j ∧ ∃ q0 ∈ Q, q0.1 <+: u.drop st0 ∧ st0 + q0.1.length < u.length := by
  intro j hj q hq hqj
  rcases outLm_cases Q u with ⟨_, hno⟩ | ⟨k, hkl, ⟨q1, hq1, he⟩, hmin, hout⟩
  · exact absurd hqj (hno j hj q hq)
  · have hkj : k ≤ j := Nat.le_of_not_lt fun hlt => hmin j hlt q hq hqj
    rw [hout] at h
    cases hb : blocked Q u k with
    | false =>
      rw [hb, if_neg Bool.false_ne_true] at h
      exact absurd he (idsOf_eq_nil_iff.1 h q1 hq1)
    | true =>
      -- the blocking occurrence starts before `k`, so it is not a suffix of `u`
      obtain ⟨st0, hst0, q0, hq0, hp0⟩ := blocked_iff.1 hb
      refine ⟨st0, by omega, q0, hq0, hp0, ?_⟩
      have hle := hp0.length_le
      simp only [List.length_drop] at hle
      apply Nat.lt_of_le_of_ne (by omega)
      intro heq
      exact hmin st0 hst0 q0 hq0 (hp0.eq_of_length_le (by simp only [List.length_drop]; omega))

theorem outLm_nil_ne {u : List α} (h : outLm Q u = []) : ∀ q ∈ Q, q.1 ≠ u := fun q hq he =>
  have ⟨_, hst0, _⟩ := outLm_nil h 0 (Nat.zero_le _) q hq (by rw [List.drop_zero, he])
  Nat.not_lt_zero _ hst0

theorem blocked_zero (Q : PatSet α) (u : List α) : blocked Q u 0 = false := by
  simp [blocked]

/-- the leftmost step goes to the longest node that is a suffix of `v ++ [b]`, unless that
drops the start of an occurrence inside `v` (when `v ++ [b]` is itself a node nothing is dropped) -/
theorem stepLm_eq (Q : PatSet α) (v : List α) (b : α) :
    stepLm Q v b =
      if blocked Q v (v.length + 1 - (lsp Q (v ++ [b])).length) then St.dead
      else St.at (lsp Q (v ++ [b])) := by
  unfold stepLm
  split
  · rename_i hp
    rw [lsp_of_isPref hp]
    have : v.length + 1 - (v ++ [b]).length = 0 := by simp
    rw [this, blocked_zero]
    simp
  · rfl

/-! ## The kept sets -/

theorem mem_enumPats {P : List (List α)} {q : List α × Nat} :
    q ∈ enumPats P ↔ P[q.2]? = some q.1 :=
  List.mem_zipIdx_iff_getElem?

theorem idsInc_enumPats (P : List (List α)) : IdsInc (enumPats P) := by
  have h : ((enumPats P).map Prod.snd).Pairwise (· < ·) := by
    unfold enumPats
    rw [List.zipIdx_map_snd]
    exact List.pairwise_lt_range'
  exact List.pairwise_map.1 h

theorem idsInc_patSet (k : MatchKind) (P : List (List α)) : IdsInc (patSet k P) := by
  cases k
  · exact idsInc_enumPats P
  · exact List.Pairwise.filter _ (idsInc_enumPats P)
  · exact idsInc_enumPats P

theorem mem_patSet {k : MatchKind} {P : List (List α)} {q : List α × Nat} (h : q ∈ patSet k P) :
    P[q.2]? = some q.1 := by
  cases k
  · exact mem_enumPats.1 h
  · exact mem_enumPats.1 (List.mem_filter.1 h).1
  · exact mem_enumPats.1 h

theorem keepLF_eq_false {P : List (List α)} {q : List α × Nat} :
    keepLF P q = false ↔
      ∃ i, i < q.2 ∧ ∃ p', P[i]? = some p' ∧ p' <+: q.1 ∧ p'.length < q.1.length := by
  unfold keepLF
  simp only [Bool.not_eq_eq_eq_not, Bool.not_false, List.any_eq_true, List.mem_range]
  refine exists_congr fun i => and_congr_right fun _ => ?_
  cases P[i]? with
  | none => simp
  | some p' => simp

theorem kept_prefix (P : List (List α)) (j : Nat) : ∀ p, P[j]? = some p →
    ∃ i p', i ≤ j ∧ P[i]? = some p' ∧ p' <+: p ∧ keepLF P (p', i) = true := by
  induction j using Nat.strongRecOn with
  | _ j ih =>
    intro p hp
    by_cases hk : keepLF P (p, j) = true
    · exact ⟨j, p, Nat.le_refl _, hp, List.prefix_refl _, hk⟩
    · obtain ⟨i, hi, p', hp', hpre, _⟩ := keepLF_eq_false.1 (by simpa using hk)
      obtain ⟨i', p'', hi', hp'', hpre', hk'⟩ := ih i hi p' hp'
      exact ⟨i', p'', by simp only at hi; omega, hp'', hpre'.trans hpre, hk'⟩

theorem mem_patSet_lf {P : List (List α)} {q : List α × Nat} :
    q ∈ patSet .lf P ↔ P[q.2]? = some q.1 ∧ keepLF P q = true := by
  simp only [patSet, enumPats, List.mem_filter, List.mem_zipIdx_iff_getElem?]

theorem plen_patSet {k : MatchKind} {P : List (List α)} :
    ∀ q ∈ patSet k P, (P.getD q.2 []).length = q.1.length := by
  intro q hq
  have := mem_patSet hq
  simp [List.getD, this]

theorem start_root (k : MatchKind) (P : List (List α)) {sk : StartKind} (hasPre : Bool)
    {anch : Bool} (h : supportsAnch sk anch) : (ideal k P sk hasPre).start anch = some (.at []) := by
  rcases h with rfl | ⟨rfl, rfl⟩ | ⟨rfl, rfl⟩
  · cases anch <;> rfl
  · rfl
  · rfl

end AcVerif.LmP
