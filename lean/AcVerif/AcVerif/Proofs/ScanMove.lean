import AcVerif.Engine.Find
import AcVerif.Engine.Overlap
/-!
# One iteration of the search loops

`findLoop`, `ovlLoop` and their instrumented versions (`findCost`, `ovlCost`, `scanLoop`,
`ovlScanLoop`) all take the transition on the current byte and then decide in the same way, from
the state reached, what happens next.  `move` is that decision, as data; `Move.halts` says whether
it ends the loop (a reportable match ends it or not, by a flag), `Move.resume` where the loop goes
on.  `loopBody_halts` turns the nested conditionals of such a loop body into that one distinction;
`Proofs/Sweep.lean` builds the loop on it.

`move` keeps the prefilter's candidate (`.asked c`), which `scanLoop` / `ovlScanLoop` need for its
`extent`.  Without a prefilter it is one of three (`move_none_cases`): that is the iteration of the
structural forms `findS` / `ovlS` (`Proofs/Struct.lean`).
-/
namespace AcVerif
variable {σ α : Type}

/-- what a search loop does in the state it has just entered -/
inductive Move where
  /-- the dead state: the search is over -/
  | dead
  /-- a match state whose first match is to be reported -/
  | hit (m : Mat)
  /-- nothing to do (a state that is not special, an anchored match starting after the span
  start, the start state when there is no prefilter): on to the next byte -/
  | next
  /-- the start state: the prefilter's answer for the rest of the span -/
  | asked (c : Cand)

/-- the decision at position `at_`, in the state `sid` entered on the byte at `at_` -/
def move (A : Aut σ α) (hay : List α) (s e : Nat) (pre : Option (Prefilter α)) (anch : Bool)
    (sid : σ) (at_ : Nat) : Move :=
  if A.isSpecial sid then
    if A.isDead sid then .dead
    else if A.isMatch sid then
      if !(anch && decide ((getMatch A sid 0 (at_ + 1)).start > s)) then
        .hit (getMatch A sid 0 (at_ + 1))
      else .next
    else
      match pre with
      | some p => .asked (p hay at_ e)
      | Option.none => .next
  else .next

/-- does the loop end on this move (`stop`: a reportable match ends it) -/
def Move.halts (stop : Bool) : Move → Bool
  | .dead => true
  | .hit _ => stop
  | .next => false
  | .asked c => c.intoOption.isNone

/-- the position at which the loop resumes after a move that does not end it: on the candidate
position `i` at `max i (at_ + 1)`, never at or before `at_` -/
def Move.resume (at_ : Nat) : Move → Nat
  | .asked c => max (c.intoOption.getD 0) (at_ + 1)
  | _ => at_ + 1

theorem Move.lt_resume (mv : Move) (at_ : Nat) : at_ < mv.resume at_ := by
  cases mv
  case asked c => exact Nat.lt_of_lt_of_le (Nat.lt_succ_self _) (Nat.le_max_right _ _)
  all_goals exact Nat.lt_succ_self _

namespace ScanP

theorem upTo_induction (e : Nat) {P : Nat → Prop} (stop : ∀ a, ¬ a < e → P a)
    (step : ∀ a, a < e → (∀ j, a < j → P j) → P a) (a : Nat) : P a := by
  generalize hn : e - a = n
  induction n using Nat.strongRecOn generalizing a with
  | _ n ih =>
    by_cases h : a < e
    · exact step a h fun j hj => ih (e - j) (by omega) j rfl
    · exact stop a h

section
variable {A : Aut σ α} {hay : List α} {s e : Nat} {pre : Option (Prefilter α)} {anch : Bool}
  {sid : σ} {at_ : Nat}

theorem move_of_not_special (h : ¬ A.isSpecial sid = true) :
    move A hay s e pre anch sid at_ = .next :=
  if_neg h

theorem move_of_dead (h : A.isSpecial sid = true) (hd : A.isDead sid = true) :
    move A hay s e pre anch sid at_ = .dead := by
  unfold move; rw [if_pos h, if_pos hd]

theorem move_of_match (h : A.isSpecial sid = true) (hd : ¬ A.isDead sid = true)
    (hm : A.isMatch sid = true) :
    move A hay s e pre anch sid at_ =
      if !(anch && decide ((getMatch A sid 0 (at_ + 1)).start > s)) then
        .hit (getMatch A sid 0 (at_ + 1))
      else .next := by
  unfold move; rw [if_pos h, if_neg hd, if_pos hm]

theorem move_of_start (h : A.isSpecial sid = true) (hd : ¬ A.isDead sid = true)
    (hm : ¬ A.isMatch sid = true) :
    move A hay s e pre anch sid at_ =
      match pre with
      | some p => .asked (p hay at_ e)
      | Option.none => .next := by
  unfold move; rw [if_pos h, if_neg hd, if_neg hm]

theorem of_move_eq_asked {c : Cand} (h : move A hay s e pre anch sid at_ = .asked c) :
    A.isSpecial sid = true ∧ ¬ A.isDead sid = true ∧ ¬ A.isMatch sid = true ∧
      ∃ p, pre = some p ∧ c = p hay at_ e := by
  by_cases hsp : A.isSpecial sid = true
  · by_cases hd : A.isDead sid = true
    · rw [move_of_dead hsp hd] at h; cases h
    · by_cases hm : A.isMatch sid = true
      · rw [move_of_match hsp hd hm] at h
        split at h <;> cases h
      · rw [move_of_start hsp hd hm] at h
        cases pre with
        | none => cases h
        | some p => cases h; exact ⟨hsp, hd, hm, p, rfl, rfl⟩
  · rw [move_of_not_special hsp] at h; cases h

theorem move_none_cases (A : Aut σ α) (hay : List α) (s e : Nat) (anch : Bool) (sid : σ)
    (at_ : Nat) :
    move A hay s e none anch sid at_ = .dead ∨
      move A hay s e none anch sid at_ = .hit (getMatch A sid 0 (at_ + 1)) ∨
      move A hay s e none anch sid at_ = .next := by
  unfold move
  cases A.isSpecial sid
  · exact .inr (.inr rfl)
  cases A.isDead sid
  · cases A.isMatch sid
    · exact .inr (.inr rfl)
    · cases (!(anch && decide ((getMatch A sid 0 (at_ + 1)).start > s)))
      · exact .inr (.inr rfl)
      · exact .inr (.inl rfl)
  · exact .inl rfl

theorem move_none_resume : (move A hay s e none anch sid at_).resume at_ = at_ + 1 := by
  rcases move_none_cases A hay s e anch sid at_ with h | h | h <;> rw [h] <;> rfl

/-- The body of every search loop, after the transition into `sid`: its five exits are the two
things a loop can do, end (`H`) or resume at a later position (`G`), as `move` decides. -/
theorem loopBody_halts {β : Type} (stop : Bool) (H : Move → β) (G : Move → Nat → β) :
    (if A.isSpecial sid then
      if A.isDead sid then H .dead
      else if A.isMatch sid then
        if !(anch && decide ((getMatch A sid 0 (at_ + 1)).start > s)) then
          (if stop then H (.hit (getMatch A sid 0 (at_ + 1)))
            else G (.hit (getMatch A sid 0 (at_ + 1))) (at_ + 1))
        else G .next (at_ + 1)
      else
        match pre with
        | some p =>
          match (p hay at_ e).intoOption with
          | Option.none => H (.asked (p hay at_ e))
          | some i =>
            if i > at_ then G (.asked (p hay at_ e)) i else G (.asked (p hay at_ e)) (at_ + 1)
        | Option.none => G .next (at_ + 1)
    else G .next (at_ + 1)) =
    if (move A hay s e pre anch sid at_).halts stop then H (move A hay s e pre anch sid at_)
    else G (move A hay s e pre anch sid at_) ((move A hay s e pre anch sid at_).resume at_) := by
  by_cases hsp : A.isSpecial sid = true
  · rw [if_pos hsp]
    by_cases hd : A.isDead sid = true
    · rw [if_pos hd, move_of_dead hsp hd]; rfl
    · rw [if_neg hd]
      by_cases hm : A.isMatch sid = true
      · rw [if_pos hm, move_of_match hsp hd hm]
        by_cases hs : (!(anch && decide ((getMatch A sid 0 (at_ + 1)).start > s))) = true
        · rw [if_pos hs, if_pos hs]; cases stop <;> rfl
        · rw [if_neg hs, if_neg hs]; rfl
      · rw [if_neg hm, move_of_start hsp hd hm]
        cases pre with
        | none => rfl
        | some p =>
          dsimp only
          cases hi : (p hay at_ e).intoOption with
          | none => simp only [Move.halts, hi, Option.isNone_none, if_true]
          | some i =>
            simp only [Move.halts, Move.resume, hi, Option.isNone_some, Option.getD_some,
              Bool.false_eq_true, if_false]
            by_cases hi' : i > at_
            · rw [if_pos hi', Nat.max_eq_left hi']
            · rw [if_neg hi', Nat.max_eq_right (Nat.le_succ_of_le (Nat.le_of_not_lt hi'))]
  · rw [if_neg hsp, move_of_not_special hsp]; rfl

end

end ScanP
end AcVerif
