import AcVerif.ContigChecked
import AcVerif.Proofs.ContigDecode
/-!
# L1eSafe proofs: the checked lookups on one written state

A checked read `repr[j]?` of an index in range is `some` of the totalised read.  With the class
words of a sparse state and the target slot the scan stops at (`sparseIdx`) in range, the checked
loop `scanGo?` returns `some` of what the totalised scan returns (`scanGo?_eq`).
The checked lookup `found?` returns `some` of the totalised `foundW` as soon as the reads of the
state kind at hand are in range (`found?_dense`, `found?_one`, `found?_sparse`), and likewise the
checked match list (`matchList?_eq`).  If the words of `repr` at `o` are `State::write` of a state
`st` and lie inside `repr` (`o + length ≤ repr.size`), all these reads are in range
(`found?_written`, `fail?_written`, `matchList?_written`); no hypothesis on the transition list is
needed (only that classes are `< alphabet_len ≤ 256`).
-/
namespace AcVerif.L1eP
open AcVerif AcVerif.CNfa AcVerif.L1cP AcVerif.L1dP

/-! ## the checked class scan -/

theorem scanGo?_cons (m : ContigM) (cls base toff i : Nat) (rest : List Nat)
    (h : base + i < m.repr.size) :
    m.scanGo? cls base toff (i :: rest) =
      match slotOf cls (m.repr.getD (base + i) 0) i with
      | some j => (m.repr[toff + j]?).map some
      | none => m.scanGo? cls base toff rest := by
  rw [ContigM.scanGo?, Array.getElem?_eq_some_getD m.repr 0 h]
  simp only [slotOf, apply_ite (fun o : Option Nat =>
    match o with
    | some j => (m.repr[toff + j]?).map some
    | none => m.scanGo? cls base toff rest), Nat.add_assoc]

theorem scanGo?_eq (m : ContigM) (cls base toff n : Nat) (hin : base + n ≤ m.repr.size)
    (hslot : ∀ j, sparseIdx (fun i => m.repr.getD i 0) cls base n = some j →
      toff + j < m.repr.size) :
    m.scanGo? cls base toff (List.range n) =
      some (sparseScan (fun i => m.repr.getD i 0) cls base toff n) := by
  rw [sparseScan_eq_idx]
  unfold sparseIdx at hslot ⊢
  have hl : ∀ i ∈ List.range n, base + i < m.repr.size := fun i hi => by
    have := List.mem_range.1 hi; omega
  generalize List.range n = l at hslot hl ⊢
  induction l with
  | nil => rfl
  | cons i rest ih =>
    rw [scanGo?_cons m cls base toff i rest (hl i (by simp)), List.findSome?_cons]
    rw [List.findSome?_cons] at hslot
    cases hs : slotOf cls (m.repr.getD (base + i) 0) i with
    | some j =>
      rw [hs] at hslot
      show (m.repr[toff + j]?).map some = _
      rw [Array.getElem?_eq_some_getD m.repr 0 (hslot j rfl)]
      rfl
    | none =>
      rw [hs] at hslot
      exact ih hslot (fun x hx => hl x (by simp [hx]))

/-! ## checked = totalised, given the indices in range -/

section
variable {m : ContigM} {cls sid : Nat}

theorem found?_dense (h0 : sid < m.repr.size) (hk : m.repr.getD sid 0 % 256 = KIND_DENSE)
    (h2 : sid + 2 + cls < m.repr.size) :
    m.found? cls sid = some (foundW (fun i => m.repr.getD i 0) cls sid) := by
  unfold ContigM.found? foundW
  rw [Array.getElem?_eq_some_getD m.repr 0 h0, Array.getElem?_eq_some_getD m.repr 0 h2]
  simp only [hk, beq_self_eq_true, if_true]
  generalize m.repr.getD (sid + 2 + cls) 0 = x
  by_cases hx : (x != FAIL) = true
  · rw [if_pos hx, if_pos hx]
  · rw [if_neg hx, if_neg hx]

theorem found?_one (h0 : sid < m.repr.size) (hk : m.repr.getD sid 0 % 256 = KIND_ONE)
    (h2 : sid + 2 < m.repr.size) :
    m.found? cls sid = some (foundW (fun i => m.repr.getD i 0) cls sid) := by
  unfold ContigM.found? foundW
  rw [Array.getElem?_eq_some_getD m.repr 0 h0, Array.getElem?_eq_some_getD m.repr 0 h2]
  simp only [hk, kind_one_ne_dense, beq_self_eq_true, Bool.false_eq_true, if_true, if_false]
  by_cases hc : (cls == m.repr.getD sid 0 / 256 % 256) = true
  · rw [if_pos hc, if_pos hc]; rfl
  · rw [if_neg hc, if_neg hc]

theorem found?_sparse (hk1 : (m.repr.getD sid 0 % 256 == KIND_DENSE) = false)
    (hk2 : (m.repr.getD sid 0 % 256 == KIND_ONE) = false)
    (hin : sid + 2 + u32Len (m.repr.getD sid 0 % 256) ≤ m.repr.size)
    (hslot : ∀ j, sparseIdx (fun i => m.repr.getD i 0) cls (sid + 2)
        (u32Len (m.repr.getD sid 0 % 256)) = some j →
      sid + 2 + u32Len (m.repr.getD sid 0 % 256) + j < m.repr.size) :
    m.found? cls sid = some (foundW (fun i => m.repr.getD i 0) cls sid) := by
  unfold ContigM.found? foundW
  rw [Array.getElem?_eq_some_getD m.repr 0 (show sid < m.repr.size by omega)]
  simp only [hk1, hk2, Bool.false_eq_true, if_false]
  rw [if_pos hin]
  exact scanGo?_eq m cls (sid + 2) _ _ hin hslot

theorem mapM_all_some {α β : Type} (f : α → Option β) (g : α → β) (l : List α)
    (h : ∀ a ∈ l, f a = some (g a)) : l.mapM f = some (l.map g) := by
  induction l with
  | nil => rfl
  | cons a l ih =>
    rw [List.mapM_cons, h a (by simp), ih (fun x hx => h x (by simp [hx]))]
    rfl

theorem matchList?_eq (h0 : sid < m.repr.size) (hs : m.matchStart sid < m.repr.size)
    (hids : m.repr.getD (m.matchStart sid) 0 < 2147483648 →
      m.matchStart sid + m.repr.getD (m.matchStart sid) 0 < m.repr.size) :
    m.matchList? sid = some (m.matchList sid) := by
  unfold ContigM.matchList? ContigM.matchList
  rw [if_pos (Nat.le_of_lt h0), Array.getElem?_eq_some_getD m.repr 0 h0]
  show (match m.repr[m.matchStart sid]? with
    | none => none
    | some packed =>
      if packed ≥ 2147483648 then some [packed - 2147483648]
      else (List.range packed).mapM fun i => m.repr[m.matchStart sid + 1 + i]?) = _
  rw [Array.getElem?_eq_some_getD m.repr 0 hs]
  show (if m.repr.getD (m.matchStart sid) 0 ≥ 2147483648 then _ else _) =
    some (if m.repr.getD (m.matchStart sid) 0 ≥ 2147483648 then _ else _)
  by_cases hbig : m.repr.getD (m.matchStart sid) 0 ≥ 2147483648
  · rw [if_pos hbig, if_pos hbig]
  · rw [if_neg hbig, if_neg hbig]
    have := hids (by omega)
    generalize m.repr.getD (m.matchStart sid) 0 = n at this
    apply mapM_all_some
    intro i hi
    have := List.mem_range.1 hi
    exact Array.getElem?_eq_some_getD m.repr 0 (by omega)

end

/-! ## a written state inside `repr` -/

section
variable {classOf : UInt8 → Nat} {al : Nat} {newId : Nat → Nat} {st : CState} {fd : Bool}
variable {m : ContigM} {o : Nat}

theorem head_written
    (hin : o + (writeState classOf al st newId fd).length ≤ m.repr.size) :
    o + 1 < m.repr.size := by
  have := writeState_length_ge classOf al st newId fd
  omega

theorem fail?_written
    (hin : o + (writeState classOf al st newId fd).length ≤ m.repr.size) :
    m.repr[o + 1]? = some (m.repr.getD (o + 1) 0) :=
  Array.getElem?_eq_some_getD m.repr 0 (head_written hin)

theorem found?_written (hcls : ∀ b, classOf b < al) (hal : al ≤ 256)
    (hrd : Stored (fun i => m.repr.getD i 0) o (writeState classOf al st newId fd))
    (hin : o + (writeState classOf al st newId fd).length ≤ m.repr.size) (b : UInt8) :
    m.found? (classOf b) o = some (foundW (fun i => m.repr.getD i 0) (classOf b) o) := by
  have h01 := head_written hin
  rcases writeState_cases st fd with hd | ⟨h1, _, b0, t0, h3, h4⟩ | ⟨h1, h2, h3⟩
  · obtain ⟨h0, _, _, hlen⟩ := hrd.dense hd
    have h0 : m.repr.getD o 0 = KIND_DENSE := h0
    have := hcls b
    exact found?_dense (by omega) (by rw [h0]; rfl) (by omega)
  · rw [writeState_one _ _ _ _ _ h1 b0 t0 h3 h4] at hrd hin
    have h0 : m.repr.getD o 0 = KIND_ONE + classOf b0 * 256 := hrd.head
    have : classOf b0 < 256 := Nat.lt_of_lt_of_le (hcls b0) hal
    exact found?_one (by omega) (by rw [h0]; exact (kind_one this).1)
      (by simp only [List.length_cons, List.length_nil] at hin; omega)
  · obtain ⟨h0, hchunk, _, _, hlen⟩ := hrd.sparse h1 h2 h3
    obtain ⟨e0, hk1, hk2⟩ := kind_sparse h2
    have hkind : m.repr.getD o 0 % 256 = st.trans.length := by
      rw [show m.repr.getD o 0 = st.trans.length from h0, e0]
    apply found?_sparse
    · rw [hkind]; exact hk1
    · rw [hkind]; exact hk2
    · rw [hkind]; omega
    · -- the scan stops at one of the `trans_len` real slots
      rw [hkind]
      intro j hj
      rw [sparseIdx_written hcls hal hchunk] at hj
      obtain ⟨hj', _⟩ := List.findIdx?_eq_some_iff_getElem.1 hj
      rw [List.length_map] at hj'
      omega

/-- the match words start with their number, unless there is a single inline id -/
theorem wTail_length (hm : st.matches_ ≠ []) :
    0 < (wTail st).length ∧
      ((wTail st).getD 0 0 < 2147483648 → (wTail st).getD 0 0 + 1 = (wTail st).length) := by
  have he : st.matches_.isEmpty = false := by
    cases h : st.matches_ with
    | nil => exact absurd h hm
    | cons a l => rfl
  rw [wTail_def, he]
  match st.matches_, hm with
  | [pid], _ => exact ⟨Nat.succ_pos _, fun h => absurd h (by simp)⟩
  | a :: c :: l, _ => exact ⟨Nat.succ_pos _, fun _ => rfl⟩

theorem matchList?_written (hm : st.matches_ ≠ [])
    (hal : m.alphabetLen = al)
    (hrd : Stored (fun i => m.repr.getD i 0) o (writeState classOf al st newId fd))
    (hin : o + (writeState classOf al st newId fd).length ≤ m.repr.size) :
    m.matchList? o = some (m.matchList o) := by
  subst hal
  have h01 := head_written hin
  obtain ⟨htail, hlt⟩ := tail_written hm hrd
  rw [← matchStart_eq] at htail hlt
  obtain ⟨hpos, hlen⟩ := wTail_length hm
  have h0 : m.repr.getD (m.matchStart o) 0 = (wTail st).getD 0 0 := htail 0 hpos
  refine matchList?_eq (by omega) (by omega) (fun hsmall => ?_)
  have := hlen (h0 ▸ hsmall)
  omega

end

end AcVerif.L1eP
