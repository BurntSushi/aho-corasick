import AcVerif.Proofs.CompilerBfs
/-!
# The noncontiguous compiler (L1c): `close_start_state_loop_for_leftmost` and the specification
of `compile`

`compile k false P` takes the trie edge `u → u ++ [b]` on the byte `b`, `compile k true P` takes
the edge `u → u ++ [foldByte b]` on `b`.  `NfaSpec f` says what the run time needs to know of the
compiled automaton with `f b` in that place, so that everything downstream of the compiler is
proved once; `compile_specG` establishes it.  `FS` and `FSf` are `NfaSpec id` and
`NfaSpec foldByte` written out.
-/
namespace AcVerif.L1cP
open AcVerif AcVerif.CNfa AcVerif.LmP

/-- everything the run time needs to know about a compiled automaton `N` that reads `b` where the
trie (nodes `L`, kept patterns `Q`) has the edge `f b` -/
structure NfaSpec (f : UInt8 → UInt8) (k : MatchKind) (Q : PatSet UInt8) (L : List (List UInt8))
    (N : CNfa) : Prop extends Nodes Q L N.size where
  goto_in : ∀ u b, (u = [] ∨ u ∈ L) → u ++ [f b] ∈ L → follow N (nu L u) b = nu L (u ++ [f b])
  goto_out : ∀ u b, u ∈ L → u ++ [f b] ∉ L → follow N (nu L u) b = FAIL
  goto_root : ∀ b, [f b] ∉ L → follow N SU b = sidOf L (Ideal.next k Q false (.at []) (f b))
  goto_dead : ∀ b, follow N DEAD b = DEAD
  goto_sa : ∀ b, follow N SA b = if [f b] ∈ L then nu L [f b] else FAIL
  fail : ∀ u, u ∈ L → (N.getD (nu L u) {}).fail = sidOf L (finalFail k Q u)
  mats : ∀ u, (u = [] ∨ u ∈ L) → (N.getD (nu L u) {}).matches_ = Ideal.out k Q (.at u)
  mats_dead : (N.getD DEAD {}).matches_ = []
  mats_sa : (N.getD SA {}).matches_ = Ideal.out k Q (.at [])

namespace NfaSpec
variable {f : UInt8 → UInt8} {k : MatchKind} {Q : PatSet UInt8} {L : List (List UInt8)} {N : CNfa}

/-- the node list has no duplicates, so every state id is `DEAD`, `FAIL`, `SA`, or `nu L u` for
the root or a trie node `u` -/
theorem id_cases (h : NfaSpec f k Q L N) (hnd : L.Nodup) {s : Nat} (hs : s < N.size) :
    s = DEAD ∨ s = FAIL ∨ s = SA ∨ ∃ u, (u = [] ∨ u ∈ L) ∧ s = nu L u := by
  by_cases h4 : 4 ≤ s
  · have hlt : s - 4 < L.length := by rw [h.size] at hs; omega
    have hm : L[s - 4] ∈ L := List.getElem_mem hlt
    refine Or.inr (Or.inr (Or.inr ⟨L[s - 4], Or.inr hm, ?_⟩))
    rw [nu_of_ne (h.ne_nil hm), hnd.idxOf_getElem _ hlt]
    omega
  · have : s = 0 ∨ s = 1 ∨ s = 3 ∨ s = 2 := by omega
    exact this.imp_right (Or.imp_right (Or.imp_right fun e =>
      ⟨[], Or.inl rfl, e.trans (nu_nil L).symm⟩))

theorem isMatch_su_sa (h : NfaSpec f k Q L N) : CNfa.isMatch N SU = CNfa.isMatch N SA := by
  rw [isMatch_eq, isMatch_eq, h.mats_sa]
  exact congrArg (!·.isEmpty) (nu_nil L ▸ h.mats [] (Or.inl rfl))

end NfaSpec

/-- the automaton after `close_start_state_loop_for_leftmost` fired: the self-loops of the
unanchored start state go to `DEAD` -/
def closeSU (n : CNfa) : CNfa :=
  n.modify SU fun st =>
    { st with trans := st.trans.map fun (b, t) => (b, if t == SU then DEAD else t) }

theorem closeStartLoop_eq (k : MatchKind) (n : CNfa) :
    closeStartLoop k n = if (k.isLeftmost && isMatch n SU) = true then closeSU n else n := rfl

theorem getD_closeSU (n : CNfa) (h : SU < n.size) (sid : Nat) :
    (closeSU n).getD sid {} =
      if sid = SU then
        { n.getD SU {} with
          trans := (n.getD SU {}).trans.map fun x => (x.1, if x.2 == SU then DEAD else x.2) }
      else n.getD sid {} :=
  Array.getD_modify_of_lt n h _ _ sid

theorem NfaSpec_of_FI {fold : Bool} {k : MatchKind} {Q : PatSet UInt8} {L : List (List UInt8)} {n0 n : CNfa}
    {pend : List (List UInt8)} (hB : PBg fold Q L n0) (h : FI k Q L n0 n pend)
    (hall : ∀ v, v ∈ L → v ∉ pend) : NfaSpec (foldIf fold) k Q L (closeStartLoop k n) := by
  have hmSU := h.mats_su hB
  have hSUlt : SU < n.size := by rw [h.size, hB.size]; simp [SU]
  have hnode : ∀ u, u ∈ L → nu L u ≠ SU := by
    intro u hu
    have := nu_ge (L := L) (hB.ne_nil hu)
    simp only [SU]; omega
  -- `close_start_state_loop_for_leftmost` redirects the start state's self loops to `DEAD`, if at all
  obtain ⟨hsz, hoth, hmats, hfolSU⟩ : (closeStartLoop k n).size = n.size ∧
      (∀ sid, sid ≠ SU → (closeStartLoop k n).getD sid {} = n.getD sid {}) ∧
      ((closeStartLoop k n).getD SU {}).matches_ = (n.getD SU {}).matches_ ∧
      ∀ b, follow (closeStartLoop k n) SU b =
        if (k.isLeftmost && !(idsOf Q []).isEmpty) = true ∧ follow n SU b = SU then DEAD
        else follow n SU b := by
    rw [closeStartLoop_eq, show isMatch n SU = !(idsOf Q []).isEmpty by rw [isMatch_eq, hmSU]]
    by_cases hcond : (k.isLeftmost && !(idsOf Q []).isEmpty) = true
    · rw [if_pos hcond]
      have hget := getD_closeSU n hSUlt
      refine ⟨by unfold closeSU; rw [Array.size_modify], fun sid hs => by rw [hget, if_neg hs],
        by rw [hget, if_pos rfl], fun b => ?_⟩
      rw [follow_eq, hget, if_pos rfl]
      show lookup ((n.getD SU {}).trans.map fun x => (x.1, if x.2 == SU then DEAD else x.2)) b = _
      rw [lookup_map (fun t => if t == SU then DEAD else t) _ b (Or.inl rfl), ← follow_eq]
      by_cases e : follow n SU b = SU <;> simp [e, hcond]
    · rw [if_neg hcond]
      exact ⟨rfl, fun _ _ => rfl, rfl, fun b => (if_neg (fun hh => hcond hh.1)).symm⟩
  have hfol : ∀ sid b, sid ≠ SU → follow (closeStartLoop k n) sid b = follow n0 sid b := by
    intro sid b hs
    rw [follow_eq, hoth sid hs, ← follow_eq, h.follow_eq0]
  refine
    { size := by rw [hsz, h.size]; exact hB.size, mem := hB.mem, depth := hB.depth,
      goto_in := ?_, goto_out := ?_, goto_root := ?_, goto_dead := ?_, goto_sa := ?_, fail := ?_,
      mats := ?_, mats_dead := ?_, mats_sa := ?_ }
  · rintro u b (rfl | hm) hin
    · have := hB.goto_in [] b (Or.inl rfl) hin
      rw [nu_nil] at this ⊢
      rw [hfolSU, h.follow_eq0, this, if_neg (fun hh => hnode _ hin hh.2)]
    · rw [hfol _ _ (hnode u hm)]; exact hB.goto_in u b (Or.inr hm) hin
  · intro u b hu hout
    rw [hfol _ _ (hnode u hu)]; exact hB.goto_out u b hu hout
  · intro b hout
    have hp : ¬ isPref Q [foldIf fold b] = true := fun hp => hout ((hB.isPref_iff_mem [] _).1 hp)
    rw [hfolSU, h.follow_eq0, hB.goto_root b hout]
    by_cases hcond : (k.isLeftmost && !(idsOf Q []).isEmpty) = true
    · rw [if_pos ⟨hcond, rfl⟩]
      simp only [Bool.and_eq_true, Bool.not_eq_true', List.isEmpty_eq_false_iff] at hcond
      rw [next_root_dead k Q _ hp ((isLeftmost_eq_true k).1 hcond.1) hcond.2]; rfl
    · rw [if_neg (fun hh => hcond hh.1), next_root k Q _ hp]
      · simp [sidOf]
      · by_cases hstd : k = .std
        · exact Or.inl hstd
        · rw [(isLeftmost_eq_true k).2 hstd] at hcond
          exact Or.inr (by simpa using hcond)
  · intro b
    rw [hfol _ _ (by simp [DEAD, SU])]; exact hB.goto_dead b
  · intro b
    rw [hfol _ _ (by simp [SA, SU])]; exact hB.goto_sa b
  · intro u hu
    rw [hoth _ (hnode u hu)]; exact (h.done u hu (hall u hu)).1
  · rintro u (rfl | hm)
    · rw [nu_nil, hmats, hmSU, out_nil]
    · rw [hoth _ (hnode u hm)]; exact (h.done u hm (hall u hm)).2
  · rw [hoth _ (by simp [DEAD, SU])]; exact h.mats_dead hB
  · rw [hoth _ (by simp [SA, SU]), h.keep SA (by simp [SA]), hB.mats_sa, out_nil]

/-- the phases of `compile` before `close_start_state_loop_for_leftmost`, with what they
establish -/
theorem compile_phases (k : MatchKind) (fold : Bool) (P : List (List UInt8)) :
    ∃ L pend, TIg fold (buildTrie k fold P) L (patSet k (P.map (List.map (foldIf fold)))) [] ∧
      FI k (patSet k (P.map (List.map (foldIf fold)))) L (startPhase (buildTrie k fold P))
        (fillFailure k fold (startPhase (buildTrie k fold P))) pend ∧
      ∀ v, v ∈ L → v ∉ pend := by
  obtain ⟨L, hT⟩ := buildTrie_specG k fold P
  obtain ⟨pend, hF, hall⟩ := fillFailure_specG (k := k) (PBg_startPhase hT)
  exact ⟨L, pend, hT, hF, hall⟩

/-- `NfaSpec` is what `FS` / `FSf` (the statements of `Theorems/L1c*.lean`) say; clients that need more of
`compile_phases` keep it beside `NfaSpec`: `L1eP.compile_specX` (`Proofs/ContigSpec.lean`: sorted and full
transition lists `FX`, `L.Nodup`), `BuildP.compile_specG'` (`Proofs/BuildCheckedMatches.lean`: `L.Nodup`,
the state `FAIL` has no matches) -/
theorem compile_specG (k : MatchKind) (fold : Bool) (P : List (List UInt8)) :
    ∃ L, NfaSpec (foldIf fold) k (patSet k (P.map (List.map (foldIf fold)))) L
      (compile k fold P) := by
  obtain ⟨L, pend, hT, hF, hall⟩ := compile_phases k fold P
  exact ⟨L, NfaSpec_of_FI (PBg_startPhase hT) hF hall⟩

/-! ## the two settings of `fold`, written out: `FS` is `NfaSpec id`, `FSf` is `NfaSpec foldByte` -/

structure FS (k : MatchKind) (Q : PatSet UInt8) (L : List (List UInt8)) (N : CNfa) : Prop where
  size : N.size = L.length + 4
  mem : ∀ v, v ∈ L ↔ v ≠ [] ∧ isPref Q v = true
  depth : ∀ u, u ∈ L → u.length + 3 ≤ nu L u
  goto_in : ∀ u b, (u = [] ∨ u ∈ L) → u ++ [b] ∈ L → follow N (nu L u) b = nu L (u ++ [b])
  goto_out : ∀ u b, u ∈ L → u ++ [b] ∉ L → follow N (nu L u) b = FAIL
  goto_root : ∀ b, [b] ∉ L → follow N SU b = sidOf L (Ideal.next k Q false (.at []) b)
  goto_dead : ∀ b, follow N DEAD b = DEAD
  goto_sa : ∀ b, follow N SA b = if [b] ∈ L then nu L [b] else FAIL
  fail : ∀ u, u ∈ L → (N.getD (nu L u) {}).fail = sidOf L (finalFail k Q u)
  mats : ∀ u, (u = [] ∨ u ∈ L) → (N.getD (nu L u) {}).matches_ = Ideal.out k Q (.at u)
  mats_dead : (N.getD DEAD {}).matches_ = []
  mats_sa : (N.getD SA {}).matches_ = Ideal.out k Q (.at [])

section
variable {k : MatchKind} {Q : PatSet UInt8} {L : List (List UInt8)} {N : CNfa}

theorem FS.toSpec (h : FS k Q L N) : NfaSpec id k Q L N := { h with }

theorem NfaSpec.toFS (h : NfaSpec id k Q L N) : FS k Q L N := { h with }

end

end AcVerif.L1cP

namespace AcVerif.L1cFoldP
open AcVerif AcVerif.CNfa AcVerif.L1cP

/-- `L` lists the folded strings of the trie nodes, `Q` are the kept folded patterns -/
structure FSf (k : MatchKind) (Q : PatSet UInt8) (L : List (List UInt8)) (N : CNfa) : Prop where
  size : N.size = L.length + 4
  mem : ∀ v, v ∈ L ↔ v ≠ [] ∧ isPref Q v = true
  depth : ∀ u, u ∈ L → u.length + 3 ≤ nu L u
  goto_in : ∀ u b, (u = [] ∨ u ∈ L) → u ++ [foldByte b] ∈ L →
    follow N (nu L u) b = nu L (u ++ [foldByte b])
  goto_out : ∀ u b, u ∈ L → u ++ [foldByte b] ∉ L → follow N (nu L u) b = FAIL
  goto_root : ∀ b, [foldByte b] ∉ L →
    follow N SU b = sidOf L (Ideal.next k Q false (.at []) (foldByte b))
  goto_dead : ∀ b, follow N DEAD b = DEAD
  goto_sa : ∀ b, follow N SA b = if [foldByte b] ∈ L then nu L [foldByte b] else FAIL
  fail : ∀ u, u ∈ L → (N.getD (nu L u) {}).fail = sidOf L (finalFail k Q u)
  mats : ∀ u, (u = [] ∨ u ∈ L) → (N.getD (nu L u) {}).matches_ = Ideal.out k Q (.at u)
  mats_dead : (N.getD DEAD {}).matches_ = []
  mats_sa : (N.getD SA {}).matches_ = Ideal.out k Q (.at [])

theorem _root_.AcVerif.L1cP.NfaSpec.toFSf {k : MatchKind} {Q : PatSet UInt8}
    {L : List (List UInt8)} {N : CNfa} (h : NfaSpec foldByte k Q L N) : FSf k Q L N :=
  { h with }

end AcVerif.L1cFoldP
