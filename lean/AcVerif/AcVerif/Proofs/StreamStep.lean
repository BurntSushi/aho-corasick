import AcVerif.Proofs.StreamInv
/-!
# Stream search: the state invariant of `StreamChunkIter`, kept by one `next` / `nextT` call

`Inv` says: the reader has delivered `data[0..pos)`, never been called with an empty buffer, and
the buffer holds the last `len` bytes delivered; `absPos = pos - len + bufPos` and
`reported ≤ bufPos ≤ len`; the automaton state is where the scan restarted at the end `r` of the
last emitted match stands after `data[r..absPos)`, not having passed a match state; nothing beyond
the start of the next match has been reported.  It does not mention the reader's call counter, so
it is also the invariant of the resumable iterator: a failing `nextT` call has done the roll and
kept the bytes the earlier `read` calls of the same `fill` delivered, as a successful call does.

Main lemmas: `next_post` and `nextT_post` (one call, from `Inv` to `Post`), both instances of
`body_post` for the shared loop body `nextBody`; `need` is the fuel measure.
-/
namespace AcVerif.StreamP
open AcVerif
variable {σ α : Type}

/-- stream position of the first byte in the buffer -/
def base (it : ChunkIter σ α) : Nat := it.rdr.pos - it.buf.buf.length

/-- stream position up to which bytes have been emitted in chunks -/
def off (it : ChunkIter σ α) : Nat := base it + it.reported

/-- the invariant of `StreamChunkIter`; `r` (ghost) is the end of the last emitted match -/
structure Inv (A : Aut σ α) (st0 : σ) (data : List α) (sched : List Nat) (fa : Option Nat)
    (Lm C : Nat) (r : Nat) (it : ChunkIter σ α) : Prop where
  rinv : RInv data sched fa it.rdr
  binv : BInv data Lm C it.buf it.rdr.pos
  start : it.start = st0
  bp : it.bufPos ≤ it.buf.buf.length
  rep : it.reported ≤ it.bufPos
  abs : it.absPos = base it + it.bufPos
  scan : ScanAt A st0 data r it.absPos it.sid
  sem : ∀ m, firstMatch A st0 data r = some m → off it ≤ m.start

/-- what a `next` / `nextT` call returns from a state satisfying the invariant, `o` being the
emitted-so-far position before the call.  An error leaves a state satisfying the invariant at
the same position; `done` is returned with the whole stream scanned. -/
def Post (A : Aut σ α) (st0 : σ) (data : List α) (sched : List Nat) (fa : Option Nat)
    (Lm C : Nat) (r o : Nat) : NextResult σ α × ChunkIter σ α → Prop
  | (.done, it') =>
    it'.rdr.emptyReads = 0 ∧ it'.absPos = data.length ∧ o = data.length ∧
      firstMatch A st0 data r = none
  | (.ioErr, it') => Inv A st0 data sched fa Lm C r it' ∧ off it' = o ∧ fa ≠ none
  | (.chunk (.nonMatch b), it') =>
    Inv A st0 data sched fa Lm C r it' ∧ o < off it' ∧ b = slice data o (off it')
  | (.chunk (.mtch b m), it') =>
    Inv A st0 data sched fa Lm C m.stop it' ∧ firstMatch A st0 data r = some m ∧
      m.start = o ∧ off it' = m.stop ∧ b = slice data m.start m.stop

section
variable {A : Aut σ α} {st0 : σ} {data : List α} {sched : List Nat} {fa : Option Nat}
  {Lm C : Nat} {r : Nat} {it : ChunkIter σ α}

theorem Inv.base_add (h : Inv A st0 data sched fa Lm C r it) :
    base it + it.buf.buf.length = it.rdr.pos :=
  Nat.sub_add_cancel h.binv.2.2.1

theorem Inv.off_le (h : Inv A st0 data sched fa Lm C r it) :
    off it ≤ data.length := by
  have h1 := h.rinv.2.2.2.2
  have h2 := h.base_add
  have h3 := h.bp
  have h4 := h.rep
  unfold off; omega

theorem Inv.r_le (h : Inv A st0 data sched fa Lm C r it) :
    r ≤ data.length :=
  Nat.le_trans h.scan.1 h.scan.2.1

theorem Inv.slice_eq (h : Inv A st0 data sched fa Lm C r it)
    (y x : Nat) (hx : x ≤ it.buf.buf.length) :
    slice it.buf.buf y x = slice data (base it + y) (base it + x) :=
  h.binv.slice_eq y x hx

theorem nonMatch_post (h : Inv A st0 data sched fa Lm C r it)
    {rep' : Nat} (h1 : it.reported < rep') (h2 : rep' ≤ it.bufPos)
    (h3 : ∀ m, firstMatch A st0 data r = some m → base it + rep' ≤ m.start) :
    Post A st0 data sched fa Lm C r (off it)
      (.chunk (.nonMatch (slice it.buf.buf it.reported rep')), { it with reported := rep' }) :=
  ⟨⟨h.rinv, h.binv, h.start, h.bp, h2, h.abs, h.scan, h3⟩,
    Nat.add_lt_add_left h1 _, h.slice_eq _ _ (Nat.le_trans h2 h.bp)⟩

theorem matchStep_post (H : Hyp A st0 data sched Lm C)
    (h : Inv A st0 data sched fa Lm C r it) (hm : A.isMatch it.sid = true) :
    Post A st0 data sched fa Lm C r (off it) (matchStep A it) := by
  have hF := h.scan.firstMatch_of_match hm
  obtain ⟨f1, f2, f3⟩ := H.fok r _ h.r_le hF
  have hsem : base it + it.reported ≤ _ := h.sem _ hF
  have hstop : (getMatch A it.sid 0 it.absPos).stop = it.absPos := rfl
  have habs := h.abs
  have hbp := h.bp
  have hrep := h.rep
  simp only [matchStep]
  generalize getMatch A it.sid 0 it.absPos = mat at hF f1 f2 f3 hsem hstop ⊢
  split
  · rename_i hgt
    rw [Nat.add_sub_cancel' (Nat.le_of_lt hgt)]
    refine nonMatch_post h hgt (Nat.sub_le _ _) fun m hm' => ?_
    rw [hF] at hm'; cases hm'
    omega
  · rename_i hgt
    -- everything up to the match has been reported: the match chunk is `buf[reported..bufPos)`
    have e1 : it.bufPos - (mat.stop - mat.start) = it.reported := by omega
    rw [e1, Nat.add_sub_cancel' hrep]
    have e3 : base it + it.bufPos = mat.stop := by omega
    refine ⟨⟨h.rinv, h.binv, h.start, h.bp, Nat.le_refl _, h.abs, ?_, ?_⟩, hF, ?_, e3, ?_⟩
    · show ScanAt A st0 data mat.stop it.absPos it.start
      rw [hstop, h.start]
      exact ScanAt.init A H.m0 data h.scan.2.1
    · intro m hm'
      show base it + it.bufPos ≤ m.start
      rw [e3]
      exact (H.fok mat.stop m (hstop ▸ h.scan.2.1) hm').1
    · unfold off; omega
    · show slice it.buf.buf it.reported it.bufPos = slice data mat.start mat.stop
      rw [h.slice_eq _ _ hbp, e3]
      congr 1; omega

theorem preRollStep_post (H : Hyp A st0 data sched Lm C)
    (h : Inv A st0 data sched fa Lm C r it) (hm : A.isMatch it.sid = false)
    (hge : it.bufPos ≥ it.buf.buf.length)
    (hlt : it.reported < it.buf.buf.length - it.buf.min) :
    Post A st0 data sched fa Lm C r (off it) (preRollStep it) := by
  have hmin := h.binv.1
  show Post A st0 data sched fa Lm C r (off it)
    (.chunk (.nonMatch (slice it.buf.buf it.reported (it.buf.buf.length - it.buf.min))),
      { it with reported := it.reported + (it.buf.buf.length - it.buf.min - it.reported) })
  rw [Nat.add_sub_cancel' (Nat.le_of_lt hlt)]
  refine nonMatch_post h hlt (Nat.le_trans (Nat.sub_le _ _) hge) fun m hm' => ?_
  have h1 := firstMatch_stop_gt hm ((h.scan.firstMatch_of_not hm).symm.trans hm')
  have h2 := H.fok r m h.r_le hm'
  have habs := h.abs
  omega

theorem Inv.rebase {it' : ChunkIter σ α} (h : Inv A st0 data sched fa Lm C r it)
    (hr : RInv data sched fa it'.rdr) (hb : BInv data Lm C it'.buf it'.rdr.pos)
    (hst : it'.start = it.start) (hsid : it'.sid = it.sid) (habs : it'.absPos = it.absPos)
    (hbp : it'.bufPos ≤ it'.buf.buf.length)
    (h1 : base it' + it'.bufPos = base it + it.bufPos) (h2 : off it' = off it) :
    Inv A st0 data sched fa Lm C r it' ∧ off it' = off it := by
  have hrep := h.rep
  have h2' : base it' + it'.reported = base it + it.reported := h2
  exact ⟨⟨hr, hb, hst.trans h.start, hbp, by omega, by rw [habs, h1]; exact h.abs,
    hsid ▸ habs ▸ h.scan, fun m hm => h2 ▸ h.sem m hm⟩, h2⟩

theorem rollStep_inv (H : Hyp A st0 data sched Lm C)
    (h : Inv A st0 data sched fa Lm C r it)
    (hge : it.bufPos ≥ it.buf.buf.length)
    (hlt : ¬ it.reported < it.buf.buf.length - it.buf.min) :
    Inv A st0 data sched fa Lm C r (rollStep it) ∧ off (rollStep it) = off it ∧
      (rollStep it).buf.buf.length ≤ Lm ∧
      (rollStep it).bufPos = (rollStep it).buf.buf.length ∧
      (rollStep it).sid = it.sid ∧ (rollStep it).rdr = it.rdr := by
  have hbp := h.bp
  have hmin := h.binv.1
  unfold rollStep
  split
  · rename_i hroll
    obtain ⟨hb', hl⟩ := h.binv.roll hroll
    -- the buffer's first byte moves up by `len - min`
    have hbase : it.rdr.pos - it.buf.roll.buf.length =
        base it + (it.buf.buf.length - it.buf.min) := by
      have := h.base_add; omega
    have := h.rebase
      (it' := { it with bufPos := it.buf.min,
                        reported := it.reported - (it.buf.buf.length - it.buf.min),
                        buf := it.buf.roll })
      h.rinv hb' rfl rfl rfl (Nat.le_of_eq hl.symm)
      (by show it.rdr.pos - it.buf.roll.buf.length + it.buf.min = _; omega)
      (by show it.rdr.pos - it.buf.roll.buf.length +
            (it.reported - (it.buf.buf.length - it.buf.min)) = base it + it.reported; omega)
    exact ⟨this.1, this.2, by show it.buf.roll.buf.length ≤ Lm; omega, hl.symm, rfl, rfl⟩
  · have := H.lm1
    exact ⟨h, rfl, by omega, by omega, rfl, rfl⟩

theorem fill_inv (h : Inv A st0 data sched fa Lm C r it) (hpl : it.bufPos = it.buf.buf.length)
    {b' : Buffer α} {rd' : Reader α} (g : Grown data sched fa Lm C it.buf it.rdr b' rd') :
    Inv A st0 data sched fa Lm C r { it with buf := b', rdr := rd' } ∧
      off { it with buf := b', rdr := rd' } = off it := by
  obtain ⟨hr', hb', hbase, hpos⟩ := g
  have hlen := h.binv.2.2.1
  have hlen' := hb'.2.2.1
  have hbase' : base { it with buf := b', rdr := rd' } = base it := hbase
  exact h.rebase (it' := { it with buf := b', rdr := rd' }) hr' hb' rfl rfl rfl
    (by show it.bufPos ≤ b'.buf.length; omega) (congrArg (· + it.bufPos) hbase')
    (congrArg (· + it.reported) hbase')

theorem eofStep_post (h : Inv A st0 data sched fa Lm C r it) (hm : A.isMatch it.sid = false)
    (hpl : it.bufPos = it.buf.buf.length) (hN : it.rdr.pos = data.length) :
    Post A st0 data sched fa Lm C r (off it) (eofStep it) := by
  have habs := h.abs
  have hrep := h.rep
  have hbase := h.base_add
  have hp : it.absPos = data.length := by omega
  have hnone : firstMatch A st0 data r = none := (hp ▸ h.scan).firstMatch_none hm
  unfold eofStep
  split
  · rename_i hlt
    rw [← slice_to_length]
    exact nonMatch_post h hlt (Nat.le_of_eq hpl.symm) fun m hm' => by rw [hnone] at hm'; cases hm'
  · exact ⟨h.rinv.2.2.2.1, hp, by unfold off; omega, hnone⟩

theorem scanStep_inv (h : Inv A st0 data sched fa Lm C r it) (hm : A.isMatch it.sid = false) :
    Inv A st0 data sched fa Lm C r (scanStep A it) ∧ off (scanStep A it) = off it ∧
      (A.isMatch (scanStep A it).sid = true ∨
        (scanStep A it).bufPos = (scanStep A it).buf.buf.length) := by
  have habs := h.abs
  have hbp := h.bp
  have hrep := h.rep
  have hbase := h.base_add
  have hN := h.rinv.2.2.2.2
  have hd : it.buf.buf.drop it.bufPos = slice data it.absPos it.rdr.pos := by
    rw [h.binv.drop_eq, habs]; rfl
  have hle := scan_le A it.sid (it.buf.buf.drop it.bufPos)
  have hdl : (it.buf.buf.drop it.bufPos).length = it.buf.buf.length - it.bufPos := by
    simp only [List.length_drop]
  have hext := h.scan.extend hm (n := it.rdr.pos) (by omega) hN
  rw [← hd] at hext
  refine ⟨⟨h.rinv, h.binv, h.start, ?_, ?_, ?_, hext, h.sem⟩, rfl, ?_⟩
  · show it.bufPos + (scanBytes A it.sid 0 (it.buf.buf.drop it.bufPos)).2 ≤ it.buf.buf.length
    omega
  · show it.reported ≤ it.bufPos + (scanBytes A it.sid 0 (it.buf.buf.drop it.bufPos)).2
    omega
  · show it.absPos + (scanBytes A it.sid 0 (it.buf.buf.drop it.bufPos)).2 =
      base it + (it.bufPos + (scanBytes A it.sid 0 (it.buf.buf.drop it.bufPos)).2)
    omega
  · cases hq : A.isMatch (scanBytes A it.sid 0 (it.buf.buf.drop it.bufPos)).1 with
    | true => left; exact hq
    | false =>
      right
      have := scan_end A it.sid _ hq
      show it.bufPos + (scanBytes A it.sid 0 (it.buf.buf.drop it.bufPos)).2 = it.buf.buf.length
      omega

/-- fuel that suffices for one `next` call -/
def need (A : Aut σ α) (data : List α) (it : ChunkIter σ α) : Nat :=
  if A.isMatch it.sid then 1
  else data.length - it.rdr.pos + 2 + (if it.bufPos < it.buf.buf.length then 1 else 0)

theorem need_pos (A : Aut σ α) (data : List α) (it : ChunkIter σ α) : 0 < need A data it := by
  unfold need
  split <;> omega

theorem need_scanStep (h : Inv A st0 data sched fa Lm C r it) (hm : A.isMatch it.sid = false) :
    need A data (scanStep A it) ≤ data.length - it.rdr.pos + 2 := by
  unfold need
  split
  · omega
  · rename_i hnm
    rcases (scanStep_inv h hm).2.2 with hc | hc
    · exact absurd hc hnm
    · rw [if_neg (by omega)]; exact Nat.le_refl _

/-- what the loop needs of the `fill` it calls and of what it keeps after an error -/
def FillOK {ε : Type} (data : List α) (sched : List Nat) (fa : Option Nat) (Lm C : Nat)
    (fl : Buffer α → Reader α → Nat → Except ε (Bool × Buffer α × Reader α))
    (err : Buffer α → Reader α → ε → Buffer α × Reader α) : Prop :=
  ∀ b rd, RInv data sched fa rd → BInv data Lm C b rd.pos → b.buf.length ≤ Lm →
    FillPost data sched fa Lm C b rd false
      (match fl b rd (rd.data.length - rd.pos + 1) with
        | .error e => .error (err b rd e)
        | .ok x => .ok x)

theorem fillT_ok (hs : ∀ x ∈ sched, 1 ≤ x) (hC : Lm < C) :
    FillOK (α := α) data sched fa Lm C (fun b rd n => b.fillT rd false n) (fun _ _ e => e) := by
  intro b rd hr hb hl
  have := fillT_spec hs hC (rd.data.length - rd.pos + 1) b rd false hr hb hl
    (by rw [hr.1]; exact Nat.le_refl _)
  dsimp only
  cases hf : b.fillT rd false (rd.data.length - rd.pos + 1) <;> rw [hf] at this <;> exact this

/-- `next` keeps the rolled iterator when `fill` fails -/
theorem fill_ok (hs : ∀ x ∈ sched, 1 ≤ x) (hC : Lm < C) :
    FillOK (α := α) data sched fa Lm C (fun b rd n => b.fill rd false n)
      (fun b rd _ => (b, rd)) := by
  intro b rd hr hb hl
  have := fillT_ok (fa := fa) hs hC b rd hr hb hl
  dsimp only at this ⊢
  rw [fill_eq_fillT]
  cases hf : b.fillT rd false (rd.data.length - rd.pos + 1) with
  | error e =>
    rw [hf] at this
    exact ⟨⟨hr, hb, rfl, Nat.le_refl _⟩, this.2⟩
  | ok x =>
    rw [hf] at this
    exact this

/-- one round of the loop, the rest of the loop (`k`) being called on states that satisfy the
invariant, have emitted nothing more, and need less fuel -/
theorem body_post (H : Hyp A st0 data sched Lm C) {ε : Type}
    {fl : Buffer α → Reader α → Nat → Except ε (Bool × Buffer α × Reader α)}
    {err : Buffer α → Reader α → ε → Buffer α × Reader α} (hfl : FillOK data sched fa Lm C fl err)
    {k : ChunkIter σ α → NextResult σ α × ChunkIter σ α}
    (h : Inv A st0 data sched fa Lm C r it)
    (hk : ∀ it', Inv A st0 data sched fa Lm C r it' → off it' = off it →
      need A data it' < need A data it → Post A st0 data sched fa Lm C r (off it) (k it')) :
    Post A st0 data sched fa Lm C r (off it) (nextBody A fl err k it) := by
  unfold nextBody
  cases hm : A.isMatch it.sid with
  | true =>
    rw [if_pos rfl]
    exact matchStep_post H h hm
  | false =>
    rw [if_neg Bool.false_ne_true]
    have hN := h.rinv.2.2.2.2
    have hneed : need A data it =
        data.length - it.rdr.pos + 2 + (if it.bufPos < it.buf.buf.length then 1 else 0) := by
      rw [need, hm, if_neg Bool.false_ne_true]
    have hscan : ∀ it', Inv A st0 data sched fa Lm C r it' → A.isMatch it'.sid = false →
        off it' = off it → data.length - it'.rdr.pos + 2 < need A data it →
        Post A st0 data sched fa Lm C r (off it) (k (scanStep A it')) := by
      intro it' hI hm' ho hn
      obtain ⟨hI2, ho2, _⟩ := scanStep_inv hI hm'
      exact hk _ hI2 (ho2.trans ho) (Nat.lt_of_le_of_lt (need_scanStep hI hm') hn)
    by_cases hge : it.bufPos ≥ it.buf.buf.length
    · rw [if_pos hge]
      by_cases hlt : it.reported < it.buf.buf.length - it.buf.min
      · rw [if_pos hlt]
        exact preRollStep_post H h hm hge hlt
      · rw [if_neg hlt]
        obtain ⟨hI, hoff, hl, hpl, hsid, hrdr⟩ := rollStep_inv H h hge hlt
        have hf := hfl _ _ hI.rinv hI.binv hl
        generalize fl (rollStep it).buf (rollStep it).rdr _ = fres at hf ⊢
        match fres, hf with
        | .error e, ⟨g, hfa⟩ =>
          obtain ⟨hI', hoff'⟩ := fill_inv hI hpl g
          exact ⟨hI', hoff'.trans hoff, hfa⟩
        | .ok (false, b', rd'), ⟨g, g5, _⟩ =>
          obtain ⟨hI', hoff'⟩ := fill_inv hI hpl g
          have := eofStep_post hI' (hsid ▸ hm) ((g5 rfl).2.1 ▸ hpl) (g5 rfl).2.2
          rw [hoff', hoff] at this
          exact this
        | .ok (true, b', rd'), ⟨g, _, g6⟩ =>
          obtain ⟨hI', hoff'⟩ := fill_inv hI hpl g
          have g7 : it.rdr.pos < rd'.pos := hrdr ▸ (g6 rfl).resolve_left (fun h => nomatch h)
          have hN' := g.1.2.2.2.2
          refine hscan _ hI' (hsid ▸ hm) (hoff'.trans hoff) ?_
          show data.length - rd'.pos + 2 < need A data it
          rw [hneed]; omega
    · rw [if_neg hge]
      exact hscan it h hm rfl (by rw [hneed, if_pos (by omega)]; omega)

theorem next_post (H : Hyp A st0 data sched Lm C) (fuel : Nat) (it : ChunkIter σ α) (r : Nat)
    (h : Inv A st0 data sched fa Lm C r it) (hf : need A data it ≤ fuel) :
    Post A st0 data sched fa Lm C r (off it) (ChunkIter.next A it fuel) := by
  induction fuel generalizing it with
  | zero => exact absurd hf (Nat.not_le.2 (need_pos A data it))
  | succ fuel ih =>
    rw [next_succ]
    exact body_post H (fill_ok H.sch H.lmC) h fun it' hI ho hn => ho ▸ ih it' hI (by omega)

theorem nextT_post (H : Hyp A st0 data sched Lm C) (fuel : Nat) (it : ChunkIter σ α) (r : Nat)
    (h : Inv A st0 data sched fa Lm C r it) (hf : need A data it ≤ fuel) :
    Post A st0 data sched fa Lm C r (off it) (ChunkIter.nextT A it fuel) := by
  induction fuel generalizing it with
  | zero => exact absurd hf (Nat.not_le.2 (need_pos A data it))
  | succ fuel ih =>
    rw [nextT_succ]
    exact body_post H (fillT_ok H.sch H.lmC) h fun it' hI ho hn => ho ▸ ih it' hI (by omega)

end

end AcVerif.StreamP
