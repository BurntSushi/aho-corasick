import AcVerif.Proofs.LmBasic
import AcVerif.Proofs.SpanSpec
/-!
# Occurrences in the span of a haystack = occurrences in the text of the span

The search loops consume the text `(hay.take e).drop s` symbol by symbol, so what they find
is naturally stated about that text, with offsets relative to its beginning (`OccIn`).  The
specification speaks of the haystack and absolute offsets.  `IsOccQ`, `AdmQ` are the
specification's occurrences and admissible occurrences for a pattern set `Q` of (pattern, id)
pairs rather than a pattern list, `matOf` turns a relative occurrence into the reported match, and `admQ_iff` is
the one bridge between the two views; the standard and the leftmost developments both cross it.
`admQ_enum_iff`: for `Q = enumPats P` these are the specification's `IsOccA`.
-/
namespace AcVerif.LmP
open AcVerif
set_option linter.unusedSectionVars false
variable {α : Type} [DecidableEq α]

def matOf (s : Nat) (q : List α × Nat) (st : Nat) : Mat :=
  ⟨q.2, s + st, s + st + q.1.length⟩

def IsOccQ (Q : PatSet α) (hay : List α) (s e : Nat) (m : Mat) : Prop :=
  ∃ q ∈ Q, q.2 = m.pid ∧ s ≤ m.start ∧ m.stop = m.start + q.1.length ∧ m.stop ≤ e ∧
    q.1 <+: hay.drop m.start

def AdmQ (Q : PatSet α) (hay : List α) (s e : Nat) (anch : Bool) (m : Mat) : Prop :=
  IsOccQ Q hay s e m ∧ (anch = true → m.start = s)

theorem admQ_iff {Q : PatSet α} {hay : List α} {s e : Nat} (he : e ≤ hay.length) (hse : s ≤ e)
    {anch : Bool} {m : Mat} :
    AdmQ Q hay s e anch m ↔
      ∃ q st, OccIn Q ((hay.take e).drop s) q st ∧ (anch = true → st = 0) ∧ m = matOf s q st := by
  constructor
  · rintro ⟨⟨q, hq, hpid, hs, hstop, hle, hp⟩, ha⟩
    obtain ⟨st, hst⟩ := Nat.exists_eq_add_of_le hs
    obtain ⟨pid, start, stop⟩ := m
    simp only at hpid hst hstop hle hp ha
    subst hpid hst hstop
    refine ⟨q, st, ⟨hq, ?_, ?_⟩, fun h => Nat.add_left_cancel (ha h : s + st = s + 0), rfl⟩
    · rw [List.length_drop_take he]; omega
    · rw [List.drop_drop, EngP.prefix_drop_take_iff _ _ _ _ hle]; exact hp
  · rintro ⟨q, st, ho, ha, rfl⟩
    have hl := ho.len_le
    rw [List.length_drop_take he] at hl
    have hle : s + st + q.1.length ≤ e := by omega
    refine ⟨⟨q, ho.1, rfl, Nat.le_add_right _ _, rfl, hle, ?_⟩, fun h => by rw [matOf, ha h]; rfl⟩
    have hp := ho.2.2
    rwa [List.drop_drop, EngP.prefix_drop_take_iff _ _ _ _ hle] at hp

theorem admQ_enum_iff {P : List (List α)} {hay : List α} {s e : Nat} {anch : Bool} {m : Mat} :
    AdmQ (enumPats P) hay s e anch m ↔ IsOccA P hay s e anch m := by
  refine and_congr_left fun _ => ⟨?_, ?_⟩
  · rintro ⟨q, hq, hpid, h⟩
    exact ⟨q.1, hpid ▸ mem_enumPats.1 hq, h⟩
  · rintro ⟨p, hp, h⟩
    exact ⟨(p, m.pid), mem_enumPats.2 hp, rfl, h⟩

end AcVerif.LmP
