import AcVerif.Proofs.ShuffleFlags
import AcVerif.Proofs.ShufflePerm
import AcVerif.Proofs.DfaOne
import AcVerif.Proofs.AlphabetClasses
import AcVerif.Proofs.DfaIxSim
/-!
# Premultiplied DFA ids: the stored tables, what an id map must satisfy (`Sim`), what follows

Namespace `L1dIdsP` holds the proofs about the DFA as it is stored, `buildDfaIds` of
`AcVerif/DfaIds.lean` (premultiplied ids, flags by id range).

`Sim … D anch g`: `g` maps the live NFA states of the anchoring mode `anch` to DFA ids such that
the table lookup commutes with `next_state`, ids are premultiplied indices `< state_len`, the
id-range flags are the NFA flags, and the match list read through `(sid >> stride2) - 2` is the
NFA's.  From this: the run of the stored DFA is the image of the NFA run (`Sim.renames`),
observations agree (`Sim.obsEquiv`), all reads are in bounds (`Sim.inbounds`), and the `is_special`
contract holds at every reachable state (`Sim.special_contract`).  `IxSim.toSim` is how both
builders establish `Sim`: from the simulation at the row indices (`IxSim`, `DfaIxSim`) with
`W = 2 ^ stride2`, and a `RangeId` (`ShuffleFlags`) for the id map.
-/
namespace AcVerif.L1dIdsP
open AcVerif AcVerif.CNfa AcVerif.L1cP AcVerif.L1dP AcVerif.L1eP

/-! ## `stride2` -/

def s2Of (N : CNfa) (bc : Bool) : Nat := stride2Of (ncOf N bc)

def strideOf (N : CNfa) (bc : Bool) : Nat := 2 ^ s2Of N bc

theorem nc_le_stride (N : CNfa) (bc : Bool) : ncOf N bc ≤ strideOf N bc :=
  (AlphaP.stride2Of_spec (ncOf_le N bc)).1

theorem cls_lt_stride (N : CNfa) (bc : Bool) (b : UInt8) : clsOf N bc b < strideOf N bc :=
  Nat.lt_of_lt_of_le ((classOK_clsOf N bc).lt b) (nc_le_stride N bc)

theorem shl_eq (i : Nat) (N : CNfa) (bc : Bool) : i <<< s2Of N bc = i * strideOf N bc :=
  Nat.shiftLeft_eq _ _

theorem shr_mul (i s2 : Nat) : (i * 2 ^ s2) >>> s2 = i := by
  rw [Nat.shiftRight_eq_div_pow]
  exact Nat.mul_div_cancel _ (Nat.two_pow_pos _)

theorem mul_pow_le_iff (a b s2 : Nat) : a * 2 ^ s2 ≤ b * 2 ^ s2 ↔ a ≤ b :=
  Nat.mul_le_mul_right_iff (Nat.two_pow_pos _)

theorem mul_pow_eq_zero_iff (a s2 : Nat) : a * 2 ^ s2 = 0 ↔ a = 0 := by
  have := Nat.two_pow_pos s2
  rw [Nat.mul_eq_zero]
  omega

theorem mul_pow_inj_iff (a b s2 : Nat) : a * 2 ^ s2 = b * 2 ^ s2 ↔ a = b :=
  Nat.mul_left_inj (Nat.ne_of_gt (Nat.two_pow_pos _))

/-! ## the flat table and the match table -/

theorem flatTable_size (rows : Array (Array Nat)) (sl s2 : Nat) :
    (flatTable rows sl s2).size = sl * 2 ^ s2 := by
  simp [flatTable, Nat.shiftLeft_eq]

theorem flatTable_lt (sl s2 : Nat) {i c : Nat} (hi : i < sl) (hc : c < 2 ^ s2) :
    i * 2 ^ s2 + c < sl * 2 ^ s2 := by
  have : (i + 1) * 2 ^ s2 ≤ sl * 2 ^ s2 := Nat.mul_le_mul_right _ hi
  rw [Nat.add_mul, Nat.one_mul] at this
  omega

theorem flatTable_getD (rows : Array (Array Nat)) (sl s2 : Nat) {i c : Nat} (hi : i < sl)
    (hc : c < 2 ^ s2) :
    (flatTable rows sl s2).getD (i * 2 ^ s2 + c) 0 = (rows.getD i #[]).getD c 0 := by
  unfold flatTable
  rw [Nat.one_shiftLeft, Nat.shiftLeft_eq, Array.getD_map_range _ _ _ _ (flatTable_lt sl s2 hi hc),
    Nat.mul_comm i, Nat.mul_add_div (Nat.two_pow_pos _), Nat.mul_add_mod, Nat.div_eq_of_lt hc,
    Nat.mod_eq_of_lt hc, Nat.add_zero]

theorem matchTable_size (ms : Array (List Nat)) (num : Nat) : (matchTable ms num).size = num := by
  simp [matchTable]

theorem matchTable_getD (ms : Array (List Nat)) (num : Nat) {j : Nat} (h : j < num) :
    (matchTable ms num).getD j [] = ms.getD (j + 2) [] := by
  unfold matchTable
  rw [Array.getD_map_range _ _ _ _ h]

structure Sim (N : CNfa) (L : List (List UInt8)) (hasPre : Bool) (D : DfaI) (anch : Bool)
    (g : Nat → Nat) : Prop where
  step : ∀ s, LvA L anch s → ∀ b, D.next (g s) b = g (nextState N anch (N.size + 1) s b 0).1
  idx : ∀ s, LvA L anch s → ∃ i, i < D.stateLen ∧ g s = i * 2 ^ D.stride2
  cls : ∀ b, D.classOf b < 2 ^ D.stride2
  size : D.trans.size = D.stateLen * 2 ^ D.stride2
  dead : ∀ s, LvA L anch s → (g s = 0 ↔ s = 0)
  isMatch : ∀ s, LvA L anch s → D.isMatch (g s) = (s != DEAD && CNfa.isMatch N s)
  isSpecial : ∀ s, LvA L anch s →
    D.isSpecial (g s) = (s == DEAD || CNfa.isMatch N s || (hasPre && (s == SU || s == SA)))
  mlist : ∀ s, LvA L anch s → D.isMatch (g s) = true →
    D.matchList? (g s) = some (N.getD s {}).matches_
  start : (if anch then D.startA else D.startU) = g (startOf anch)
  isStart : ∀ s, LvA L anch s → s ≠ 0 → (D.isStart (g s) = true ↔ s = startOf anch)

theorem matchList_of_some {D : DfaI} {q : Nat} {l : List Nat} (h : D.matchList? q = some l) :
    D.matchList q = l := by
  unfold DfaI.matchList? at h
  unfold DfaI.matchList
  split at h
  · cases h
  · rw [Array.getD_eq_getD_getElem?, h]; rfl

/-! ## consequences of `Sim` -/

section
variable {f : UInt8 → UInt8} {k : MatchKind} {Q : PatSet UInt8} {L : List (List UInt8)} {N : CNfa}
variable {hasPre : Bool} {D : DfaI} {anch : Bool} {g : Nat → Nat}

theorem Sim.start_ne_zero (hS : Sim N L hasPre D anch g) : g (startOf anch) ≠ 0 := by
  intro e
  have := (hS.dead _ (LvA_start L anch)).1 e
  cases anch <;> cases this

theorem Sim.toAut_start (hS : Sim N L hasPre D anch g) (P : List (List UInt8)) :
    (D.toAut k P hasPre).start anch = some (g (startOf anch)) := by
  show (if ((if anch then D.startA else D.startU) == 0) = true then none
    else some (if anch then D.startA else D.startU)) = _
  rw [hS.start, if_neg (by rw [beq_iff_eq]; exact hS.start_ne_zero)]

theorem Sim.isDead (hS : Sim N L hasPre D anch g) {s : Nat} (hv : LvA L anch s) :
    D.isDead (g s) = (s == DEAD) := by
  show (g s == 0) = (s == 0)
  rw [Bool.eq_iff_iff, beq_iff_eq, beq_iff_eq]
  exact hS.dead s hv

theorem Sim.obs (hS : Sim N L hasPre D anch g) (h : NfaSpec f k Q L N) (P : List (List UInt8))
    {s : Nat} (hv : LvA L anch s) :
    (D.toAut k P hasPre).obs false (g s) = (N.toAut k P hasPre).obs false s := by
  have e3 := hS.isMatch s hv
  have e4 : (if D.isMatch (g s) = true then D.matchList (g s) else []) = (N.getD s {}).matches_ :=
    mpats_of_isMatch e3 h.mats_dead fun hc => matchList_of_some (hS.mlist s hv hc)
  show Obs.mk _ _ _ _ = Obs.mk _ _ _ _
  simp only [DfaI.toAut, CNfa.toAut, Bool.false_eq_true, if_false]
  rw [e4, hS.isSpecial s hv, hS.isDead hv, e3]

theorem Sim.renames (hS : Sim N L hasPre D anch g) (h : NfaSpec f k Q L N)
    (P : List (List UInt8)) :
    Renames (N.toAut k P hasPre) (D.toAut k P hasPre) anch (fun s => ∃ q, Rel L anch s q) g :=
  renames_of_live h P hasPre hS.step

theorem Sim.obsEquiv (hS : Sim N L hasPre D anch g) (h : NfaSpec f k Q L N)
    (P : List (List UInt8)) :
    ObsEquiv (D.toAut k P hasPre) (N.toAut k P hasPre) false anch (g (startOf anch))
      (startOf anch) :=
  (hS.renames h P).obsEquiv (fun _ ⟨_, hr⟩ => hS.obs h P (LvA.of_Rel hr)) ⟨_, Rel_start L anch⟩

theorem Sim.inbounds (hS : Sim N L hasPre D anch g) {s : Nat} (hv : LvA L anch s) :
    (∀ b, D.next? (g s) b = some (D.next (g s) b)) ∧ g s % 2 ^ D.stride2 = 0 ∧
      g s >>> D.stride2 < D.stateLen ∧
      (D.isMatch (g s) = true → D.matchList? (g s) = some (D.matchList (g s)) ∧
        D.matchList (g s) = (N.getD s {}).matches_ ∧ (N.getD s {}).matches_ ≠ []) := by
  obtain ⟨i, hi, hgi⟩ := hS.idx s hv
  refine ⟨?_, ?_, ?_, ?_⟩
  · intro b
    apply Array.getElem?_eq_some_getD
    rw [hS.size, hgi]
    exact flatTable_lt _ _ hi (hS.cls b)
  · rw [hgi]; exact Nat.mul_mod_left _ _
  · rw [hgi, shr_mul]; exact hi
  · intro hm
    have hml := hS.mlist s hv hm
    rw [matchList_of_some hml]
    rw [hS.isMatch s hv, Bool.and_eq_true] at hm
    exact ⟨hml, rfl, mats_ne_nil_of_isMatch hm.2⟩

theorem Sim.special_contract (hS : Sim N L hasPre D anch g) (h : NfaSpec f k Q L N) {s : Nat}
    (hv : LvA L anch s) :
    (D.isSpecial (g s) = true ↔
        (D.isDead (g s) = true ∨ D.isMatch (g s) = true ∨
          (hasPre = true ∧ D.isStart (g s) = true))) ∧
      (D.isDead (g s) = true → ∀ b, D.next (g s) b = 0) := by
  have eD : D.isDead (g s) = true ↔ s = 0 := by rw [hS.isDead hv]; exact beq_iff_eq
  refine ⟨special_iff_of_flags (hS.isSpecial s hv) (hS.isDead hv) (hS.isMatch s hv) fun e0 =>
    (hS.isStart s hv e0).trans (by rw [LvA.ne_other h hv, beq_iff_eq]), ?_⟩
  · intro hd b
    have e0 := eD.1 hd
    subst e0
    have : (nextState N anch (N.size + 1) 0 b 0).1 = 0 :=
      congrArg Prod.fst (nextState_dead N anch (N.size + 1) b 0 (h.goto_dead b))
    rw [hS.step 0 hv b, this]
    exact (hS.dead 0 hv).2 rfl

end

/-! ## `Sim` from the simulation at the row indices -/

/-- the only place that knows about premultiplication: ids are `ix s * 2 ^ stride2`, rows are read
through `flatTable`, match lists through `matchTable`; the id ranges are those of a `RangeId` -/
theorem _root_.AcVerif.L1dP.IxSim.toSim {N : CNfa} {L : List (List UInt8)} {hasPre anch : Bool} {D : DfaI}
    {rows : Array (Array Nat)} {ms : Array (List Nat)} {W iU iA numMs : Nat} {ix g H : Nat → Nat}
    (hI : IxSim N L anch D.classOf W rows ms iU iA ix g) (hW : W = 2 ^ D.stride2)
    (hS : ShufOK N) (hmm : CNfa.isMatch N SU = CNfa.isMatch N SA)
    (hR : ∀ s, LvA L anch s → RangeId N H s (g s)) (hlt : ∀ s, LvA L anch s → ix s < D.stateLen)
    (hmr : ∀ s, LvA L anch s → s ≠ DEAD → CNfa.isMatch N s = true → 2 ≤ ix s ∧ ix s - 2 < numMs)
    (hcls : ∀ b, D.classOf b < 2 ^ D.stride2)
    (htr : D.trans = flatTable rows D.stateLen D.stride2) (hms : D.matches_ = matchTable ms numMs)
    (hMM : D.maxMatchId = H (nfaMaxMatch N (cNa N)))
    (hMS : D.maxSpecialId = H (nfaMaxSpecial N (cNa N) hasPre))
    (hU : D.startU = iU * W) (hA : D.startA = iA * W) : Sim N L hasPre D anch g := by
  subst hW
  have eM : ∀ s, LvA L anch s → D.isMatch (g s) = (s != DEAD && CNfa.isMatch N s) := fun s hv => by
    show (g s != 0 && decide (g s ≤ D.maxMatchId)) = _
    exact (hR s hv).isMatch hS hmm hMM
  refine ⟨?_, fun s hv => ⟨ix s, hlt s hv, hI.id s hv⟩, hcls, by rw [htr, flatTable_size],
    fun s hv => (hR s hv).zero_iff, eM, ?_, ?_, ?_, ?_⟩
  · intro s hv b
    rw [hI.id s hv]
    show D.trans.getD (ix s * 2 ^ D.stride2 + D.classOf b) 0 = _
    rw [htr, flatTable_getD _ _ _ (hlt s hv) (hcls b)]
    exact hI.step s hv b
  · intro s hv
    show decide (g s ≤ D.maxSpecialId) = _
    exact (hR s hv).isSpecial hS hmm hMS
  · intro s hv hm
    rw [eM s hv] at hm
    simp only [Bool.and_eq_true, bne_iff_ne, ne_eq] at hm
    obtain ⟨h2, hj⟩ := hmr s hv hm.1 hm.2
    rw [hI.id s hv]
    show (if (ix s * 2 ^ D.stride2) >>> D.stride2 < 2 then none
      else D.matches_[(ix s * 2 ^ D.stride2) >>> D.stride2 - 2]?) = _
    rw [shr_mul, if_neg (by omega), hms,
      Array.getElem?_eq_some_getD _ [] (by rw [matchTable_size]; exact hj), matchTable_getD _ _ hj,
      show ix s - 2 + 2 = ix s by omega, hI.mats s hv]
  · rw [hI.id _ (LvA_start L anch), ← hI.start]
    cases anch
    · exact hU
    · exact hA
  · intro s hv h0
    rw [hI.id s hv]
    show ((ix s * 2 ^ D.stride2 == D.startU) || (ix s * 2 ^ D.stride2 == D.startA)) = true ↔ _
    rw [hU, hA]
    simp only [Bool.or_eq_true, beq_iff_eq, mul_pow_inj_iff]
    exact hI.isStart s hv h0

end AcVerif.L1dIdsP
