import AcVerif.Proofs.NfaMemInv
/-!
# The abstract automaton a memory represents, and steps on it

`Step m m' sid x` is the form in which every write operation is specified: the invariant holds
again, the abstract state of `sid` is now `x`, every other state is as it was, and the side vectors
have grown by exactly the cells the two lists of `sid` have gained.  Steps on the same state
compose (`Step.trans`), which is how the loops (`init_full_state`, `copy_matches`,
`set_anchored_start_state`) are handled; `Step.absNfa` reads a step as `Array.modify` on `absNfa`.
`absState`, `absNfa`, `MemOK` and the lemmas that read an operation of `MemNfa` through them
(`isMatch_eq`, `absNfa_allocState`, …) are in `AcVerif` itself, where the theorems name them.  The
last lemma, `setAnchoredStart_eq`, is about `CNfa` alone: `set_anchored_start_state` as the one
`Array.modify` that the steps of the memory add up to.
-/
-- `(absState m s).trans` is `m.iterTrans s` by unfolding `absState`; unfolding the iterator instead is slow
attribute [local irreducible] AcVerif.MemNfa.iterTrans AcVerif.MemNfa.iterMatches

namespace AcVerif
open AcVerif.MemP AcVerif.L1cP

def absState (m : MemNfa) (sid : Nat) : CState :=
  { trans := m.iterTrans sid, fail := (m.st sid).fail, matches_ := m.iterMatches sid }

def absNfa (m : MemNfa) : CNfa := (Array.range m.states.size).map (absState m)

theorem absNfa_empty : absNfa MemNfa.empty = #[] := by simp [absNfa, MemNfa.empty]

/-- the representation invariant: `MemP.MemOKW` (`Proofs/NfaMemInv.lean`) for some witnesses -/
abbrev MemOK (m : MemNfa) : Prop := MemP.MemOK m

theorem absState_trans (m : MemNfa) (s : Nat) : (absState m s).trans = m.iterTrans s := rfl

theorem absState_matches (m : MemNfa) (s : Nat) : (absState m s).matches_ = m.iterMatches s := rfl

@[simp] theorem size_absNfa (m : MemNfa) : (absNfa m).size = m.states.size := by simp [absNfa]

theorem getD_absNfa (m : MemNfa) (s : Nat) :
    (absNfa m).getD s {} = if s < m.states.size then absState m s else {} := by
  unfold absNfa
  by_cases h : s < m.states.size
  · rw [if_pos h, Array.getD_map_range _ _ _ _ h]
  · rw [if_neg h, Array.getD_map_range_ge _ _ _ _ (Nat.le_of_not_lt h)]

theorem getD_absNfa_lt (m : MemNfa) {s : Nat} (hs : s < m.states.size) :
    (absNfa m).getD s {} = absState m s := by rw [getD_absNfa, if_pos hs]

theorem absState_eq {m : MemNfa} {tc mc : Nat → List Nat} (hw : MemOKW m tc mc) (s : Nat) :
    absState m s =
      { trans := (tc s).map (kv m), fail := (m.st s).fail, matches_ := (mc s).map (pidOf m) } := by
  unfold absState
  rw [iterTrans_eq hw, iterMatches_eq hw]

theorem absState_oob {m : MemNfa} (h : MemOK m) {s : Nat} (hs : m.states.size ≤ s) :
    (absState m s).trans = [] ∧ (absState m s).matches_ = [] := by
  obtain ⟨tc, mc, hw⟩ := h
  have h1 := hw.tchain s
  have h2 := hw.mchain s
  rw [st_oob m hs] at h1 h2
  rw [absState_eq hw, h1.eq_nil, h2.eq_nil]
  exact ⟨rfl, rfl⟩

/-- no range condition: out of range both sides are empty (`absState_oob`) -/
theorem getD_absNfa_trans {m : MemNfa} (h : MemOK m) (s : Nat) :
    ((absNfa m).getD s {}).trans = m.iterTrans s := by
  rw [getD_absNfa, ← absState_trans]
  split
  · rfl
  · rename_i hs; exact (absState_oob h (Nat.le_of_not_lt hs)).1.symm

theorem getD_absNfa_matches {m : MemNfa} (h : MemOK m) (s : Nat) :
    ((absNfa m).getD s {}).matches_ = m.iterMatches s := by
  rw [getD_absNfa, ← absState_matches]
  split
  · rfl
  · rename_i hs; exact (absState_oob h (Nat.le_of_not_lt hs)).2.symm

end AcVerif

namespace AcVerif.MemP
open AcVerif MemNfa

/-! ## one state rewritten -/

structure Step (m m' : MemNfa) (sid : Nat) (x : CState) : Prop where
  ok : MemOK m'
  states : m'.states.size = m.states.size
  self : absState m' sid = x
  frame : ∀ s, s ≠ sid → absState m' s = absState m s
  tcells : m'.sparse.size + (absState m sid).trans.length = m.sparse.size + x.trans.length
  mcells :
    m'.matches_.size + (absState m sid).matches_.length = m.matches_.size + x.matches_.length

/-- overwriting `next` fields in the list of `sid` -/
theorem MemOKW.step_next {m r : MemNfa} {tc mc : Nat → List Nat} (hw : MemOKW m tc mc) (sid : Nat)
    (hst : r.states = m.states) (hmt : r.matches_ = m.matches_)
    (hsz : r.sparse.size = m.sparse.size)
    (hbl : ∀ i, (r.tr i).link = (m.tr i).link ∧ (r.tr i).byte = (m.tr i).byte)
    (hnext : ∀ i, i ∉ tc sid → r.tr i = m.tr i) :
    MemOKW r tc mc ∧ Step m r sid { absState m sid with trans := (tc sid).map (kv r) } := by
  have hst' : ∀ s, r.st s = m.st s := st_of_states hst
  have hw' : MemOKW r tc mc := hw.congr hsz hmt hbl
    ((hnext 0 fun h0 => hw.tne0 sid 0 h0 rfl).trans hw.tsent) (fun s => by rw [hst' s]; exact ⟨rfl, rfl⟩)
  have hpid : pidOf r = pidOf m := funext fun i => congrArg MMatch.pid (mt_of_matches hmt i)
  refine ⟨hw', ⟨_, _, hw'⟩, by rw [hst], ?_, fun s hs => ?_, ?_, by rw [hmt]⟩
  · rw [absState_eq hw', absState_eq hw, hst', hpid]
  · rw [absState_eq hw', absState_eq hw, hst', hpid]
    congr 1
    refine List.map_congr_left fun i hi => ?_
    unfold kv
    rw [hnext i (hw.tdisj s sid hs i hi)]
  · rw [absState_eq hw, hsz]
    simp only [List.length_map]

namespace Step
variable {m m₁ m₂ : MemNfa} {sid : Nat} {x y : CState}

theorem refl (h : MemOK m) (sid : Nat) : Step m m sid (absState m sid) :=
  ⟨h, rfl, rfl, fun _ _ => rfl, rfl, rfl⟩

theorem trans (h₁ : Step m m₁ sid x) (h₂ : Step m₁ m₂ sid y) : Step m m₂ sid y where
  ok := h₂.ok
  states := h₂.states.trans h₁.states
  self := h₂.self
  frame := fun s hs => (h₂.frame s hs).trans (h₁.frame s hs)
  tcells := by
    have := h₁.tcells; have := h₂.tcells; rw [h₁.self] at this; omega
  mcells := by
    have := h₁.mcells; have := h₂.mcells; rw [h₁.self] at this; omega

theorem absNfa (h : Step m m₁ sid x) (f : CState → CState) (hx : x = f (absState m sid)) :
    absNfa m₁ = (absNfa m).modify sid f := by
  apply Array.ext_getD ({} : CState)
  · simp [h.states]
  · intro s hs
    rw [size_absNfa] at hs
    rw [Array.getD_modify, size_absNfa, getD_absNfa_lt _ hs, getD_absNfa_lt _ (h.states ▸ hs)]
    by_cases e : sid = s
    · subst e; rw [if_pos ⟨rfl, h.states ▸ hs⟩, h.self, hx]
    · rw [if_neg (fun h => e h.1)]; exact h.frame s (Ne.symm e)

end Step

end AcVerif.MemP

namespace AcVerif
open AcVerif.MemP AcVerif.L1cP

/-! ## `alloc_state` -/

theorem st_allocState (m : MemNfa) (depth fail s : Nat) :
    (m.allocState depth fail).1.st s =
      if s = m.states.size then { sparse := 0, matches_ := 0, fail := fail, depth := depth }
      else m.st s :=
  Array.getD_push _ _ _ _

theorem allocState_heads (m : MemNfa) (depth fail s : Nat) :
    ((m.allocState depth fail).1.st s).sparse = (m.st s).sparse ∧
      ((m.allocState depth fail).1.st s).matches_ = (m.st s).matches_ := by
  rw [st_allocState]
  split
  · rename_i e; subst e; rw [st_oob m (Nat.le_refl _)]; exact ⟨rfl, rfl⟩
  · exact ⟨rfl, rfl⟩

theorem allocState_memOK {m : MemNfa} (h : MemOK m) (depth fail : Nat) :
    MemOK (m.allocState depth fail).1 := by
  obtain ⟨tc, mc, hw⟩ := h
  exact ⟨tc, mc, hw.congr rfl rfl (fun _ => ⟨rfl, rfl⟩) hw.tsent (allocState_heads m depth fail)⟩

theorem absNfa_allocState {m : MemNfa} (h : MemOK m) (depth fail : Nat) :
    absNfa (m.allocState depth fail).1 = (absNfa m).push { fail := fail } ∧
    (m.allocState depth fail).2 = (absNfa m).size := by
  refine ⟨?_, (size_absNfa m).symm⟩
  have hsz : (m.allocState depth fail).1.states.size = m.states.size + 1 := Array.size_push _
  have habs : ∀ s, absState (m.allocState depth fail).1 s =
      if s = m.states.size then { fail := fail } else absState m s := by
    intro s
    have hh := allocState_heads m depth fail s
    unfold absState
    rw [iterTrans_congr (m := m) (m' := (m.allocState depth fail).1) rfl hh.1,
      iterMatches_congr (m := m) (m' := (m.allocState depth fail).1) rfl hh.2, st_allocState]
    split
    · rename_i e; subst e
      obtain ⟨e1, e2⟩ := absState_oob h (Nat.le_refl m.states.size)
      simp only [absState] at e1 e2
      rw [e1, e2]
    · rfl
  apply Array.ext_getD ({} : CState)
  · simp [hsz]
  · intro s hs
    rw [size_absNfa, hsz] at hs
    rw [getD_absNfa, if_pos (hsz ▸ hs), habs, Array.getD_push, size_absNfa, getD_absNfa]
    by_cases e : s = m.states.size
    · rw [if_pos e, if_pos e]
    · rw [if_neg e, if_neg e, if_pos (by omega)]

/-! ## `State::is_match`, an empty transition list -/

theorem isMatch_eq {m : MemNfa} (h : MemOK m) (sid : Nat) :
    m.isMatch sid = CNfa.isMatch (absNfa m) sid := by
  unfold MemNfa.isMatch CNfa.isMatch
  rw [getD_absNfa_matches h]
  obtain ⟨tc, mc, hw⟩ := h
  have hc := hw.mchain sid
  rw [iterMatches_eq hw]
  cases hl : mc sid with
  | nil => rw [hl] at hc; rw [show (m.st sid).matches_ = 0 from hc]; rfl
  | cons a as =>
    rw [hl] at hc
    rw [hc.1]
    simpa using hc.2.1

/-- `self.states[s].sparse == 0` iff `iter_trans(s)` yields nothing (the doc comment of
`State::sparse`) -/
theorem sparse_eq_zero_iff {m : MemNfa} (h : MemOK m) (s : Nat) :
    (m.st s).sparse = 0 ↔ m.iterTrans s = [] := by
  obtain ⟨tc, mc, hw⟩ := h
  have hc := hw.tchain s
  rw [iterTrans_eq hw]
  constructor
  · intro e; rw [e] at hc; rw [hc.eq_nil]; rfl
  · intro e
    have : tc s = [] := List.map_eq_nil_iff.1 e
    rw [this] at hc; exact hc

/-! ## the abstract `set_anchored_start_state` -/

theorem setAnchoredStart_eq (n : CNfa) :
    CNfa.setAnchoredStart n = n.modify CNfa.SA fun st =>
      { trans := (n.getD CNfa.SU {}).trans, fail := CNfa.DEAD,
        matches_ := st.matches_ ++ (n.getD CNfa.SU {}).matches_ } := by
  unfold CNfa.setAnchoredStart CNfa.copyMatches
  simp only
  rw [Array.getD_modify_ne _ _ _ (by decide : CNfa.SA ≠ CNfa.SU)]
  apply Array.ext_getD ({} : CState) (by simp)
  intro s _
  rw [Array.getD_modify, Array.getD_modify, Array.getD_modify, Array.size_modify]
  by_cases e : CNfa.SA = s ∧ s < n.size
  · rw [if_pos e, if_pos e, if_pos e]
  · rw [if_neg e, if_neg e, if_neg e]

end AcVerif
