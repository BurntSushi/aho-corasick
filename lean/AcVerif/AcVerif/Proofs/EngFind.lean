import AcVerif.Proofs.Std
import AcVerif.Proofs.LmTop
import AcVerif.Proofs.IterFacts
import AcVerif.Proofs.Comap
/-!
# The prefilter-free searches on the ideal automaton, for every match kind at once

The standard development (`Std`) and the leftmost one (`LmTop`) meet here: one statement
over the match kind for the single search (`find_ideal`), one for the iterator built on it
(`iter_ideal`, `iter_ideal_props`), and the single search of a searcher that maps every input
symbol first, as case folding does (`find_ideal_comap`).
-/
theorem AcVerif.isFind_isSome_iff {α : Type} {k : MatchKind} {P : List (List α)} {hay : List α}
    {s e : Nat} {anch : Bool} {r : Option Mat} (h : IsFind k P hay s e anch r) :
    r.isSome = true ↔ ∃ m, IsOccA P hay s e anch m := by
  cases r with
  | none => simp only [Option.isSome_none, Bool.false_eq_true, false_iff, not_exists]; exact h
  | some m => simp only [Option.isSome_some, true_iff]; exact ⟨m, h.1⟩

namespace AcVerif.EngP
open AcVerif AcVerif.MiscP
variable {α : Type} [DecidableEq α]

/-- `he`: a standard searcher always runs in earliest mode, which is what its specification
asks for; a leftmost searcher must not be put into it. -/
theorem find_ideal (k : MatchKind) (P : List (List α)) (sk : StartKind) (i : Input α)
    (he : k = .std ∨ i.earliest = false) (h : supportsAnch sk i.anch) :
    ∃ r, tryFindFwd (ideal k P sk false) none i = .ok r ∧
      IsFind k P i.hay i.s i.e i.anch r := by
  cases hd : i.isDone with
  | true =>
    exact ⟨none, tryFindFwd_done _ none i hd (LmP.start_root k P false h),
      StdP.not_occ_of_done P i hd⟩
  | false =>
    have hse : i.s ≤ i.e := Nat.le_of_not_lt (of_decide_eq_false hd)
    cases k with
    | std => exact StdP.find_std P sk i h hd
    | lf => exact LmP.find_lm .lf (Or.inr rfl) P sk i (he.resolve_left (fun h => nomatch h)) h hse
    | ll => exact LmP.find_lm .ll (Or.inl rfl) P sk i (he.resolve_left (fun h => nomatch h)) h hse

theorem iter_ideal (k : MatchKind) (P : List (List α)) (sk : StartKind) (i : Input α)
    (he : k = .std ∨ i.earliest = false) (h : supportsAnch sk i.anch) :
    ∃ F, (∀ st, st ≤ i.e + 1 → IsFind k P i.hay st i.e i.anch (F st)) ∧
      findIter (ideal k P sk false) none i = .ok (iterSpec F i.s i.e) :=
  findIter_spec (ideal k P sk false) i k P (by rw [LmP.start_root k P false h]; rfl)
    (fun st hst => find_ideal k P sk { i with s := st, valid := ⟨i.valid.1, hst⟩ } he h)

theorem iter_ideal_props (k : MatchKind) (P : List (List α)) (sk : StartKind) (i : Input α)
    (he : k = .std ∨ i.earliest = false) (h : supportsAnch sk i.anch) :
    ∃ l, findIter (ideal k P sk false) none i = .ok l ∧
      (∀ m ∈ l, IsOcc P i.hay i.s i.e m) ∧
      l.Pairwise (fun a b => a.stop < b.stop) ∧
      l.Pairwise (fun a b => a.stop ≤ b.start) := by
  obtain ⟨F, hF, hl⟩ := iter_ideal k P sk i he h
  exact ⟨_, hl, fun m hm => (iter_occ hF i.valid.2 m hm).1, iter_sorted hF i.valid.2,
    iter_nonoverlap hF i.valid.2⟩

theorem find_ideal_comap (g : α → α) (k : MatchKind) (P : List (List α)) (sk : StartKind)
    (i : Input α) (he : k = .std ∨ i.earliest = false) (h : supportsAnch sk i.anch) :
    ∃ r, tryFindFwd ((ideal k (P.map (·.map g)) sk false).comap g) none i = .ok r ∧
      IsFind k (P.map (·.map g)) (i.hay.map g) i.s i.e i.anch r := by
  obtain ⟨r, h1, h2⟩ := find_ideal k (P.map (·.map g)) sk (i.mapHay g) he h
  exact ⟨r, (tryFindFwd_comap _ g i).trans h1, h2⟩

end AcVerif.EngP
