import AcVerif.Engine.Find
import AcVerif.Engine.Overlap
import AcVerif.Engine.Iter
import AcVerif.Proofs.SweepLoops
/-!
# Transfer of every search result along observational equivalence

If two automaton records make the same observations after every input word
(which is what a passing certificate establishes, `certOk_sound`), then every
generic search loop computes the same result on both, for every prefilter
function and every input.

`ObsEquiv A B first anch a b` is that hypothesis for two states, `StartEquiv` the same for the two
start states of a mode (or both absent).  `ObsEquiv.of_sim` gets it from a simulation relation
(`Aut.runFrom_rel`: what one step keeps, a run keeps), `ObsEquiv.after` carries it along a word,
`ObsEquiv.toFirst` passes from the whole match list to its first entry.  The decision of an
iteration reads its state only through `obs` (`move_transfer`), so two runs of `sweep` from
equivalent states go in lockstep (`sweep_transfer`); `findLoop_transfer`, `ovlLoop_transfer` (and
`scanLoop_transfer` of `OvlScanBounds`) read that off.  For the overlapping search `ORel` / `ExRel`
relate the two `OState`s (equal fields, `ObsEquiv` stored states); `ovlImp_transfer`,
`tryFindOverlappingFwd_transfer` preserve them.  The search calls and the iterators follow in
`Theorems/C04` (`C04_find_transfer`, `C04_overlap_transfer`, `C04_iter_transfer`).
-/
namespace AcVerif
variable {σ τ α : Type}

def ObsEquiv (A : Aut σ α) (B : Aut τ α) (first anch : Bool) (a : σ) (b : τ) : Prop :=
  ∀ w, A.obs first (A.runFrom anch a w) = B.obs first (B.runFrom anch b w)

def StartEquiv (A : Aut σ α) (B : Aut τ α) (first anch : Bool) : Prop :=
  match A.start anch, B.start anch with
  | some a, some b => ObsEquiv A B first anch a b
  | none, none => True
  | _, _ => False

theorem ObsEquiv.next {A : Aut σ α} {B : Aut τ α} {first anch : Bool} {a : σ} {b : τ}
    (h : ObsEquiv A B first anch a b) (c : α) :
    ObsEquiv A B first anch (A.next anch a c) (B.next anch b c) :=
  fun w => h (c :: w)

theorem ObsEquiv.obs {A : Aut σ α} {B : Aut τ α} {first anch : Bool} {a : σ} {b : τ}
    (h : ObsEquiv A B first anch a b) : A.obs first a = B.obs first b := h []

theorem ObsEquiv.special {A : Aut σ α} {B : Aut τ α} {first anch : Bool} {a : σ} {b : τ}
    (h : ObsEquiv A B first anch a b) : A.isSpecial a = B.isSpecial b :=
  congrArg Obs.special h.obs

theorem ObsEquiv.dead {A : Aut σ α} {B : Aut τ α} {first anch : Bool} {a : σ} {b : τ}
    (h : ObsEquiv A B first anch a b) : A.isDead a = B.isDead b :=
  congrArg Obs.dead h.obs

theorem ObsEquiv.isMatch {A : Aut σ α} {B : Aut τ α} {first anch : Bool} {a : σ} {b : τ}
    (h : ObsEquiv A B first anch a b) : A.isMatch a = B.isMatch b :=
  congrArg Obs.isMatch h.obs

theorem ObsEquiv.mpats {A : Aut σ α} {B : Aut τ α} {anch : Bool} {a : σ} {b : τ}
    (h : ObsEquiv A B false anch a b) : A.mpats a = B.mpats b := by
  have := congrArg Obs.pats h.obs
  simpa [Aut.obs] using this

theorem ObsEquiv.take1 {A : Aut σ α} {B : Aut τ α} {first anch : Bool} {a : σ} {b : τ}
    (h : ObsEquiv A B first anch a b) : (A.mpats a).take 1 = (B.mpats b).take 1 := by
  have := congrArg Obs.pats h.obs
  cases first
  · simp only [Aut.obs, Bool.false_eq_true, if_false] at this
    rw [this]
  · simpa [Aut.obs] using this

theorem Aut.runFrom_rel (A : Aut σ α) (B : Aut τ α) (anch : Bool)
    (R : σ → τ → Prop) (hstep : ∀ s q c, R s q → R (A.next anch s c) (B.next anch q c)) :
    ∀ (w : List α) (s : σ) (q : τ), R s q → R (A.runFrom anch s w) (B.runFrom anch q w)
  | [], _, _, hr => hr
  | c :: w, _, _, hr => Aut.runFrom_rel A B anch R hstep w _ _ (hstep _ _ c hr)

theorem ObsEquiv.trans {υ : Type} {A : Aut σ α} {B : Aut τ α} {C : Aut υ α}
    {first anch : Bool} {a : σ} {b : τ} {c : υ} (h1 : ObsEquiv A B first anch a b)
    (h2 : ObsEquiv B C first anch b c) : ObsEquiv A C first anch a c :=
  fun w => (h1 w).trans (h2 w)

theorem ObsEquiv.of_sim {A : Aut σ α} {B : Aut τ α} {first anch : Bool}
    (R : σ → τ → Prop) (hstep : ∀ a b c, R a b → R (A.next anch a c) (B.next anch b c))
    (hobs : ∀ a b, R a b → A.obs first a = B.obs first b) {a : σ} {b : τ} (h : R a b) :
    ObsEquiv A B first anch a b := by
  intro w
  induction w generalizing a b with
  | nil => exact hobs a b h
  | cons c w ih => exact ih (hstep a b c h)

theorem ObsEquiv.after {A : Aut σ α} {B : Aut τ α} {first anch : Bool} {a : σ} {b : τ}
    (h : ObsEquiv A B first anch a b) (w : List α) :
    ObsEquiv A B first anch (A.runFrom anch a w) (B.runFrom anch b w) := fun v => by
  rw [← Aut.runFrom_append, ← Aut.runFrom_append]
  exact h (w ++ v)

theorem ObsEquiv.toFirst {A : Aut σ α} {B : Aut τ α} {first anch : Bool} {a : σ} {b : τ}
    (h : ObsEquiv A B false anch a b) : ObsEquiv A B first anch a b := by
  cases first
  · exact h
  · intro w
    have hw := h.after w
    simp only [Aut.obs, if_true]
    rw [hw.special, hw.dead, hw.isMatch, hw.mpats]

theorem StartEquiv.cases {A : Aut σ α} {B : Aut τ α} {first anch : Bool}
    (h : StartEquiv A B first anch) :
    (A.start anch = none ∧ B.start anch = none) ∨
      ∃ a b, A.start anch = some a ∧ B.start anch = some b ∧ ObsEquiv A B first anch a b := by
  unfold StartEquiv at h
  cases hA : A.start anch <;> cases hB : B.start anch <;> simp only [hA, hB] at h
  · exact Or.inl ⟨rfl, rfl⟩
  · exact Or.inr ⟨_, _, rfl, rfl, h⟩

theorem StartEquiv.of_start {A : Aut σ α} {B : Aut τ α} {first anch : Bool} {a : σ}
    (h : StartEquiv A B first anch) (hs : A.start anch = some a) :
    ∃ b, B.start anch = some b ∧ ObsEquiv A B first anch a b := by
  rcases h.cases with ⟨h0, _⟩ | ⟨a', b, ha, hb, h'⟩
  · rw [hs] at h0; cases h0
  · cases hs.symm.trans ha
    exact ⟨b, hb, h'⟩

namespace EngP
variable (A : Aut σ α) (B : Aut τ α)

theorem getD_zero_of_take1 {l l' : List Nat} (h : l.take 1 = l'.take 1) :
    l.getD 0 0 = l'.getD 0 0 := by
  cases l <;> cases l' <;> simp_all

theorem getMatch_zero_transfer {A : Aut σ α} {B : Aut τ α} {first anch : Bool} {a : σ} {b : τ}
    (hl : ∀ pid, A.patLen pid = B.patLen pid)
    (h : ObsEquiv A B first anch a b) (at_ : Nat) : getMatch A a 0 at_ = getMatch B b 0 at_ := by
  simp only [getMatch]
  rw [getD_zero_of_take1 h.take1, hl]

theorem getMatch_transfer {A : Aut σ α} {B : Aut τ α} {anch : Bool} {a : σ} {b : τ}
    (hl : ∀ pid, A.patLen pid = B.patLen pid)
    (h : ObsEquiv A B false anch a b) (idx at_ : Nat) :
    getMatch A a idx at_ = getMatch B b idx at_ := by
  simp only [getMatch]
  rw [h.mpats, hl]

theorem move_transfer {A : Aut σ α} {B : Aut τ α} (hl : ∀ pid, A.patLen pid = B.patLen pid)
    {first anch : Bool} {a : σ} {b : τ} (hab : ObsEquiv A B first anch a b) (hay : List α)
    (s e : Nat) (pre : Option (Prefilter α)) (at_ : Nat) :
    move A hay s e pre anch a at_ = move B hay s e pre anch b at_ := by
  unfold move
  rw [hab.special, hab.dead, hab.isMatch, getMatch_zero_transfer hl hab]

/-- From equivalent states, with the same accumulator and an update that does not read the state,
the two runs end alike. -/
theorem sweep_transfer {ρ : Type} {A : Aut σ α} {B : Aut τ α}
    (hl : ∀ pid, A.patLen pid = B.patLen pid) {hay : List α} {s e : Nat} {he : e ≤ hay.length}
    {pre : Option (Prefilter α)} {first anch stop : Bool} (upd : ρ → α → Nat → Move → ρ)
    {a : σ} {b : τ} (hab : ObsEquiv A B first anch a b) {at_ : Nat} {x : ρ}
    {r : Swept σ ρ} {r' : Swept τ ρ}
    (hr : sweep A hay s e he pre anch stop (fun x _ => upd x) a at_ x = r)
    (hr' : sweep B hay s e he pre anch stop (fun x _ => upd x) b at_ x = r') :
    ObsEquiv A B first anch r.sid r'.sid ∧ r.at_ = r'.at_ ∧ r.acc = r'.acc ∧ r.last = r'.last :=
  sweep_rel (ObsEquiv A B first anch) Eq (fun _ _ c h => h.next c)
    (fun _ _ at_ h => move_transfer hl h hay s e pre at_)
    (fun _ _ _ _ _ _ _ h _ => h ▸ rfl) hab rfl hr hr'

/-! ## the non-overlapping loop -/

theorem findLoop_transfer (hl : ∀ pid, A.patLen pid = B.patLen pid)
    (hay : List α) (s e : Nat) (he : e ≤ hay.length) (pre : Option (Prefilter α))
    (first anch earliest : Bool) (a : σ) (b : τ) (at_ : Nat) (mat : Option Mat)
    (hab : ObsEquiv A B first anch a b) :
    findLoop A hay s e he pre anch earliest a at_ mat =
      findLoop B hay s e he pre anch earliest b at_ mat := by
  rw [findLoop_eq_sweep, findLoop_eq_sweep]
  obtain ⟨_, _, h3, h4⟩ :=
    sweep_transfer hl (fun mat _ _ => findUpd mat) hab rfl rfl
  unfold findPost
  rw [h3, h4]

theorem findImp_transfer (pre : Option (Prefilter α)) (i : Input α)
    (hl : ∀ pid, A.patLen pid = B.patLen pid) (first anch earliest : Bool) (hanch : anch = i.anch)
    (h : StartEquiv A B first i.anch) :
    findImp A i pre anch earliest = findImp B i pre anch earliest := by
  unfold findImp
  rcases h.cases with ⟨hA, hB⟩ | ⟨a, b, hA, hB, h⟩ <;> rw [hA, hB]
  subst hanch
  have hL : ∀ at_ mat, findLoop A i.hay i.s i.e i.valid.1 pre i.anch earliest a at_ mat =
      findLoop B i.hay i.s i.e i.valid.1 pre i.anch earliest b at_ mat :=
    fun _ _ => findLoop_transfer A B hl _ _ _ _ _ first _ _ _ _ _ _ h
  simp only [h.isMatch, getMatch_zero_transfer hl h, hL]

/-! ## the overlapping loop -/

def ORel (A : Aut σ α) (B : Aut τ α) (anch : Bool) (x : OState σ) (y : OState τ) : Prop :=
  x.mat = y.mat ∧ x.at_ = y.at_ ∧ x.nextIdx = y.nextIdx ∧
    match x.id, y.id with
    | some a, some b => ObsEquiv A B false anch a b
    | none, none => True
    | _, _ => False

def ExRel (A : Aut σ α) (B : Aut τ α) (anch : Bool) :
    Except MatchErr (OState σ) → Except MatchErr (OState τ) → Prop
  | .ok x, .ok y => ORel A B anch x y
  | .error e, .error e' => e = e'
  | _, _ => False

theorem ExRel.cases {A : Aut σ α} {B : Aut τ α} {anch : Bool}
    {r : Except MatchErr (OState σ)} {r' : Except MatchErr (OState τ)} (h : ExRel A B anch r r') :
    (∃ e, r = .error e ∧ r' = .error e) ∨ ∃ x y, r = .ok x ∧ r' = .ok y ∧ ORel A B anch x y := by
  cases r <;> cases r' <;> simp only [ExRel] at h
  · exact Or.inl ⟨_, rfl, h ▸ rfl⟩
  · exact Or.inr ⟨_, _, rfl, rfl, h⟩

theorem ORel.mk' {A : Aut σ α} {B : Aut τ α} {anch : Bool} {a : σ} {b : τ}
    (h : ObsEquiv A B false anch a b) (mat : Option Mat) (at_ : Nat) (ni : Option Nat) :
    ORel A B anch { mat := mat, id := some a, at_ := at_, nextIdx := ni }
      { mat := mat, id := some b, at_ := at_, nextIdx := ni } :=
  ⟨rfl, rfl, rfl, h⟩

theorem ovlLoop_transfer (hl : ∀ pid, A.patLen pid = B.patLen pid)
    (hay : List α) (s e : Nat) (he : e ≤ hay.length) (pre : Option (Prefilter α))
    (anch : Bool) (a : σ) (b : τ) (at_ : Nat) (hab : ObsEquiv A B false anch a b) :
    ORel A B anch (ovlLoop A hay s e he pre anch a at_) (ovlLoop B hay s e he pre anch b at_) := by
  rw [ovlLoop_eq_sweep, ovlLoop_eq_sweep]
  obtain ⟨h1, h2, _, h4⟩ :=
    sweep_transfer hl (fun x _ _ _ => x) hab rfl rfl
  unfold ovlPost
  rw [h4, h2]
  split <;> exact ORel.mk' h1 _ _ _

theorem ovlImp_transfer (pre : Option (Prefilter α)) (i : Input α)
    (hl : ∀ pid, A.patLen pid = B.patLen pid)
    (h : StartEquiv A B false i.anch) (x : OState σ) (y : OState τ) (hxy : ORel A B i.anch x y) :
    ExRel A B i.anch (ovlImp A i pre x) (ovlImp B i pre y) := by
  obtain ⟨xm, xi, xa, xn⟩ := x
  obtain ⟨ym, yi, ya, yn⟩ := y
  obtain ⟨h1, h2, h3, h4⟩ := hxy
  simp only at h1 h2 h3 h4
  subst h1 h2 h3
  have hL : ∀ {a b}, ObsEquiv A B false i.anch a b → ∀ at_,
      ExRel A B i.anch (.ok (ovlLoop A i.hay i.s i.e i.valid.1 pre i.anch a at_))
        (.ok (ovlLoop B i.hay i.s i.e i.valid.1 pre i.anch b at_)) :=
    fun hab _ => ovlLoop_transfer A B hl _ _ _ _ _ _ _ _ _ hab
  unfold ovlImp
  cases xi <;> cases yi <;> simp only at h4
  · -- a fresh state on both sides
    rcases h.cases with ⟨hA, hB⟩ | ⟨a, b, hA, hB, h⟩ <;> simp only [hA, hB]
    · exact rfl
    · rw [h.isMatch, h.mpats, getMatch_transfer hl h]
      cases (B.isMatch b && decide (xn.getD 0 < (B.mpats b).length))
      · exact hL h _
      · exact ⟨rfl, rfl, rfl, trivial⟩
  · rename_i a b
    cases xn with
    | none => exact hL h4 _
    | some idx =>
      simp only [h4.mpats, getMatch_transfer hl h4]
      cases (decide (idx < (B.mpats b).length) &&
        !(i.anch && decide ((getMatch B b idx (xa + 1)).start > i.s)))
      · exact hL h4 _
      · exact ⟨rfl, rfl, rfl, h4⟩

theorem tryFindOverlappingFwd_transfer (pre : Option (Prefilter α))
    (i : Input α) (hk : A.kind = B.kind) (hl : ∀ pid, A.patLen pid = B.patLen pid)
    (h : StartEquiv A B false i.anch) (x : OState σ) (y : OState τ) (hxy : ORel A B i.anch x y) :
    ExRel A B i.anch (tryFindOverlappingFwd A pre i x) (tryFindOverlappingFwd B pre i y) := by
  unfold tryFindOverlappingFwd
  rw [hk]
  have hxy' : ORel A B i.anch { x with mat := Option.none } { y with mat := Option.none } :=
    ⟨rfl, hxy.2.1, hxy.2.2.1, hxy.2.2.2⟩
  cases (B.kind != MatchKind.std)
  · cases i.isDone
    · have hp := fun p => ovlImp_transfer A B p i hl h _ _ hxy'
      simp only [Bool.false_eq_true, if_false]
      split
      · exact hp _
      · exact hp _
    · rcases h.cases with ⟨hA, hB⟩ | ⟨a, b, hA, hB, _⟩ <;>
        simp only [Bool.false_eq_true, if_false, if_true, hA, hB]
      · exact rfl
      · exact hxy'
  · exact rfl

theorem ORel.start (anch : Bool) :
    ORel A B anch OState.start OState.start := ⟨rfl, rfl, rfl, trivial⟩

end EngP
end AcVerif
