import AcVerif.Proofs.OvlScanBounds
import AcVerif.Proofs.LmBasic
/-!
# One pattern and a confirming prefilter: at most one confirmed match per call

For an ARBITRARY automaton record a confirming prefilter consulted inside the overlapping loop
may account for overlapping stretches (`Theorems/C19OvlScan.lean`, `C19_ovl_prescan_mtch_exceeds`).
For the automaton of a single pattern `p` and a prefilter that confirms occurrences of `p`
(`MemLike`: what `memmem` does) this cannot happen: the loop consults the prefilter only in the
start state (`ideal_asked_root`), the confirmed occurrence starts after the current position, the
loop resumes at its start and walks `p` through non-special states to the match state at its last
byte, where the call returns (`scanLoop_walk`).  So a call contains at most one confirmed match
(or one `.none` answer), and the extent of the call is at most the rest of the span
(`scanLoop_single_le`).
-/
namespace AcVerif
namespace ScanP
open AcVerif.LmP
variable {α : Type} [DecidableEq α]

/-- in-loop answers of a `memmem`-like prefilter for `p`: never a candidate; a confirmed match
is an occurrence of `p` inside the span it was given -/
def MemLike (p : List α) (pre : Prefilter α) (hay : List α) (e : Nat) : Prop :=
  ∀ a, a ≤ e →
    match pre hay a e with
    | .none => True
    | .pos _ => False
    | .mtch m => a ≤ m.start ∧ m.stop = m.start + p.length ∧ m.stop ≤ e ∧ p <+: hay.drop m.start

theorem patSet_single (p : List α) : patSet .std [p] = [(p, 0)] := by
  simp [patSet, enumPats]

theorem isPref_single (p u : List α) : isPref [(p, 0)] u = u.isPrefixOf p := by
  simp [isPref]

theorem lsp_snoc_ne_nil (Q : PatSet α) (c : α) (h : isPref Q [c] = true) :
    ∀ u : List α, lsp Q (u ++ [c]) ≠ []
  | [] => by
    simp [lsp, h]
  | a :: t => by
    simp only [List.cons_append, lsp]
    split
    · exact List.cons_ne_nil _ _
    · exact lsp_snoc_ne_nil Q c h t

theorem idsOf_single (p v : List α) : idsOf [(p, 0)] v = if p = v then [0] else [] := by
  simp only [idsOf, List.filter]
  by_cases h : p = v
  · simp [h]
  · simp [h]

theorem outStd_single_short (p u : List α) (h : u.length < p.length) :
    outStd [(p, 0)] u = [] := by
  unfold outStd
  rw [List.flatMap_eq_nil_iff]
  intro k _
  rw [idsOf_single, if_neg]
  intro hp
  have := congrArg List.length hp
  simp only [List.length_drop] at this
  omega

theorem outStd_single_self (p : List α) : outStd [(p, 0)] p ≠ [] := by
  intro h
  unfold outStd at h
  rw [List.flatMap_eq_nil_iff] at h
  have := h 0 (by simp)
  rw [idsOf_single] at this
  simp at this

/-! ### the automaton of one pattern, along the pattern -/

section
variable (p : List α) (sk : StartKind) (hp : Bool)

theorem single_next {j : Nat} (hj : j < p.length) :
    (ideal .std [p] sk hp).next false (.at (p.take j)) p[j] = .at (p.take (j + 1)) := by
  show Ideal.next .std (patSet .std [p]) false (.at (p.take j)) p[j] = _
  simp only [Ideal.next, Bool.false_eq_true, if_false, stepStd,
    ← List.take_succ_eq_append_getElem hj]
  rw [lsp_of_isPref]
  rw [patSet_single, isPref_single, List.isPrefixOf_iff_prefix]
  exact List.take_prefix _ _

theorem single_inner_not_special {j : Nat} (hj : j + 1 < p.length) :
    ¬ (ideal .std [p] sk hp).isSpecial (.at (p.take (j + 1))) = true := by
  have hlen : (p.take (j + 1)).length = j + 1 := by rw [List.length_take]; omega
  have hout : Ideal.out .std (patSet .std [p]) (.at (p.take (j + 1))) = [] := by
    simp only [Ideal.out, patSet_single]
    exact outStd_single_short p _ (by omega)
  have hne : (St.at (p.take (j + 1)) == St.at []) = false := by
    rw [beq_eq_false_iff_ne]
    intro h
    injection h with h
    rw [h] at hlen
    cases hlen
  have hnd : (St.at (p.take (j + 1)) == (St.dead : St α)) = false := by
    rw [beq_eq_false_iff_ne]
    intro h
    cases h
  show ¬ (_ == _ || !(Ideal.out .std (patSet .std [p]) _).isEmpty || (hp && _ == _)) = true
  rw [hout, hne, hnd]
  simp

theorem single_move_self (hay : List α) (s e : Nat) (pre : Option (Prefilter α)) (at_ : Nat) :
    move (ideal .std [p] sk hp) hay s e pre false (.at p) at_ =
      .hit (getMatch (ideal .std [p] sk hp) (.at p) 0 (at_ + 1)) := by
  have hout : (Ideal.out .std (patSet .std [p]) (.at p)).isEmpty = false := by
    simp only [Ideal.out, patSet_single]
    cases h : outStd [(p, 0)] p with
    | nil => exact absurd h (outStd_single_self p)
    | cons _ _ => rfl
  have hmm : (ideal .std [p] sk hp).isMatch (.at p) = true := by
    show (!(Ideal.out .std (patSet .std [p]) _).isEmpty) = true
    rw [hout]
    rfl
  have hsp : (ideal .std [p] sk hp).isSpecial (.at p) = true := by
    show (_ == _ || !(Ideal.out .std (patSet .std [p]) _).isEmpty || (hp && _ == _)) = true
    rw [hout]
    simp
  have hdd : ¬ (ideal .std [p] sk hp).isDead (.at p) = true := by
    show ¬ (St.at p == (St.dead : St α)) = true
    rw [beq_iff_eq]
    intro h
    cases h
  rw [move_of_match hsp hdd hmm]
  rfl

end

theorem ideal_asked_root {k : MatchKind} {P : List (List α)} {sk : StartKind} {hp : Bool}
    {hay : List α} {s e : Nat} {pre : Option (Prefilter α)} {anch : Bool} {sid : St α} {at_ : Nat}
    {c : Cand} (h : move (ideal k P sk hp) hay s e pre anch sid at_ = .asked c) : sid = .at [] := by
  obtain ⟨hsp, hnd, hnm, _⟩ := of_move_eq_asked h
  have h1 : (sid == St.dead || !(Ideal.out k (patSet k P) sid).isEmpty ||
      (hp && sid == .at [])) = true := hsp
  have h2 : ¬ (sid == St.dead) = true := hnd
  have h3 : ¬ (!(Ideal.out k (patSet k P) sid).isEmpty) = true := hnm
  simp only [Bool.or_eq_true, Bool.and_eq_true] at h1
  rcases h1 with (h1 | h1) | h1
  · exact absurd h1 h2
  · exact absurd h1 h3
  · exact eq_of_beq h1.2

/-- `= acc`: no prefilter call on the way from the start of the occurrence to its last byte -/
theorem scanLoop_walk (p : List α) (sk : StartKind) (hp : Bool) (hay : List α) (s e : Nat)
    (he : e ≤ hay.length) (pre : Option (Prefilter α)) (ms : Nat) (hpre : p <+: hay.drop ms)
    (hme : ms + p.length ≤ e) (j : Nat) (hj : j < p.length) (acc : Nat) :
    scanLoop (ideal .std [p] sk hp) hay s e he pre false true (.at (p.take j)) (ms + j) acc =
      acc := by
  induction j using upTo_induction p.length with
  | stop j h => exact absurd hj h
  | step j _ ih =>
    have hlt : ms + j < e := by omega
    have hc : hay[ms + j]'(Nat.lt_of_lt_of_le hlt he) = p[j] :=
      hpre.getElem_drop hj (Nat.lt_of_lt_of_le hlt he)
    have hq := (congrArg _ hc).trans (single_next p sk hp hj)
    rcases Nat.lt_or_ge (j + 1) p.length with hj' | hj'
    · rw [scanLoop_step _ hay s e he pre false true _ _ acc hlt hq
        (move_of_not_special (single_inner_not_special p sk hp hj'))]
      exact ih (j + 1) (Nat.lt_succ_self _) hj'
    · rw [show j + 1 = p.length by omega, List.take_length] at hq
      rw [scanLoop_step _ hay s e he pre false true _ _ acc hlt hq (single_move_self p sk hp ..)]
      rfl

theorem scanLoop_single_le (p : List α) (hne : p ≠ []) (sk : StartKind) (hp : Bool)
    (hay : List α) (s e : Nat) (he : e ≤ hay.length) (pre : Prefilter α)
    (hpre : MemLike p pre hay e) (sid : St α) (at_ acc : Nat) :
    scanLoop (ideal .std [p] sk hp) hay s e he (some pre) false true sid at_ acc ≤
      acc + (e - at_) := by
  induction at_ using upTo_induction e generalizing sid acc with
  | stop a h => rw [scanLoop_done h]; exact Nat.le_add_right _ _
  | step a hlt ih =>
    have go : ∀ (sid' : St α),
        scanLoop (ideal .std [p] sk hp) hay s e he (some pre) false true sid' (a + 1) acc ≤
          acc + (e - a) := fun sid' =>
      Nat.le_trans (ih _ (Nat.lt_succ_self _) sid' acc) (by omega)
    generalize hsid' : (ideal .std [p] sk hp).next false sid
      (hay[a]'(Nat.lt_of_lt_of_le hlt he)) = sid'
    rw [scanLoop_step _ hay s e he _ false true sid a acc hlt hsid' rfl]
    cases hm : move (ideal .std [p] sk hp) hay s e (some pre) false sid' a with
    | dead => exact Nat.le_add_right _ _
    | hit m => exact Nat.le_add_right _ _
    | next => exact go _
    | asked c =>
      have hroot : sid' = .at [] := ideal_asked_root hm
      obtain ⟨_, _, _, _, hq, rfl⟩ := of_move_eq_asked hm
      cases hq
      have hq := hpre a (Nat.le_of_lt hlt)
      cases hc : pre hay a e with
      | none => exact Nat.le_refl _
      | pos j => rw [hc] at hq; exact hq.elim
      | mtch m =>
        rw [hc] at hq
        obtain ⟨hq1, hq2, hq3, hq4⟩ := hq
        have hpl : 0 < p.length := List.length_pos_iff.2 hne
        rcases Nat.lt_or_ge a m.start with hgt | hle
        · -- resume at the start of the confirmed occurrence: walk it, return
          have hw := scanLoop_walk p sk hp hay s e he (some pre) m.start hq4
            (by omega) 0 hpl (acc + (m.stop - a))
          simp only [Move.halts, Move.resume, scanUpd, Cand.intoOption, Cand.extent,
            Option.isNone_some, Option.getD_some, Nat.max_eq_left hgt, Bool.false_eq_true, if_false]
          rw [hroot]
          rw [List.take_zero, Nat.add_zero] at hw
          rw [hw]
          omega
        · -- the occurrence would start at `a`: then the state is not the root
          exfalso
          have hms : m.start = a := by omega
          have hc0 : hay[a]'(Nat.lt_of_lt_of_le hlt he) = p[0] := by
            have := hq4.getElem_drop (s := m.start) (j := 0) hpl
              (by rw [hms]; exact Nat.lt_of_lt_of_le hlt he)
            simpa [hms] using this
          rw [hroot, hc0] at hsid'
          cases sid with
          | dead => cases hsid'
          | «at» u =>
            have hsid'' : Ideal.next .std (patSet .std [p]) false (.at u) p[0] =
              .at [] := hsid'
            simp only [Ideal.next, Bool.false_eq_true, if_false, stepStd] at hsid''
            injection hsid'' with hsid''
            refine lsp_snoc_ne_nil _ p[0] ?_ u hsid''
            rw [patSet_single, isPref_single, List.isPrefixOf_iff_prefix]
            have : [p[0]] = p.take 1 := by
              cases p with
              | nil => exact absurd rfl hne
              | cons a t => rfl
            rw [this]
            exact List.take_prefix _ _

end ScanP
end AcVerif
