import AcVerif.Proofs.DfaRow
import AcVerif.DfaIds
/-!
# The rows that `finish_build_both_starts` writes

`idsStartRow` / `idsARow` / `idsURow` of `DfaIds.lean`, for an arbitrary remap function `rem`:
`rowOf N classOf nc anch rem s` is the row written for the state `s` in its role in the mode `anch`
(dead row, start row, anchored or unanchored row of a trie node), and `rowOf_entry` says that at a
live state of the mode its entry for the class of `b` is `rem` of `next_state` on `b`, provided
`rem 0 = 0`.
-/
namespace AcVerif.L1dP
open AcVerif AcVerif.CNfa AcVerif.L1cP AcVerif.L1eP AcVerif.L1dIdsP

/-! ## the special rows as `foldSet`s -/

theorem idsStartRow_foldSet (n : CNfa) (classOf : UInt8 → Nat) (nc : Nat) (rem : Nat → Nat)
    (sid : Nat) :
    idsStartRow n classOf nc rem sid =
      foldSet (fun x => x.2.1) (fun x => some (if x.2.2 == FAIL then 0 else rem x.2.2))
        (sparseIter (n.getD sid {}).trans classOf) (Array.replicate nc 0) := rfl

theorem idsARow_foldSet (n : CNfa) (classOf : UInt8 → Nat) (nc : Nat) (remA : Nat → Nat)
    (sid : Nat) :
    idsARow n classOf nc remA sid =
      foldSet (fun x => x.2.1) (fun x => if x.2.2 == FAIL then none else some (remA x.2.2))
        (sparseIter (n.getD sid {}).trans classOf) (Array.replicate nc 0) := by
  unfold idsARow foldSet
  apply foldl_congr'
  intro row x
  obtain ⟨x1, x2, x3⟩ := x
  by_cases h : (x3 == FAIL) = true
  · simp only [h, if_true]
  · simp only [h, Bool.false_eq_true, if_false]

/-! ## the row of a state in its role in a mode -/

def rowOf (N : CNfa) (classOf : UInt8 → Nat) (nc : Nat) (anch : Bool) (rem : Nat → Nat) (s : Nat) :
    Array Nat :=
  if s = 0 then Array.replicate nc 0
  else if s = startOf anch then idsStartRow N classOf nc rem s
  else if anch then idsARow N classOf nc rem s else idsURow N classOf nc rem s

section
variable (N : CNfa) (classOf : UInt8 → Nat) (nc : Nat) (anch : Bool) (rem : Nat → Nat) {s : Nat}

theorem rowOf_dead (e : s = 0) : rowOf N classOf nc anch rem s = Array.replicate nc 0 := if_pos e

theorem rowOf_start (e : s = startOf anch) :
    rowOf N classOf nc anch rem s = idsStartRow N classOf nc rem s :=
  (if_neg (by rw [e]; cases anch <;> decide)).trans (if_pos e)

theorem rowOf_node (h4 : 4 ≤ s) :
    rowOf N classOf nc anch rem s =
      if anch then idsARow N classOf nc rem s else idsURow N classOf nc rem s :=
  (if_neg (by omega)).trans (if_neg (by have := startOf_cases anch; omega))

end

end AcVerif.L1dP

/-! ## row entries -/

namespace AcVerif.L1cP.NfaSpec
open AcVerif AcVerif.CNfa AcVerif.L1cP AcVerif.L1dP AcVerif.L1eP AcVerif.L1dIdsP

variable {f : UInt8 → UInt8} {k : MatchKind} {Q : PatSet UInt8} {L : List (List UInt8)} {N : CNfa}
variable {classOf : UInt8 → Nat} {nc : Nat}

theorem su_entry (h : NfaSpec f k Q L N) (hC : ClassOK N classOf nc) (rem : Nat → Nat) (b : UInt8) :
    (idsStartRow N classOf nc rem 2).getD (classOf b) 0 =
      rem (nextState N false (N.size + 1) 2 b 0).1 := by
  rw [idsStartRow_foldSet]
  refine (row_fold N 2 classOf
    (fun r => some (if follow N 2 r == FAIL then 0 else rem (follow N 2 r)))
    ?_ _ ?_ _ b ?_ 0).trans ?_
  · intro b b' hc
    rw [h.follow_cong_VU hC VU_su hc]
  · intro r; rfl
  · rw [Array.size_replicate]; exact hC.lt b
  · have hf : follow N 2 b ≠ FAIL := h.follow_su_ne_fail b
    have : (follow N 2 b == FAIL) = false := by simpa using hf
    rw [nextState_stop N false N.size 2 b 0 hf]
    simp only [this, Bool.false_eq_true, if_false, Option.getD_some]

theorem sa_entry (h : NfaSpec f k Q L N) (hC : ClassOK N classOf nc) (rem : Nat → Nat)
    (h0 : rem 0 = 0) (b : UInt8) :
    (idsStartRow N classOf nc rem 3).getD (classOf b) 0 =
      rem (nextState N true (N.size + 1) 3 b 0).1 := by
  rw [idsStartRow_foldSet]
  refine (row_fold N 3 classOf
    (fun r => some (if follow N 3 r == FAIL then 0 else rem (follow N 3 r)))
    ?_ _ ?_ _ b ?_ 0).trans ?_
  · intro b b' hc
    rw [h.follow_cong_VA hC VA_sa hc]
  · intro r; rfl
  · rw [Array.size_replicate]; exact hC.lt b
  · rw [anch_entry]
    by_cases hf : follow N 3 b = FAIL
    · have : (follow N 3 b == FAIL) = true := by simpa using hf
      simp only [this, if_true, Option.getD_some]; exact h0.symm
    · have : (follow N 3 b == FAIL) = false := by simpa using hf
      simp only [this, Bool.false_eq_true, if_false, Option.getD_some]

theorem node_entryA (h : NfaSpec f k Q L N) (hC : ClassOK N classOf nc) (rem : Nat → Nat)
    (h0 : rem 0 = 0) {s : Nat} (hv : VA L s) (b : UInt8) :
    (idsARow N classOf nc rem s).getD (classOf b) 0 =
      rem (nextState N true (N.size + 1) s b 0).1 := by
  rw [idsARow_foldSet]
  refine (row_fold N s classOf
    (fun r => if follow N s r == FAIL then none else some (rem (follow N s r)))
    ?_ _ ?_ _ b ?_ 0).trans ?_
  · intro b b' hc
    rw [h.follow_cong_VA hC hv hc]
  · intro r; rfl
  · rw [Array.size_replicate]; exact hC.lt b
  · rw [anch_entry]
    by_cases hf : follow N s b = FAIL
    · have : (follow N s b == FAIL) = true := by simpa using hf
      simp only [this, if_true, Option.getD_none]
      rw [Array.getD_replicate _ _ _ (hC.lt b)]; exact h0.symm
    · have : (follow N s b == FAIL) = false := by simpa using hf
      simp only [this, Bool.false_eq_true, if_false, Option.getD_some]

theorem node_entryU (h : NfaSpec f k Q L N) (hC : ClassOK N classOf nc) (rem : Nat → Nat) {s : Nat}
    (hv : VU L s) (b : UInt8) :
    (idsURow N classOf nc rem s).getD (classOf b) 0 =
      rem (nextState N false (N.size + 1) s b 0).1 := by
  unfold idsURow
  rw [Array.getD_map_of_lt _ _ 0 0 (by rw [dfaRow_size]; exact hC.lt b), h.rowU_spec hC hv b 0]

theorem rowOf_entry (h : NfaSpec f k Q L N) (hC : ClassOK N classOf nc) (anch : Bool)
    (rem : Nat → Nat) (h0 : rem 0 = 0) {s : Nat} (hv : LvA L anch s) (b : UInt8) :
    (rowOf N classOf nc anch rem s).getD (classOf b) 0 =
      rem (nextState N anch (N.size + 1) s b 0).1 := by
  rcases h.LvA_cases hv with e | e | e
  · rw [rowOf_dead _ _ _ _ _ e, Array.getD_replicate _ _ _ (hC.lt b), show s = DEAD from e,
      nextState_dead N anch _ b 0 (h.goto_dead b)]
    exact h0.symm
  · rw [rowOf_start _ _ _ _ _ e, e]
    cases anch
    · exact h.su_entry hC rem b
    · exact h.sa_entry hC rem h0 b
  · rw [rowOf_node _ _ _ _ _ e]
    cases anch
    · exact h.node_entryU hC rem hv b
    · exact h.node_entryA hC rem h0 hv b

end AcVerif.L1cP.NfaSpec
