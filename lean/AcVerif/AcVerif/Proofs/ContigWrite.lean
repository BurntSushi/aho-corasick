import AcVerif.Proofs.ContigDefs
/-!
# L1e proofs: the three shapes of `State::write`

`writeState classOf al st newId fd` as an explicit word list in each of its cases:
`writeState_dense` (forced dense or more than 127 transitions: `KIND_DENSE`, fail, the `al` words
of `denseRow`, then `wTail`), `writeState_one` (one transition, no match: three words, the class in
byte 1 of the first), `writeState_sparse` (count, fail, packed classes, targets, `wTail`).  `wTail st`
is the match part (nothing / one pattern id with the top bit set / length and ids).  `kind_sparse`
and `kind_one` read the kind byte back from the first word.
-/
namespace AcVerif.L1eP
open AcVerif AcVerif.CNfa AcVerif.L1cP AcVerif.L1dP

def denseRow (classOf : UInt8 → Nat) (al : Nat) (st : CState) (newId : Nat → Nat) : Array Nat :=
  foldSet (fun x : UInt8 × Nat => classOf x.1) (fun x => some (newId x.2)) st.trans
    (Array.replicate al FAIL)

def wTail (st : CState) : List Nat :=
  if st.matches_.isEmpty then []
  else match st.matches_ with
    | [pid] => [2147483648 + pid]
    | ms => ms.length :: ms

theorem foldl_map_set (classOf : UInt8 → Nat) (newId : Nat → Nat) (l : List (UInt8 × Nat))
    (row : Array Nat) :
    (l.map fun (b, t) => (classOf b, newId t)).foldl (fun (row : Array Nat) (c, t) => row.set! c t) row =
      foldSet (fun x : UInt8 × Nat => classOf x.1) (fun x => some (newId x.2)) l row := by
  induction l generalizing row with
  | nil => rfl
  | cons x l ih =>
    rw [List.map_cons, List.foldl_cons, ih, foldSet_cons]

theorem denseRow_size (classOf : UInt8 → Nat) (al : Nat) (st : CState) (newId : Nat → Nat) :
    (denseRow classOf al st newId).size = al := by
  unfold denseRow
  rw [foldSet_size, Array.size_replicate]

theorem writeState_dense (classOf : UInt8 → Nat) (al : Nat) (st : CState) (newId : Nat → Nat)
    (fd : Bool) (h : fd = true ∨ 127 < st.trans.length) :
    writeState classOf al st newId fd =
      [KIND_DENSE, newId st.fail] ++ (denseRow classOf al st newId).toList ++ wTail st := by
  unfold writeState wTail denseRow
  have hc : (fd || decide ((st.trans.map fun (b, t) => (classOf b, newId t)).length > 127)) = true := by
    rcases h with h | h
    · simp [h]
    · simp [h]
  simp only [hc, if_true, foldl_map_set]
  cases hm : st.matches_.isEmpty
  · simp only [Bool.not_false, Bool.not_true, Bool.false_eq_true, if_false]
    rfl
  · simp

theorem writeState_one (classOf : UInt8 → Nat) (al : Nat) (st : CState) (newId : Nat → Nat)
    (fd : Bool) (h : fd = false) (b : UInt8) (t : Nat) (hl : st.trans = [(b, t)])
    (hm : st.matches_ = []) :
    writeState classOf al st newId fd = [KIND_ONE + classOf b * 256, newId st.fail, newId t] := by
  unfold writeState
  simp [h, hl, hm]

theorem writeState_sparse (classOf : UInt8 → Nat) (al : Nat) (st : CState) (newId : Nat → Nat)
    (fd : Bool) (h : fd = false) (hl : st.trans.length ≤ 127)
    (hne : ¬ (st.trans.length = 1 ∧ st.matches_ = [])) :
    writeState classOf al st newId fd =
      [st.trans.length, newId st.fail] ++
        writeState.chunks (st.trans.map fun x => classOf x.1) (st.trans.length + 1) ++
        (st.trans.map fun x => newId x.2) ++ wTail st := by
  subst h
  unfold writeState wTail
  have hc : ¬ (st.trans.length > 127) := by omega
  have e1 : ((fun x : Nat × Nat => x.1) ∘ fun (x : UInt8 × Nat) => match x with | (b, t) => (classOf b, newId t)) =
      fun x => classOf x.1 := rfl
  have e2 : ((fun x : Nat × Nat => x.2) ∘ fun (x : UInt8 × Nat) => match x with | (b, t) => (classOf b, newId t)) =
      fun x => newId x.2 := rfl
  simp only [List.length_map, Bool.false_or, List.map_map, decide_eq_true_eq, hc, if_false, e1, e2]
  have h1 : (st.trans.length == 1 && !(!st.matches_.isEmpty)) = false := by
    cases hm : st.matches_.isEmpty
    · simp
    · simp only [Bool.not_true, Bool.not_false, Bool.and_true, beq_eq_false_iff_ne]
      intro e; exact hne ⟨e, by simpa using hm⟩
  rw [h1]
  simp only [Bool.false_eq_true, if_false]
  cases hm : st.matches_.isEmpty
  · simp only [Bool.not_false, Bool.not_true, Bool.false_eq_true, if_false]
    rfl
  · simp

/-! ## the kind byte of the first word -/

theorem kind_sparse {n : Nat} (h : n ≤ 127) :
    n % 256 = n ∧ (n == KIND_DENSE) = false ∧ (n == KIND_ONE) = false := by
  simp only [KIND_DENSE, KIND_ONE, beq_eq_false_iff_ne, ne_eq]
  omega

theorem kind_one {c : Nat} (h : c < 256) :
    (KIND_ONE + c * 256) % 256 = KIND_ONE ∧ (KIND_ONE + c * 256) / 256 % 256 = c := by
  simp only [KIND_ONE]
  omega

theorem kind_one_ne_dense : (KIND_ONE == KIND_DENSE) = false := by decide

end AcVerif.L1eP
