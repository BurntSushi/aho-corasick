import AcVerif.Proofs.TopLevelApi
/-!
# Capstone proofs: stream replace and stream faults on a searcher returned by the builder

C08 / C18 of the reference automaton (`streamRef_ref`) through `Good.tied`: the stream replace on
the searcher's automaton is the stream replace on the prefilter-free reference automaton
(`Good.topStreamReplaceAllWith_eq`), hence what `try_replace_all_with_bytes` computes in memory
(`api_stream_replace_with`).  The table variant and the two faults are fields of `TopP.Good.spec2`
(`Theorems/TopLevel2.lean`).
-/
namespace AcVerif.TopP
open AcVerif AcVerif.MiscP AcVerif.StreamX

/-- a replacement table of the wrong length: `assert_eq!` panics once the gate is passed -/
theorem topStreamReplaceAll_panic (s : Searcher) (rdr : Reader UInt8) (spare : Option Nat)
    (w : Writer UInt8) (replaceWith : List (List UInt8)) (minFactor defaultCap : Nat)
    (hl : replaceWith.length ≠ s.pats.length) (h : supportsAnch s.cfg.startKind false) :
    topStreamReplaceAll s rdr spare w replaceWith minFactor defaultCap = .ok .panic := by
  have hpl : s.aut.patternsLen = s.pats.length := toAut_patternsLen _ _ _
  unfold topStreamReplaceAll
  rw [gate_none h]
  simp only [hpl, ne_eq, hl, not_false_eq_true, if_true]

section good
variable {s : Searcher} {kd : AcKind} (hg : Good s kd)
include hg

theorem Good.topStreamReplaceAllWith_eq (hk : s.cfg.matchKind = .std)
    (h : supportsAnch s.cfg.startKind false) (rdr : Reader UInt8) (spare : Option Nat)
    (w : Writer UInt8) (repl : Mat → List UInt8) (minFactor defaultCap : Nat) :
    topStreamReplaceAllWith s rdr spare w repl minFactor defaultCap =
      streamReplaceWith (refAut s.cfg.fold .std s.pats (autSk s.kind s.cfg.startKind) false) rdr
        spare w repl minFactor defaultCap := by
  unfold topStreamReplaceAllWith
  rw [gate_none h]
  exact (hg.tied hk).streamReplaceWith rdr spare w repl minFactor defaultCap

/-- C08: `try_stream_replace_all_with` hands the writer what `try_replace_all_with_bytes`
computes in memory -/
theorem api_stream_replace_with (hok : PreOK s.cfg.fold s.cfg.matchKind s.pats s.pre)
    (hk : s.cfg.matchKind = .std) (hne : ∀ p ∈ s.pats, p ≠ [])
    (h : supportsAnch s.cfg.startKind false) (data : List UInt8) (sched : List Nat)
    (hs : ∀ x ∈ sched, 1 ≤ x) (spare : Option Nat) (minFactor defaultCap : Nat)
    (hcap : (Buffer.new (α := UInt8) (maxPatLen s.pats) spare minFactor defaultCap).min <
      (Buffer.new (α := UInt8) (maxPatLen s.pats) spare minFactor defaultCap).cap)
    (repl : Mat → List UInt8) :
    ∃ F, (∀ st, st ≤ data.length + 1 →
        IsFind .std (specPats s.cfg.fold s.pats) (specHay s.cfg.fold data) st data.length false
          (F st)) ∧
      topFindIter s (Input.whole data) = .ok (iterSpec F 0 data.length) ∧
      topStreamReplaceAllWith s { data := data, sched := sched } spare {} repl minFactor
          defaultCap =
        .ok ({ out := (replaceBytes data (iterSpec F 0 data.length) repl none).1 },
          (replaceBytes data (iterSpec F 0 data.length) repl none).2, true, 0) ∧
      topReplaceAllWithBytes s data repl none =
        .ok (replaceBytes data (iterSpec F 0 data.length) repl none) ∧
      (replaceBytes data (iterSpec F 0 data.length) repl none).1 =
        spliceSpec data repl 0 (iterSpec F 0 data.length) ∧
      (replaceBytes data (iterSpec F 0 data.length) repl none).2 =
        (iterSpec F 0 data.length).map fun m => (m, (data.take m.stop).drop m.start) := by
  obtain ⟨F, hF, hi, hr, hb, hl⟩ := (api_replace_with_bytes hg hok data repl none).1 h
  refine ⟨F, hk ▸ hF, hi, ?_, hr, hb, hl⟩
  obtain ⟨ms, h1, h2⟩ :=
    (streamRef_ref s.cfg.fold hne (supports_autSk s.kind h) data hcap).replace_eq hs repl
  rw [whole_iter_eq hg hok hk h, h1] at hi
  cases hi
  rw [hg.topStreamReplaceAllWith_eq hk h]
  exact h2

end good

end AcVerif.TopP
