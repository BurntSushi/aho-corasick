import AcVerif.Proofs.ContigBase
import AcVerif.Proofs.ContigWrite
import AcVerif.Proofs.ContigScan
/-!
# L1e proofs: the layout of `buildContig`

The length of `writeState` does not depend on the remap table (`writeState_length_congr`); what a
reader finds in a stored state (`Stored.dense`, `Stored.sparse`); `cOffsets` in closed form (prefix
sums of the state sizes, `cOffsets_eq`; order of the offsets, `offAt_le_iff`); `cRepr` as a
concatenation (`cRepr_eq`) and its slice at the offset of position `i` (`cRepr_slice`).
-/
namespace AcVerif.L1eP
open AcVerif AcVerif.CNfa AcVerif.L1cP AcVerif.L1dP

/-! ## the size of a written state does not depend on the remap table -/

theorem wTail_def (st : CState) : wTail st =
    if st.matches_.isEmpty then [] else match st.matches_ with
      | [pid] => [2147483648 + pid]
      | ms => ms.length :: ms := rfl

theorem writeState_cases (st : CState) (fd : Bool) :
    (fd = true ∨ 127 < st.trans.length) ∨
      (fd = false ∧ st.trans.length ≤ 127 ∧ ∃ b t, st.trans = [(b, t)] ∧ st.matches_ = []) ∨
      (fd = false ∧ st.trans.length ≤ 127 ∧ ¬ (st.trans.length = 1 ∧ st.matches_ = [])) := by
  by_cases h : fd = true ∨ 127 < st.trans.length
  · exact Or.inl h
  · have h1 : fd = false := by
      cases fd
      · rfl
      · exact absurd (Or.inl rfl) h
    have h2 : st.trans.length ≤ 127 := by
      have : ¬ 127 < st.trans.length := fun e => h (Or.inr e)
      omega
    right
    by_cases h3 : st.trans.length = 1 ∧ st.matches_ = []
    · left
      refine ⟨h1, h2, ?_⟩
      obtain ⟨h3, h4⟩ := h3
      match hh : st.trans, h3 with
      | [(b, t)], _ => exact ⟨b, t, rfl, h4⟩
    · exact Or.inr ⟨h1, h2, h3⟩

/-- the number of words of a written state: two header words, then a row of `al` entries, or the
single target, or the packed classes and the targets; then the match words -/
theorem writeState_length (classOf : UInt8 → Nat) (al : Nat) (st : CState) (f : Nat → Nat)
    (fd : Bool) :
    (writeState classOf al st f fd).length =
      (if fd = true ∨ 127 < st.trans.length then 2 + al
        else if st.trans.length = 1 ∧ st.matches_ = [] then 3
        else 2 + u32Len st.trans.length + st.trans.length) + (wTail st).length := by
  rcases writeState_cases st fd with h | ⟨h1, h2, b, t, h3, h4⟩ | ⟨h1, h2, h3⟩
  · rw [writeState_dense _ _ _ _ _ h, if_pos h]
    simp only [List.length_append, Array.length_toList, denseRow_size, List.length_cons,
      List.length_nil]
  · have hn : ¬ (fd = true ∨ 127 < st.trans.length) := by rw [h1]; simp; omega
    rw [writeState_one _ _ _ _ _ h1 b t h3 h4, if_neg hn, if_pos ⟨by rw [h3]; rfl, h4⟩, wTail_def,
      h4]
    rfl
  · have hn : ¬ (fd = true ∨ 127 < st.trans.length) := by rw [h1]; simp; omega
    rw [writeState_sparse _ _ _ _ _ h1 h2 h3, if_neg hn, if_neg h3]
    simp only [List.length_append, List.length_map, List.length_cons, List.length_nil,
      chunks_length _ _ (show (st.trans.map fun x => classOf x.1).length < st.trans.length + 1 by
        rw [List.length_map]; omega)]

theorem writeState_length_congr (classOf : UInt8 → Nat) (al : Nat) (st : CState)
    (f g : Nat → Nat) (fd : Bool) :
    (writeState classOf al st f fd).length = (writeState classOf al st g fd).length := by
  rw [writeState_length, writeState_length]

theorem writeState_length_ge (classOf : UInt8 → Nat) (al : Nat) (st : CState)
    (f : Nat → Nat) (fd : Bool) : 2 ≤ (writeState classOf al st f fd).length := by
  rw [writeState_length]
  split
  · omega
  · split <;> omega

/-! ## the parts of a written state, as a reader sees them -/

section
variable {classOf : UInt8 → Nat} {al : Nat} {newId : Nat → Nat} {st : CState} {fd : Bool}
variable {rd : Nat → Nat} {o : Nat}

theorem Stored.dense (hrd : Stored rd o (writeState classOf al st newId fd))
    (hd : fd = true ∨ 127 < st.trans.length) :
    rd o = KIND_DENSE ∧ Stored rd (o + 2) (denseRow classOf al st newId).toList ∧
      Stored rd (o + 2 + al) (wTail st) ∧
      (writeState classOf al st newId fd).length = 2 + al + (wTail st).length := by
  rw [writeState_dense _ _ _ _ _ hd] at hrd ⊢
  have hlen : ([KIND_DENSE, newId st.fail] ++ (denseRow classOf al st newId).toList).length = 2 + al := by
    rw [List.length_append]
    show 2 + (denseRow classOf al st newId).size = 2 + al
    rw [denseRow_size]
  refine ⟨hrd.left.left.head, hrd.left.right, ?_, by rw [List.length_append, hlen]⟩
  have := hrd.right
  rwa [hlen, ← Nat.add_assoc] at this

theorem Stored.sparse (hrd : Stored rd o (writeState classOf al st newId fd)) (h : fd = false)
    (hl : st.trans.length ≤ 127) (hne : ¬ (st.trans.length = 1 ∧ st.matches_ = [])) :
    rd o = st.trans.length ∧
      Stored rd (o + 2)
        (writeState.chunks (st.trans.map fun x => classOf x.1) (st.trans.length + 1)) ∧
      Stored rd (o + 2 + u32Len st.trans.length) (st.trans.map fun x => newId x.2) ∧
      Stored rd (o + 2 + u32Len st.trans.length + st.trans.length) (wTail st) ∧
      (writeState classOf al st newId fd).length =
        2 + u32Len st.trans.length + st.trans.length + (wTail st).length := by
  rw [writeState_sparse _ _ _ _ _ h hl hne] at hrd ⊢
  have hch := chunks_length (st.trans.map fun x => classOf x.1) (st.trans.length + 1)
    (by rw [List.length_map]; omega)
  rw [List.length_map] at hch
  have hl1 : ([st.trans.length, newId st.fail] ++
      writeState.chunks (st.trans.map fun x => classOf x.1) (st.trans.length + 1)).length =
      2 + u32Len st.trans.length := by rw [List.length_append, hch]; rfl
  have hl2 : ([st.trans.length, newId st.fail] ++
      writeState.chunks (st.trans.map fun x => classOf x.1) (st.trans.length + 1) ++
      (st.trans.map fun x => newId x.2)).length = 2 + u32Len st.trans.length + st.trans.length := by
    rw [List.length_append, hl1, List.length_map]
  refine ⟨hrd.left.left.left.head, hrd.left.left.right, ?_, ?_, by rw [List.length_append, hl2]⟩
  · have := hrd.left.right
    rwa [hl1, ← Nat.add_assoc] at this
  · have := hrd.right
    rwa [hl2, ← Nat.add_assoc, ← Nat.add_assoc] at this

end

/-! ## sizes and offsets -/

/-- the number of words of the state at position `i` (`FAIL` is not written) -/
def sizeAt (n : CNfa) (dd : Nat) (bc : Bool) (i : Nat) : Nat :=
  if i == FAIL then 0 else (cW n dd bc (fun t => t) i).length

def offAt (n : CNfa) (dd : Nat) (bc : Bool) (i : Nat) : Nat := psum (sizeAt n dd bc) i

theorem cW_length (n : CNfa) (dd : Nat) (bc : Bool) (f g : Nat → Nat) (i : Nat) :
    (cW n dd bc f i).length = (cW n dd bc g i).length :=
  writeState_length_congr _ _ _ f g _

theorem sizeAt_ge (n : CNfa) (dd : Nat) (bc : Bool) {i : Nat} (h : i ≠ 1) : 2 ≤ sizeAt n dd bc i := by
  unfold sizeAt
  have : (i == FAIL) = false := by simpa [FAIL] using h
  rw [this]
  exact writeState_length_ge _ _ _ _ _

theorem sizeAt_one (n : CNfa) (dd : Nat) (bc : Bool) : sizeAt n dd bc 1 = 0 := rfl

theorem cSizes_getD (n : CNfa) (dd : Nat) (bc : Bool) {i : Nat} (h : i < n.size) :
    (cSizes n dd bc).getD i 0 = sizeAt n dd bc i := by
  unfold cSizes sizeAt
  simp [List.getD_eq_getElem?_getD, h]

theorem cOffsets_eq (n : CNfa) (dd : Nat) (bc : Bool) :
    cOffsets n dd bc =
      ((List.range n.size).map fun i => if i == FAIL then FAIL else offAt n dd bc i).toArray := by
  unfold cOffsets
  rw [offs_fold]
  show ((List.range n.size).map _).toArray = _
  congr 1
  apply List.map_congr_left
  intro i hi
  have hi := List.mem_range.1 hi
  by_cases e : (i == FAIL) = true
  · simp only [e, if_true]
  · simp only [e, Bool.false_eq_true, if_false]
    unfold offAt
    apply psum_congr
    intro j hj
    by_cases e' : (j == FAIL) = true
    · have : j = 1 := by simpa [FAIL] using e'
      subst this; rfl
    · simp only [e', Bool.false_eq_true, if_false]
      exact cSizes_getD n dd bc (by omega)

theorem cOffsets_getD (n : CNfa) (dd : Nat) (bc : Bool) {i : Nat} (h : i < n.size) :
    (cOffsets n dd bc).getD i 0 = if i = 1 then 1 else offAt n dd bc i := by
  rw [cOffsets_eq, Array.getD_toArray, List.getD_map_range _ _ _ _ h]
  by_cases e : i = 1
  · subst e; rfl
  · have : (i == FAIL) = false := by simpa [FAIL] using e
    rw [this, if_neg e]; rfl

theorem cOffsets_getD_ge (n : CNfa) (dd : Nat) (bc : Bool) {i : Nat} (h : n.size ≤ i) :
    (cOffsets n dd bc).getD i 0 = 0 := by
  rw [cOffsets_eq, Array.getD_toArray, List.getD_map_range_ge _ _ _ _ h]

theorem offAt_zero (n : CNfa) (dd : Nat) (bc : Bool) : offAt n dd bc 0 = 0 := rfl

theorem offAt_lt (n : CNfa) (dd : Nat) (bc : Bool) {i j : Nat} (h : i < j) (h1 : i ≠ 1) :
    offAt n dd bc i + 2 ≤ offAt n dd bc j := by
  have := psum_succ_le (sizeAt n dd bc) h
  have := sizeAt_ge n dd bc h1
  unfold offAt; omega

theorem offAt_le_iff (n : CNfa) (dd : Nat) (bc : Bool) {i j : Nat} (hj : j ≠ 1) :
    offAt n dd bc i ≤ offAt n dd bc j ↔ i ≤ j := by
  constructor
  · intro h
    by_cases e : i ≤ j
    · exact e
    · have := offAt_lt n dd bc (show j < i by omega) hj
      omega
  · intro h
    exact psum_mono _ h

/-! ## `repr` -/

theorem cRepr_eq (n : CNfa) (dd : Nat) (bc : Bool) :
    cRepr n dd bc = ((List.range n.size).flatMap fun i =>
      if i == FAIL then [] else cW n dd bc (cNewId n dd bc) i).toArray := by
  unfold cRepr
  exact repr_fold _ _

theorem lenF_eq (n : CNfa) (dd : Nat) (bc : Bool) :
    (fun i => (if i == FAIL then [] else cW n dd bc (cNewId n dd bc) i).length) = sizeAt n dd bc := by
  funext i
  unfold sizeAt
  by_cases e : (i == FAIL) = true
  · simp only [e, if_true, List.length_nil]
  · simp only [e, Bool.false_eq_true, if_false]
    exact cW_length _ _ _ _ _ _

theorem cRepr_size (n : CNfa) (dd : Nat) (bc : Bool) : (cRepr n dd bc).size = offAt n dd bc n.size := by
  rw [cRepr_eq, List.size_toArray, flat_length, lenF_eq]; rfl

theorem cRepr_slice (n : CNfa) (dd : Nat) (bc : Bool) {i : Nat} (hi : i < n.size) (h1 : i ≠ 1) :
    Stored (fun x => (cRepr n dd bc).getD x 0) (offAt n dd bc i)
      (cW n dd bc (cNewId n dd bc) i) := by
  intro j hj
  have hF : (if i == FAIL then [] else cW n dd bc (cNewId n dd bc) i) = cW n dd bc (cNewId n dd bc) i := by
    have : (i == FAIL) = false := by simpa [FAIL] using h1
    rw [this]; rfl
  have := flat_getD (fun i => if i == FAIL then [] else cW n dd bc (cNewId n dd bc) i) n.size 0 i j hi
    (by rw [hF]; exact hj)
  rw [lenF_eq, hF] at this
  show (cRepr n dd bc).getD (offAt n dd bc i + j) 0 = _
  rw [cRepr_eq]
  unfold offAt
  simpa [Array.getD_eq_getD_getElem?, List.getD_eq_getElem?_getD] using this

/-- every state but `FAIL` takes at least two words -/
theorem size_le_repr (n : CNfa) (dd : Nat) (bc : Bool) (h2 : 2 ≤ n.size) :
    n.size ≤ (cRepr n dd bc).size := by
  have := psum_ge (sizeAt n dd bc) n.size (fun i _ h1 => sizeAt_ge n dd bc h1)
  rw [cRepr_size]
  show n.size ≤ psum (sizeAt n dd bc) n.size
  omega

end AcVerif.L1eP
