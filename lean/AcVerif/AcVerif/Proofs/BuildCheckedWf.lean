import AcVerif.Proofs.BuildCheckedBase
import AcVerif.Proofs.TrieRule
/-!
# C20: `states.len() + 509 ≤ sparse.len()` after `build_trie`

The real code allocates a new `sparse` entry exactly when `add_transition` lengthens a list.  We
count, per state, the entries whose target is not FAIL (`gN`) and those whose target is FAIL
(`gC`); `gT = gN + gC`.  Every new trie state comes with a *new non-FAIL entry* in its parent: either
a fresh entry (parent is not the unanchored start state) or an overwritten FAIL entry (parent is the
unanchored start state).  So `Σ gN` grows by at least one per state, starting from 256 (the DEAD
state's self loops) with 4 states: `size + 252 ≤ Σ gN` is a `TrieRule` (`count_rule`).  The shape
`MemC.TI` that comes with the rule says that the anchored start state still has its 256 FAIL
entries.  Together: `size + 252 + 256 ≤ Σ gT = sparseLen - 1` (`size_lt_sparseLen`).
-/
namespace AcVerif.BuildP
open AcVerif AcVerif.CNfa AcVerif.L1cP AcVerif.MemC

/-! ## counting entries by target -/

/-- entries that point to a state; `add_transition` never lowers this count (an overwritten `FAIL` entry moves here from `cfL`) -/
def nfL (l : List (UInt8 × Nat)) : Nat := l.countP fun x => x.2 != FAIL
/-- entries still pointing to `FAIL`: what is left of the 256 initial entries of a start state -/
def cfL (l : List (UInt8 × Nat)) : Nat := l.countP fun x => x.2 == FAIL

def gN (st : CState) : Nat := nfL st.trans
def gC (st : CState) : Nat := cfL st.trans

theorem nfL_cons (x : UInt8 × Nat) (l : List (UInt8 × Nat)) :
    nfL (x :: l) = nfL l + if x.2 = FAIL then 0 else 1 := by
  unfold nfL
  rw [List.countP_cons]
  by_cases h : x.2 = FAIL <;> simp [h]

theorem length_eq_nfL_add_cfL : ∀ l : List (UInt8 × Nat), l.length = nfL l + cfL l
  | [] => rfl
  | x :: l => by
    have ih := length_eq_nfL_add_cfL l
    unfold nfL cfL at ih ⊢
    rw [List.countP_cons, List.countP_cons, List.length_cons]
    by_cases h : x.2 = FAIL <;> simp [h] <;> omega

theorem gT_eq (st : CState) : gT st = gN st + gC st := length_eq_nfL_add_cfL st.trans

theorem nfL_insertTrans_ge (b : UInt8) {t : Nat} (ht : t ≠ FAIL) (l : List (UInt8 × Nat)) :
    nfL l ≤ nfL (insertTrans b t l) := by
  refine insertTrans_induction (motive := fun l r => nfL l ≤ nfL r) b t ?_ ?_ ?_ ?_ l
  · exact Nat.zero_le _
  · intro d s rest _; rw [nfL_cons (b, t)]; omega
  · intro s rest
    rw [nfL_cons, nfL_cons, if_neg ht]
    split <;> omega
  · intro d s rest _ ih
    rw [nfL_cons, nfL_cons (d, s)]; omega

/-- when `follow` read FAIL for the byte, a non-FAIL target is one more non-FAIL entry: the entry is
either new or replaces the (first) entry for the byte, whose target was FAIL -/
theorem nfL_insertTrans_succ (b : UInt8) {t : Nat} (ht : t ≠ FAIL) (l : List (UInt8 × Nat)) :
    lookup l b = FAIL → nfL l + 1 ≤ nfL (insertTrans b t l) := by
  refine insertTrans_induction
    (motive := fun l r => lookup l b = FAIL → nfL l + 1 ≤ nfL r) b t ?_ ?_ ?_ ?_ l
  · intro _; rw [nfL_cons, if_neg ht]; exact Nat.le_add_left _ _
  · intro d s rest _ _; rw [nfL_cons (b, t), if_neg ht]; omega
  · intro s rest h
    rw [lookup_cons, if_pos rfl] at h
    rw [nfL_cons, nfL_cons, if_neg ht, if_pos h]; omega
  · intro d s rest hdb ih h
    rw [lookup_cons, if_neg (fun e => UInt8.lt_irrefl _ (e ▸ hdb))] at h
    have := ih h
    rw [nfL_cons, nfL_cons (d, s)]; omega

/-! ## more on sums over the states -/

theorem wsum_modify_add (g : CState → Nat) (f : CState → CState) (d : Nat) (n : CNfa) (i : Nat)
    (hi : i < n.size) (h : g (n.getD i {}) + d ≤ g (f (n.getD i {}))) :
    wsum g n + d ≤ wsum g (n.modify i f) := by
  have := wsum_modify g f n hi
  omega

theorem wsum_add (g g1 g2 : CState → Nat) (h : ∀ a, g a = g1 a + g2 a) (n : CNfa) :
    wsum g n = wsum g1 n + wsum g2 n := by
  unfold wsum; rw [funext h, List.sum_map_add]

theorem wsum_ge_term (g : CState → Nat) (n : CNfa) (i : Nat) (hi : i < n.size) :
    g (n.getD i {}) ≤ wsum g n := by
  unfold wsum
  apply List.le_sum_map g
  rw [Array.getD_eq_getD_getElem?, Array.getElem?_eq_getElem hi]
  exact Array.getElem_mem_toList hi

/-! ## one non-FAIL entry per trie state -/

def Jc (c : Nat) (n : CNfa) : Prop :=
  4 ≤ n.size ∧ (∀ s x, x ∈ (n.getD s {}).trans → x.2 < n.size ∧ x.2 ≠ SA) ∧
  (n.getD SA {}).trans = fullTrans FAIL ∧ c ≤ wsum gN n

theorem Jc.mono {c c' : Nat} {n : CNfa} (h : Jc c n) (hc : c' ≤ c) : Jc c' n :=
  ⟨h.1, h.2.1, h.2.2.1, Nat.le_trans hc h.2.2.2⟩

theorem wsum_gN_init : wsum gN init = 256 := by decide +kernel

theorem gN_addTransition_le (n : CNfa) (p : Nat) (b : UInt8) {t : Nat} (ht : t ≠ FAIL) :
    wsum gN n ≤ wsum gN (addTransition n p b t) :=
  wsum_modify_le gN (fun st => { st with trans := insertTrans b t st.trans })
    (fun a => nfL_insertTrans_ge b ht a.trans) n p

theorem gN_addTransition_succ (n : CNfa) (p : Nat) (b : UInt8) {t : Nat} (ht : t ≠ FAIL)
    (hp : p < n.size) (hf : follow n p b = FAIL) :
    wsum gN n + 1 ≤ wsum gN (addTransition n p b t) :=
  wsum_modify_add gN (fun st => { st with trans := insertTrans b t st.trans }) 1 n p hp
    (nfL_insertTrans_succ b ht _ (by rw [← follow_eq]; exact hf))

theorem gN_newChild (fold : Bool) {n : CNfa} (h4 : 4 ≤ n.size) {prev : Nat} (hp : prev < n.size)
    {b : UInt8} (hf : follow n prev b = FAIL) :
    wsum gN n + 1 ≤ wsum gN (newChild fold n prev b) := by
  have htF : n.size ≠ FAIL := by simp only [FAIL]; omega
  have hf1 : follow (n.push { fail := SU }) prev b = FAIL := by
    unfold follow at hf ⊢
    rw [Array.getD_push_ne _ _ _ (by omega)]; exact hf
  have h1 := gN_addTransition_succ (n.push { fail := SU }) prev b htF
    (by rw [Array.size_push]; omega) hf1
  rw [wsum_push, show gN { fail := SU } = 0 from rfl] at h1
  cases fold with
  | false => exact h1
  | true =>
    exact Nat.le_trans h1 (gN_addTransition_le (addTransition (n.push { fail := SU }) prev b n.size)
      prev (oppositeAsciiCase b) htF)

theorem count_rule (fold : Bool) :
    TrieRule fold (fun (g : Unit) _ => g) (fun n _ _ => n.size + 252 ≤ wsum gN n) where
  walk _ _ _ h _ := h
  child _ hT hp h hf := by
    have := gN_newChild fold hT.size4 hp.1 hf
    rw [size_newChild]; omega

theorem buildTrie_count (k : MatchKind) (fold : Bool) (P : List (List UInt8)) :
    (∃ d, TI fold (buildTrie k fold P) d) ∧
      (buildTrie k fold P).size + 252 ≤ wsum gN (buildTrie k fold P) := by
  rw [← buildTrieG_fst k fold (fun g _ => g) (fun g _ => g) () P]
  exact buildTrieG_rule (I := fun n _ => n.size + 252 ≤ wsum gN n) (count_rule fold)
    (fun _ h => h) (fun _ h => h)
    (fun pid _ _ h => by
      rw [Array.size_modify, wsum_modify_eq gN (fun st => { st with matches_ := st.matches_ ++ [pid] })
        fun _ => rfl]
      exact h)
    (by rw [wsum_gN_init, init_size]; decide) P

theorem cfL_fullTrans_FAIL : cfL (fullTrans FAIL) = 256 := by decide +kernel

/-- `build_trie` leaves more `sparse` entries than states: every state beyond the initial four has a
non-FAIL transition leading to it, the DEAD state has 256 of its own, and the anchored start state
has 256 FAIL transitions (`509 = 1 + 256 + 256 - 4`) -/
theorem size_lt_sparseLen (k : MatchKind) (fold : Bool) (P : List (List UInt8)) :
    (CNfa.buildTrie k fold P).size + 509 ≤ sparseLen (CNfa.buildTrie k fold P) := by
  obtain ⟨⟨d, hT⟩, hc⟩ := buildTrie_count k fold P
  have ha := wsum_add gT gN gC gT_eq (buildTrie k fold P)
  have hb := wsum_ge_term gC (buildTrie k fold P) SA (Nat.lt_of_lt_of_le (by decide) hT.size4)
  have hs : gC ((buildTrie k fold P).getD SA {}) = 256 := by
    unfold gC; rw [show ((buildTrie k fold P).getD SA {}).trans = fullTrans FAIL from hT.sa]
    exact cfL_fullTrans_FAIL
  rw [sparseLen_eq]
  omega

theorem size_compile_lt_sparseLen (k : MatchKind) (fold : Bool) (P : List (List UInt8)) :
    (CNfa.compile k fold P).size + 509 ≤ sparseLen (CNfa.buildTrie k fold P) := by
  rw [size_compile]; exact size_lt_sparseLen k fold P

end AcVerif.BuildP
