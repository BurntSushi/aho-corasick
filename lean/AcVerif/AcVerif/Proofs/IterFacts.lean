import AcVerif.Proofs.SpanSpec
import AcVerif.Engine.Iter
import AcVerif.Theorems.SpecUnique
/-!
# Facts about the specification's iterator `iterSpec`

`iterSpec F s e` drives a search function `F start` = the answer of the search on the span
`[start, e]`.  All it needs of `F` is that an answer lies inside the span it was asked about
(`SpanOK`, which `IsFind` answers satisfy).  Then every yielded match is the answer `F st` of some
restarted search (`iter_answer`, `iter_occ`), the ends increase strictly and a match starts at or
after the previous one's end (`iter_sorted`, `iter_nonoverlap`), and the fuel `e + 2 - s` is never
exhausted (`iter_fuel_any`).

`iterAux_shift`: two search functions that agree, up to a translation by `d`, on a set `D` of
restart positions that the iteration does not leave give the same list up to the translation
(`iterAux_congr` is `d = 0`).  `D = (lo ≤ · ≤ e + 1)` gives `iter_slice` and `iter_frame`;
`D = (· ≤ N)` with non-empty matches is the stream's case (`StreamP.iter_congr`).  `findIter_spec`:
when every restarted engine search returns the specified answer, the engine's iterator is the
specification's.
-/
namespace AcVerif.MiscP
variable {α : Type}

def SpanOK (F : Nat → Option Mat) (e : Nat) : Prop :=
  ∀ st, st ≤ e + 1 → ∀ m, F st = some m → st ≤ m.start ∧ m.start ≤ m.stop ∧ m.stop ≤ e

theorem spanOK_of_isFind {k : MatchKind} {P : List (List α)} {hay : List α} {e : Nat}
    {anch : Bool} {F : Nat → Option Mat}
    (hF : ∀ st, st ≤ e + 1 → IsFind k P hay st e anch (F st)) : SpanOK F e := by
  intro st hst m hm
  have h := hF st hst
  rw [hm] at h
  exact EngP.occ_inside _ _ _ _ _ h.1.1

/-- the match yielded by one `FindIter::next` call at `start` with previous end `last` -/
def iterNext (F : Nat → Option Mat) (start : Nat) (last : Option Nat) : Option Mat :=
  match F start with
  | none => none
  | some m => if m.start = m.stop ∧ last = some m.stop then F (start + 1) else some m

theorem iterSpecAux_succ (F : Nat → Option Mat) (fuel start : Nat) (last : Option Nat) :
    iterSpecAux F (fuel + 1) start last =
      match iterNext F start last with
      | none => []
      | some m => m :: iterSpecAux F fuel m.stop (some m.stop) := by
  rw [iterSpecAux, iterNext]
  cases F start with
  | none => rfl
  | some m =>
    simp only []
    split
    · cases F (start + 1) <;> rfl
    · rfl

theorem iterNext_props {F : Nat → Option Mat} {e start : Nat} {last : Option Nat} {m : Mat}
    (h : SpanOK F e) (hs : start ≤ e + 1) (hm : iterNext F start last = some m) :
    start ≤ m.start ∧ m.start ≤ m.stop ∧ m.stop ≤ e ∧ (last = some start → start < m.stop) ∧
      ∃ st, start ≤ st ∧ st ≤ e + 1 ∧ F st = some m := by
  unfold iterNext at hm
  cases h0 : F start with
  | none => rw [h0] at hm; cases hm
  | some m0 =>
    rw [h0] at hm
    simp only [] at hm
    have b0 := h start hs m0 h0
    split at hm
    · rename_i hc
      have hs1 : start + 1 ≤ e + 1 := by omega
      have b1 := h (start + 1) hs1 m hm
      exact ⟨by omega, b1.2.1, b1.2.2, fun _ => by omega, start + 1, by omega, hs1, hm⟩
    · rename_i hc
      have hm' : m0 = m := Option.some.inj hm
      subst hm'
      refine ⟨b0.1, b0.2.1, b0.2.2, fun hl => ?_, start, Nat.le_refl _, hs, h0⟩
      subst hl
      rcases Nat.lt_or_ge start m0.stop with h1 | h1
      · exact h1
      · exact absurd ⟨by omega, by congr 1; omega⟩ hc

theorem iterAux_all {F : Nat → Option Mat} {e : Nat} (h : SpanOK F e) :
    ∀ (fuel start : Nat) (last : Option Nat), start ≤ e + 1 →
      ∀ m ∈ iterSpecAux F fuel start last,
        start ≤ m.start ∧ m.start ≤ m.stop ∧ m.stop ≤ e ∧ (last = some start → start < m.stop) ∧
          ∃ st, start ≤ st ∧ st ≤ e + 1 ∧ F st = some m := by
  intro fuel
  induction fuel with
  | zero => intro start last _ m hm; cases hm
  | succ fuel ih =>
    intro start last hs m hm
    rw [iterSpecAux_succ] at hm
    cases h0 : iterNext F start last with
    | none => rw [h0] at hm; simp at hm
    | some m0 =>
      rw [h0] at hm
      have p0 := iterNext_props h hs h0
      rcases List.mem_cons.mp hm with rfl | hm'
      · exact p0
      · have hs' : m0.stop ≤ e + 1 := by omega
        obtain ⟨q1, q2, q3, q4, st, q5, q6, q7⟩ := ih m0.stop (some m0.stop) hs' m hm'
        have := q4 rfl
        exact ⟨by omega, q2, q3, fun _ => by omega, st, by omega, q6, q7⟩

theorem iterAux_pairwise {F : Nat → Option Mat} {e : Nat} (h : SpanOK F e) :
    ∀ (fuel start : Nat) (last : Option Nat), start ≤ e + 1 →
      (iterSpecAux F fuel start last).Pairwise (fun a b => a.stop < b.stop ∧ a.stop ≤ b.start) := by
  intro fuel
  induction fuel with
  | zero => intro start last _; exact List.Pairwise.nil
  | succ fuel ih =>
    intro start last hs
    rw [iterSpecAux_succ]
    cases h0 : iterNext F start last with
    | none => exact List.Pairwise.nil
    | some m0 =>
      have p0 := iterNext_props h hs h0
      have hs' : m0.stop ≤ e + 1 := by omega
      refine List.Pairwise.cons (fun m hm => ?_) (ih m0.stop (some m0.stop) hs')
      have q := iterAux_all h fuel m0.stop (some m0.stop) hs' m hm
      exact ⟨q.2.2.2.1 rfl, q.1⟩

/-- The two cases of the fuel hypothesis: a step with `last = some start` yields a match that
ends strictly after `start` (`iterNext_props`), so it needs one unit of fuel less than a step
with `last = none`, which may yield the empty match at `start`.  Either way the step uses up one
unit: what follows it is in the second case with one unit less. -/
theorem iterNext_fuel {F : Nat → Option Mat} {e fuel start : Nat} {last : Option Nat} {m0 : Mat}
    (h : SpanOK F e) (hs : start ≤ e + 1)
    (hf : (last = none ∧ e + 2 - start ≤ fuel) ∨ (last = some start ∧ e + 1 - start ≤ fuel))
    (h0 : iterNext F start last = some m0) : m0.stop ≤ e + 1 ∧ e + 1 - m0.stop < fuel := by
  have p0 := iterNext_props h hs h0
  rcases hf with ⟨_, hf⟩ | ⟨hl, hf⟩
  · omega
  · have := p0.2.2.2.1 hl
    omega

theorem iterAux_fuel {F : Nat → Option Mat} {e : Nat} (h : SpanOK F e) :
    ∀ (fuel start : Nat) (last : Option Nat), start ≤ e + 1 →
      ((last = none ∧ e + 2 - start ≤ fuel) ∨ (last = some start ∧ e + 1 - start ≤ fuel)) →
      iterSpecAux F fuel start last = iterSpecAux F (fuel + 1) start last := by
  intro fuel
  induction fuel with
  | zero =>
    intro start last hs hf
    rw [iterSpecAux_succ]
    cases h0 : iterNext F start last with
    | none => rfl
    | some m0 => exact absurd (iterNext_fuel h hs hf h0).2 (Nat.not_lt_zero _)
  | succ fuel ih =>
    intro start last hs hf
    rw [iterSpecAux_succ, iterSpecAux_succ F (fuel + 1)]
    cases h0 : iterNext F start last with
    | none => rfl
    | some m0 =>
      obtain ⟨hs', hlt⟩ := iterNext_fuel h hs hf h0
      simp only []
      rw [ih m0.stop (some m0.stop) hs' (Or.inr ⟨rfl, Nat.le_of_lt_succ hlt⟩)]

/-! ## search functions that agree up to a translation on a closed set of restarts -/

theorem shift_zero : (fun m : Mat => m.shift 0) = id := by
  funext m; cases m; rfl

theorem iterNext_of_pos {F : Nat → Option Mat} {start : Nat} (last : Option Nat)
    (h : ∀ m, F start = some m → m.start < m.stop) : iterNext F start last = F start := by
  unfold iterNext
  cases h0 : F start with
  | none => rfl
  | some m => exact if_neg fun hc => Nat.lt_irrefl _ (hc.1 ▸ h m h0)

theorem iterAux_shift {F F' : Nat → Option Mat} {d : Nat} (D : Nat → Prop)
    (hF : ∀ st, D st → F (st + d) = (F' st).map (·.shift d))
    (hD : ∀ st m, D st → F' st = some m → D m.stop ∧ (m.start = m.stop → D (st + 1))) :
    ∀ (fuel start : Nat) (last : Option Nat), D start →
      iterSpecAux F fuel (start + d) (last.map (· + d)) =
        (iterSpecAux F' fuel start last).map (·.shift d) := by
  intro fuel
  induction fuel with
  | zero => intro start last _; rfl
  | succ fuel ih =>
    intro start last hs
    rw [iterSpecAux, iterSpecAux, hF start hs]
    cases h0 : F' start with
    | none => rfl
    | some m0 =>
      obtain ⟨h1, h2⟩ := hD start m0 hs h0
      have hc : ((m0.shift d).start = (m0.shift d).stop ∧
            last.map (· + d) = some (m0.shift d).stop) ↔
          (m0.start = m0.stop ∧ last = some m0.stop) := by
        cases last <;>
          simp only [Mat.shift_start, Mat.shift_stop, Option.map_some, Option.map_none,
            Option.some.injEq, Nat.add_right_cancel_iff, reduceCtorEq]
      simp only [Option.map_some]
      by_cases hcc : m0.start = m0.stop ∧ last = some m0.stop
      · rw [if_pos (hc.2 hcc), if_pos hcc, Nat.add_right_comm, hF _ (h2 hcc.1)]
        cases h1' : F' (start + 1) with
        | none => rfl
        | some m1 =>
          exact congrArg (m1.shift d :: ·) (ih m1.stop (some m1.stop) (hD _ _ (h2 hcc.1) h1').1)
      · rw [if_neg (fun h => hcc (hc.1 h)), if_neg hcc]
        exact congrArg (m0.shift d :: ·) (ih m0.stop (some m0.stop) h1)

theorem iterAux_congr {F F' : Nat → Option Mat} (D : Nat → Prop) (hF : ∀ st, D st → F st = F' st)
    (hD : ∀ st m, D st → F' st = some m → D m.stop ∧ (m.start = m.stop → D (st + 1)))
    (fuel start : Nat) (last : Option Nat) (hs : D start) :
    iterSpecAux F fuel start last = iterSpecAux F' fuel start last := by
  have := iterAux_shift (F := F) (d := 0) D
    (fun st h => by rw [Nat.add_zero, hF st h, shift_zero, Option.map_id_fun, id]) hD fuel start
    last hs
  rwa [shift_zero, List.map_id_fun, id, Nat.add_zero,
    show (fun x : Nat => x + 0) = id from rfl, Option.map_id_fun, id] at this

theorem spanOK_closed {F : Nat → Option Mat} {e : Nat} (h : SpanOK F e) (lo st : Nat) (m : Mat)
    (hst : lo ≤ st ∧ st ≤ e + 1) (hm : F st = some m) :
    (lo ≤ m.stop ∧ m.stop ≤ e + 1) ∧ (m.start = m.stop → lo ≤ st + 1 ∧ st + 1 ≤ e + 1) := by
  have := h st hst.2 m hm
  omega

/-! ## The facts, for a search function that returns `IsFind` answers -/

section
variable {k : MatchKind} {P : List (List α)} {hay : List α} {s e : Nat} {anch : Bool}
  {F : Nat → Option Mat}

theorem isOcc_mono {s s' : Nat} {m : Mat} (h : IsOcc P hay s' e m) (hs : s ≤ s') :
    IsOcc P hay s e m := by
  obtain ⟨p, h0, h1, h2⟩ := h
  exact ⟨p, h0, Nat.le_trans hs h1, h2⟩

section
variable (hF : ∀ st, st ≤ e + 1 → IsFind k P hay st e anch (F st)) (hs : s ≤ e + 1)
include hF hs

theorem iter_answer :
    ∀ m ∈ iterSpec F s e, ∃ st, s ≤ st ∧ st ≤ e + 1 ∧ F st = some m :=
  fun m hm => (iterAux_all (spanOK_of_isFind hF) _ s none hs m hm).2.2.2.2

theorem iter_occ :
    ∀ m ∈ iterSpec F s e, IsOcc P hay s e m ∧
      ∃ st, s ≤ st ∧ IsOccA P hay st e anch m := by
  intro m hm
  obtain ⟨st, h1, h2, h3⟩ := iter_answer hF hs m hm
  have h := hF st h2
  rw [h3] at h
  exact ⟨isOcc_mono h.1.1 h1, st, h1, h.1⟩

theorem iter_sorted :
    (iterSpec F s e).Pairwise (fun a b => a.stop < b.stop) :=
  (iterAux_pairwise (spanOK_of_isFind hF) _ s none hs).imp fun h => h.1

theorem iter_nonoverlap :
    (iterSpec F s e).Pairwise (fun a b => a.stop ≤ b.start) :=
  (iterAux_pairwise (spanOK_of_isFind hF) _ s none hs).imp fun h => h.2

theorem iter_in_range :
    ∀ m ∈ iterSpec F s e, s ≤ m.start ∧ m.start ≤ m.stop ∧ m.stop ≤ e := by
  intro m hm
  have q := iterAux_all (spanOK_of_isFind hF) _ s none hs m hm
  exact ⟨q.1, q.2.1, q.2.2.1⟩

end

theorem iter_fuel_any (hF : ∀ st, st ≤ e + 1 → IsFind k P hay st e anch (F st))
    (hs : s ≤ e + 1) (fuel : Nat) (hfuel : e + 2 - s ≤ fuel) :
    iterSpecAux F fuel s none = iterSpec F s e := by
  induction fuel with
  | zero =>
    have : e + 2 - s = 0 := by omega
    rw [iterSpec, this]
  | succ fuel ih =>
    rcases Nat.lt_or_ge fuel (e + 2 - s) with h | h
    · have : e + 2 - s = fuel + 1 := by omega
      rw [iterSpec, this]
    · rw [← iterAux_fuel (spanOK_of_isFind hF) fuel s none hs (Or.inl ⟨rfl, h⟩), ih h]

end

/-! ## the iterator of a span and of the sub-slice -/

theorem iter_slice {k : MatchKind} {P : List (List α)} {hay : List α} {s e : Nat} {anch : Bool}
    (hse : s ≤ e) {F F' : Nat → Option Mat}
    (hF : ∀ st, st ≤ e + 1 → IsFind k P hay st e anch (F st))
    (hF' : ∀ st, st ≤ (e - s) + 1 → IsFind k P ((hay.take e).drop s) st (e - s) anch (F' st)) :
    iterSpec F s e = (iterSpec F' 0 (e - s)).map (·.shift s) := by
  have := iterAux_shift (d := s) (fun st => 0 ≤ st ∧ st ≤ e - s + 1) (fun st hst =>
      IsFind_unique k P hay (st + s) e anch _ _ (hF (st + s) (by omega))
        ((EngP.find_slice_at k P hay s e st hse anch (F' st)).1 (hF' st hst.2)))
    (spanOK_closed (spanOK_of_isFind hF') 0) (e - s + 2 - 0) 0 none ⟨Nat.le_refl _, Nat.zero_le _⟩
  rw [Nat.zero_add] at this
  unfold iterSpec
  rw [show e + 2 - s = e - s + 2 - 0 by omega]
  exact this

theorem iter_frame {k : MatchKind} {P : List (List α)} {hay hay' : List α} {s e : Nat}
    {anch : Bool} (hsame : (hay.take e).drop s = (hay'.take e).drop s) (hs : s ≤ e + 1)
    {F F' : Nat → Option Mat}
    (hF : ∀ st, st ≤ e + 1 → IsFind k P hay st e anch (F st))
    (hF' : ∀ st, st ≤ e + 1 → IsFind k P hay' st e anch (F' st)) :
    iterSpec F s e = iterSpec F' s e := by
  refine iterAux_congr (fun st => s ≤ st ∧ st ≤ e + 1) (fun st hst => ?_)
    (spanOK_closed (spanOK_of_isFind hF') s) _ s none ⟨Nat.le_refl _, hs⟩
  have hsame' : (hay.take e).drop st = (hay'.take e).drop st := by
    have := congrArg (List.drop (st - s)) hsame
    rwa [List.drop_drop, List.drop_drop, show s + (st - s) = st by omega] at this
  exact IsFind_unique k P hay st e anch _ _ (hF st hst.2)
    ((EngP.find_frame k P hay hay' st e hsame' anch (F' st)).2 (hF' st hst.2))

variable {σ : Type}

theorem findIter_spec (A : Aut σ α) (i : Input α) (k : MatchKind) (P : List (List α))
    (hstart : (A.start i.anch).isSome)
    (hfind : ∀ st (h : st ≤ i.e + 1), ∃ r,
      tryFindFwd A none { i with s := st, valid := ⟨i.valid.1, h⟩ } = .ok r ∧
        IsFind k P i.hay st i.e i.anch r) :
    ∃ F, (∀ st, st ≤ i.e + 1 → IsFind k P i.hay st i.e i.anch (F st)) ∧
      findIter A none i = .ok (iterSpec F i.s i.e) := by
  refine ⟨findAt A none i, fun st h => ?_, ?_⟩
  · obtain ⟨r, h1, h2⟩ := hfind st h
    unfold findAt
    rw [dif_pos h, h1]
    exact h2
  · unfold findIter
    cases h0 : A.start i.anch with
    | none => rw [h0] at hstart; cases hstart
    | some q => rfl

end AcVerif.MiscP
