import AcVerif.Proofs.CompilerRun
/-!
# An automaton whose states are renamed

`Renames A B anch V g`: on the set `V` of states of `A`, which `A` does not leave, `B` at `g s`
steps to `g` of where `A` steps.  Then runs correspond (`Renames.run`), every state `B` reaches from
its start state is a `g t` (`Renames.reach`), and if `B` at `g s` makes the observation of `A` at `s`
the two are observationally equivalent from `g s` and `s` (`Renames.obsEquiv`).  For the id-level
automata, whose flags are Boolean equations about the state renamed: `mpats_of_isMatch` (a match list
read only under `is_match`) and `special_iff_of_flags` (the `is_special` contract).
-/
namespace AcVerif
open AcVerif.CNfa

structure Renames {σ τ α : Type} (A : Aut σ α) (B : Aut τ α) (anch : Bool) (V : σ → Prop)
    (g : σ → τ) : Prop where
  closed : ∀ s c, V s → V (A.next anch s c)
  step : ∀ s c, V s → B.next anch (g s) c = g (A.next anch s c)

namespace Renames
variable {σ τ α : Type} {A : Aut σ α} {B : Aut τ α} {anch : Bool} {V : σ → Prop} {g : σ → τ}
  (h : Renames A B anch V g)
include h

theorem run (w : List α) {s : σ} (hv : V s) :
    V (A.runFrom anch s w) ∧ B.runFrom anch (g s) w = g (A.runFrom anch s w) :=
  Aut.runFrom_rel B A anch (fun q s => V s ∧ q = g s)
    (fun _ s c hr => ⟨h.closed s c hr.1, hr.2 ▸ h.step s c hr.1⟩) w (g s) s ⟨hv, rfl⟩

theorem obsEquiv {first : Bool} (hobs : ∀ s, V s → B.obs first (g s) = A.obs first s) {s : σ}
    (hv : V s) : ObsEquiv B A first anch (g s) s :=
  ObsEquiv.of_sim (fun q s => V s ∧ q = g s)
    (fun _ s c hr => ⟨h.closed s c hr.1, hr.2 ▸ h.step s c hr.1⟩)
    (fun _ s hr => hr.2 ▸ hobs s hr.1) ⟨hv, rfl⟩

theorem reach {s : σ} (hv : V s) (h0 : B.start anch = some (g s)) {s0 : τ}
    (hs : B.start anch = some s0) (w : List α) :
    ∃ t, V t ∧ B.runFrom anch s0 w = g t ∧ t = A.runFrom anch s w := by
  obtain rfl : g s = s0 := Option.some.inj (h0.symm.trans hs)
  exact ⟨_, (h.run w hv).1, (h.run w hv).2, rfl⟩

end Renames

namespace L1eP

theorem mats_ne_nil_of_isMatch {N : CNfa} {s : Nat} (h : CNfa.isMatch N s = true) :
    (N.getD s {}).matches_ ≠ [] := by
  rw [L1cP.isMatch_eq] at h
  intro e
  rw [e] at h
  cases h

theorem mats_eq_nil_of_not_isMatch {N : CNfa} {s : Nat} (h : CNfa.isMatch N s = false) :
    (N.getD s {}).matches_ = [] := by
  rw [L1cP.isMatch_eq] at h
  cases hm : (N.getD s {}).matches_ with
  | nil => rfl
  | cons a l => rw [hm] at h; cases h

end L1eP

theorem mpats_of_isMatch {N : CNfa} {s : Nat} {b : Bool} {ml : List Nat}
    (hb : b = (s != DEAD && CNfa.isMatch N s)) (hd : (N.getD DEAD {}).matches_ = [])
    (hml : b = true → ml = (N.getD s {}).matches_) :
    (if b = true then ml else []) = (N.getD s {}).matches_ := by
  by_cases hc : b = true
  · rw [if_pos hc]; exact hml hc
  · rw [if_neg hc]
    rw [hb, Bool.and_eq_true, bne_iff_ne, L1cP.isMatch_eq] at hc
    by_cases e0 : s = DEAD
    · subst e0; exact hd.symm
    · by_cases hm : (N.getD s {}).matches_ = []
      · exact hm.symm
      · exact absurd ⟨e0, by simpa using hm⟩ hc

/-- the `is_special` contract from the flag equations (`x`: the state is a start state) -/
theorem special_iff_of_flags {sp d m st im x hasPre : Bool} {s : Nat}
    (hsp : sp = (s == DEAD || im || (hasPre && x))) (hd : d = (s == DEAD))
    (hm : m = (s != DEAD && im)) (hst : s ≠ DEAD → (st = true ↔ x = true)) :
    sp = true ↔ (d = true ∨ m = true ∨ (hasPre = true ∧ st = true)) := by
  subst hsp hd hm
  by_cases e0 : s = DEAD
  · simp [e0]
  · have h1 : (s == DEAD) = false := beq_eq_false_iff_ne.2 e0
    have h2 : (s != DEAD) = true := bne_iff_ne.2 e0
    simp only [h1, h2, Bool.false_or, Bool.true_and, Bool.or_eq_true, Bool.and_eq_true,
      Bool.false_eq_true, false_or, hst e0]

end AcVerif
