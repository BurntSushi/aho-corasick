import AcVerif.Packed.Vector
import AcVerif.Proofs.FoldFacts
import AcVerif.Proofs.PackedTeddy
/-!
# Bytes, bit sets and the vector operations of `AcVerif/Packed/Vector.lean` as list equations

Namespace `VecP`: the proof that Teddy written with the vector operations of
`AcVerif/Packed/Vector.lean` (`findV`) computes what the lane model `Teddy.find` of
`AcVerif/Packed/Model.lean` computes (`findV_enc` in `VecFind`).

This file: `laneOfSlim` / `laneOfFat`, the byte → lane encodings (fat: a 16-bucket set as the two
bytes `x + 256 * y`, on which `&&&` acts halfwise, `and_combine`); `V.and`, `V.splat`, `V.isZero`,
the three `shift_in` flavours and the nybble extraction commute with the encodings;
`V.shuffleBytes` with nybble indices is a table lookup per 128-bit lane (`shuffle_nyb`); `bit_lo`,
`bit_fat_lo`, `bit_fat_hi` give the bucket bit `1 <<< b` as seen from the 8-bit halves of a table
entry.
-/
namespace AcVerif.VecP
open AcVerif.MiscP

/-! ## bytes -/

theorem toNat_beq (a b : UInt8) : (a.toNat == b.toNat) = (a == b) :=
  Bool.eq_iff_iff.2 (by rw [beq_iff_eq, beq_iff_eq]; exact UInt8.toNat_inj)

theorem lo_nyb_lt (b : UInt8) : (b &&& 0xF).toNat < 16 := by
  rw [UInt8.toNat_and]; exact Nat.lt_succ_of_le Nat.and_le_right

theorem hi_nyb_lt (b : UInt8) : (b >>> 4).toNat < 16 := by
  have := b.toNat_lt
  rw [UInt8.toNat_shiftRight, Nat.shiftRight_eq_div_pow]
  show b.toNat / 16 < 16
  omega

theorem nyb_and (x : UInt8) (h : x.toNat < 16) : x &&& 0xF = x :=
  UInt8.toNat_inj.1 (by
    rw [UInt8.toNat_and]; exact Nat.and_two_pow_sub_one_of_lt_two_pow (n := 4) h)

theorem nyb_top_clear (x : UInt8) (h : x.toNat < 16) : (x &&& 0x80 != 0) = false := by
  rw [← nyb_and x h, UInt8.and_assoc, show (0xF &&& 0x80 : UInt8) = 0 from rfl, UInt8.and_zero]
  rfl

theorem shl4_and : ∀ b : UInt8, (b <<< 4) &&& 0xF = 0 := by
  apply forall_uint8; decide +kernel

theorem or_zero_byte (a : UInt8) : a ||| 0 = a := UInt8.or_zero

/-- the byte formula of `_mm_srli_epi16::<4>` on an even byte, masked with `0xF` -/
theorem srli_even (b b' : UInt8) : ((b >>> 4) ||| (b' <<< 4)) &&& (0xF : UInt8) = b >>> 4 := by
  apply UInt8.toNat_inj.1
  rw [UInt8.toNat_and, UInt8.toNat_or, Nat.and_or_distrib_right, ← UInt8.toNat_and,
    ← UInt8.toNat_and, nyb_and _ (hi_nyb_lt b), shl4_and]
  exact Nat.or_zero _

/-- the bucket bit of the slim tables / of the low half of the fat tables -/
theorem bit_lo : ∀ k, k < 8 → ((1 : UInt8) <<< k.toUInt8).toNat = 1 <<< k := by decide

/-- bucket bits seen from the two halves of the fat tables -/
theorem bit_fat_lo : ∀ b, b < 8 → (1 <<< b) % 2 ^ 8 = 1 <<< b ∧ (1 <<< b) / 2 ^ 8 = 0 := by decide

theorem bit_fat_hi : ∀ b, b < 16 → ¬ b < 8 →
    (1 <<< b) % 2 ^ 8 = 0 ∧ (1 <<< b) / 2 ^ 8 = ((1 : UInt8) <<< (b % 8).toUInt8).toNat := by decide

/-! ## bit sets -/

theorem split256 (n : Nat) : n % 2 ^ 8 + 256 * (n / 2 ^ 8) = n := Nat.mod_add_div n 256

/-- `x + 256 * y` is the concatenation of the bit sets `x`, `y` when `x < 256` -/
theorem and_combine (x y x' y' : Nat) (hx : x < 256) (hx' : x' < 256) :
    (x + 256 * y) &&& (x' + 256 * y') = (x &&& x') + 256 * (y &&& y') := by
  have e : ∀ a b : Nat, a + 256 * b = 2 ^ 8 * b + a := fun a b => Nat.add_comm _ _
  apply Nat.eq_of_testBit_eq
  intro j
  rw [e, e, e, Nat.testBit_and, Nat.testBit_two_pow_mul_add _ hx,
    Nat.testBit_two_pow_mul_add _ hx',
    Nat.testBit_two_pow_mul_add _ (Nat.lt_of_le_of_lt Nat.and_le_left hx)]
  split <;> rw [Nat.testBit_and]

end AcVerif.VecP

namespace AcVerif

def laneOfSlim (v : Vec8) : List Nat := v.map (·.toNat)

def laneOfFat (v : Vec8) : List Nat :=
  (List.range 16).map fun j => (v.getD j 0).toNat + 256 * (v.getD (j + 16) 0).toNat

namespace VecP
open AcVerif.PackedP

/-! ## generic list facts -/

theorem zipWith_replicate_right {α β γ : Type} (f : α → β → γ) (l : List α) (n : Nat) (c : β)
    (h : l.length = n) : List.zipWith f l (List.replicate n c) = l.map (f · c) := by
  induction l generalizing n with
  | nil => rfl
  | cons x xs ih =>
    cases n with
    | zero => cases h
    | succ n =>
      rw [List.replicate_succ, List.zipWith_cons_cons, List.map_cons, ih n (Nat.succ.inj h)]

theorem zipWith_map_same {α β γ δ : Type} (f : β → γ → δ) (g : α → β) (h : α → γ) (l : List α) :
    List.zipWith f (l.map g) (l.map h) = l.map fun a => f (g a) (h a) := by
  rw [List.zipWith_map, List.zipWith_self]

/-! ## `and`, `splat`, nybbles -/

theorem and_length (a b : Vec8) (w : Nat) (ha : a.length = w) (hb : b.length = w) :
    (V.and a b).length = w := by
  unfold V.and; rw [List.length_zipWith, ha, hb, Nat.min_self]

theorem and_getD (a b : Vec8) (j : Nat) : (V.and a b).getD j 0 = a.getD j 0 &&& b.getD j 0 := by
  unfold V.and
  rw [List.getD_eq_getElem?_getD, List.getD_eq_getElem?_getD, List.getD_eq_getElem?_getD,
    List.getElem?_zipWith']
  cases a[j]? with
  | none => exact UInt8.zero_and.symm
  | some x =>
    cases b[j]? with
    | none => exact UInt8.and_zero.symm
    | some y => rfl

theorem and_splat (chunk : Vec8) (w : Nat) (c : UInt8) (h : chunk.length = w) :
    V.and chunk (V.splat w c) = chunk.map (· &&& c) :=
  zipWith_replicate_right _ chunk w c h

theorem splat_ff_and (v : Vec8) (w : Nat) (h : v.length = w) : V.and (V.splat w 0xFF) v = v := by
  unfold V.and V.splat
  rw [List.zipWith_comm, zipWith_replicate_right _ v w _ h]
  exact (List.map_congr_left fun x _ => UInt8.neg_one_and).trans (List.map_id v)

/-- `_mm_srli_epi16::<4>` + `and 0xF` is the byte-wise high nybble -/
theorem shift4_eq (a : Vec8) : V.shift8bitLaneRight4 a = a.map (fun b : UInt8 => b >>> 4) := by
  unfold V.shift8bitLaneRight4
  simp only
  rw [and_splat _ _ _ (by rw [List.length_map, List.length_range]), List.map_map,
    ← List.map_range_getD (fun b : UInt8 => b >>> 4) a 0]
  apply List.map_congr_left
  intro i _
  simp only [Function.comp]
  split
  · exact srli_even _ _
  · exact nyb_and _ (hi_nyb_lt _)

theorem hhi_eq (chunk : Vec8) (w : Nat) (h : chunk.length = w) :
    V.and (V.shift8bitLaneRight4 chunk) (V.splat w 0xF) = chunk.map (fun b : UInt8 => b >>> 4) := by
  rw [shift4_eq, and_splat _ _ _ (by rw [List.length_map]; exact h), List.map_map]
  exact List.map_congr_left fun b _ => nyb_and _ (hi_nyb_lt b)

/-! ## `shuffle_bytes` with nybble indices -/

theorem shuffle_nyb (tbl idx : Vec8) (hn : ∀ x ∈ idx, x.toNat < 16) :
    V.shuffleBytes tbl idx =
      (List.range idx.length).map fun j => tbl.getD (j / 16 * 16 + (idx.getD j 0).toNat) 0 := by
  unfold V.shuffleBytes
  apply List.map_congr_left
  intro j hj
  have hx := hn _ (List.getD_mem idx j 0 (List.mem_range.1 hj))
  simp only
  rw [nyb_top_clear _ hx, nyb_and _ hx, if_neg Bool.false_ne_true]

theorem shuffle16 (tbl idx : Vec8) (h : idx.length ≤ 16) (hn : ∀ x ∈ idx, x.toNat < 16) :
    V.shuffleBytes tbl idx = idx.map fun x => tbl.getD x.toNat 0 := by
  rw [shuffle_nyb tbl idx hn, ← List.map_range_getD (fun x => tbl.getD x.toNat 0) idx 0]
  apply List.map_congr_left
  intro j hj
  rw [Nat.div_eq_of_lt (Nat.lt_of_lt_of_le (List.mem_range.1 hj) h), Nat.zero_mul, Nat.zero_add]

/-! ## the `shift_in` flavours -/

theorem alignr16_eq (n : Nat) (a b : Vec8) (hb : b.length = 16) (hn : n ≤ 16) :
    V.alignr16 a b n = b.drop n ++ a.take n := by
  unfold V.alignr16
  rw [List.drop_append_of_le_length (by rw [hb]; exact hn), List.take_append, List.length_drop, hb,
    Nat.sub_sub_self hn, List.take_of_length_le (by rw [List.length_drop, hb]; exact Nat.sub_le _ _)]

theorem map_shiftIn (f : UInt8 → Nat) (k : Nat) (a b : Vec8) :
    (b.drop (b.length - k) ++ a.take (a.length - k)).map f = shiftIn k (a.map f) (b.map f) := by
  unfold shiftIn
  rw [List.map_append, List.map_drop, List.map_take, List.length_map, List.length_map]

theorem shiftIn128_eq (k : Nat) (a b : Vec8) (ha : a.length = 16) (hb : b.length = 16) :
    V.shiftIn128 k a b = b.drop (b.length - k) ++ a.take (a.length - k) := by
  rw [ha, hb]; exact alignr16_eq _ a b hb (Nat.sub_le _ _)

theorem shiftIn256_eq (k : Nat) (a b : Vec8) (ha : a.length = 32) (hb : b.length = 32)
    (hk : k ≤ 16) :
    V.shiftIn256 k a b = b.drop (b.length - k) ++ a.take (a.length - k) := by
  have hb2 : (b.drop 16).length = 16 := by rw [List.length_drop, hb]
  have ha1 : (a.take 16).length = 16 := by rw [List.length_take, ha]; rfl
  obtain ⟨r, hr⟩ := Nat.exists_eq_add_of_le hk
  have e1 : 16 - k = r := Nat.sub_eq_of_eq_add' hr
  have e2 : 32 - k = 16 + r := by omega
  unfold V.shiftIn256
  simp only
  rw [ha, hb, e1, e2, List.take_left' hb2, List.drop_left' hb2, alignr16_eq r _ _ hb2 (by omega),
    alignr16_eq r _ _ ha1 (by omega), List.drop_drop, List.take_add, List.append_assoc]
  congr 1
  rw [← List.append_assoc, List.take_append_drop]

/-! ## the slim encoding -/

theorem and_slim (a b : Vec8) :
    laneOfSlim (V.and a b) = List.zipWith (· &&& ·) (laneOfSlim a) (laneOfSlim b) := by
  unfold laneOfSlim V.and
  rw [List.map_zipWith, List.zipWith_map]
  simp only [UInt8.toNat_and]

theorem splat_slim (w : Nat) : laneOfSlim (V.splat w 0xFF) = allOnes 8 w :=
  List.map_replicate

theorem isZero_slim (v : Vec8) : V.isZero v = (laneOfSlim v).all (· == 0) := by
  unfold V.isZero laneOfSlim
  rw [List.all_map]
  congr 1
  funext b
  exact (toNat_beq b 0).symm

/-! ## the fat encoding -/

def fatPair (x y : UInt8) : Nat := x.toNat + 256 * y.toNat

theorem laneOfFat_length (v : Vec8) : (laneOfFat v).length = 16 := by
  unfold laneOfFat; rw [List.length_map, List.length_range]

theorem laneOfFat_append (a b : Vec8) (ha : a.length = 16) (hb : b.length = 16) :
    laneOfFat (a ++ b) = List.zipWith fatPair a b := by
  rw [List.zipWith_eq_map_range fatPair a b 16 ha hb 0 0]
  apply List.map_congr_left
  intro j hj
  have hj' := List.mem_range.1 hj
  rw [List.getD_append_left _ _ _ (by rw [ha]; exact hj'), Nat.add_comm j, ← ha,
    List.getD_append_right]
  rfl

theorem laneOfFat_eq (v : Vec8) (h : v.length = 32) :
    laneOfFat v = List.zipWith fatPair (v.take 16) (v.drop 16) := by
  rw [← laneOfFat_append _ _ (by rw [List.length_take, h]; rfl) (by rw [List.length_drop, h]),
    List.take_append_drop]

theorem fatPair_and (x y x' y' : UInt8) :
    fatPair (x &&& y) (x' &&& y') = fatPair x x' &&& fatPair y y' := by
  unfold fatPair
  rw [UInt8.toNat_and, UInt8.toNat_and, and_combine _ _ _ _ x.toNat_lt y.toNat_lt]

theorem and_fat (a b : Vec8) :
    laneOfFat (V.and a b) = List.zipWith (· &&& ·) (laneOfFat a) (laneOfFat b) := by
  unfold laneOfFat
  rw [zipWith_map_same]
  apply List.map_congr_left
  intro j _
  rw [and_getD, and_getD]
  exact fatPair_and _ _ _ _

theorem splat_fat : laneOfFat (V.splat 32 0xFF) = allOnes 16 16 := by decide

theorem fatPair_eq_zero (x y : UInt8) : (fatPair x y == 0) = ((x == 0) && (y == 0)) := by
  rw [← toNat_beq x, ← toNat_beq y, Bool.eq_iff_iff, Bool.and_eq_true, beq_iff_eq, beq_iff_eq,
    beq_iff_eq]
  unfold fatPair
  show _ ↔ x.toNat = 0 ∧ y.toNat = 0
  omega

theorem zipWith_fatPair_all (a b : Vec8) (h : a.length = b.length) :
    (List.zipWith fatPair a b).all (· == 0) = (a.all (· == 0) && b.all (· == 0)) := by
  induction a generalizing b with
  | nil =>
    cases b with
    | nil => rfl
    | cons y ys => cases h
  | cons x xs ih =>
    cases b with
    | nil => cases h
    | cons y ys =>
      rw [List.zipWith_cons_cons, List.all_cons, List.all_cons, List.all_cons,
        ih ys (Nat.succ.inj h), fatPair_eq_zero, Bool.and_assoc, Bool.and_assoc,
        Bool.and_left_comm (y == 0)]

theorem isZero_fat (v : Vec8) (h : v.length = 32) : V.isZero v = (laneOfFat v).all (· == 0) := by
  rw [laneOfFat_eq v h, zipWith_fatPair_all _ _ (by rw [List.length_take, List.length_drop, h]; rfl),
    ← List.all_append, List.take_append_drop]
  rfl

/-- `half_shift_in`: both 128-bit halves are shifted on their own, so the pairs move together -/
theorem halfShiftIn_fat (k : Nat) (a b : Vec8) (ha : a.length = 32) (hb : b.length = 32)
    (hk : k ≤ 16) :
    (V.halfShiftIn k a b).length = 32 ∧
      laneOfFat (V.halfShiftIn k a b) = shiftIn k (laneOfFat a) (laneOfFat b) := by
  have ha1 : (a.take 16).length = 16 := by rw [List.length_take, ha]; rfl
  have ha2 : (a.drop 16).length = 16 := by rw [List.length_drop, ha]
  have hb1 : (b.take 16).length = 16 := by rw [List.length_take, hb]; rfl
  have hb2 : (b.drop 16).length = 16 := by rw [List.length_drop, hb]
  obtain ⟨r, hr⟩ := Nat.exists_eq_add_of_le hk
  have hl : ∀ x y : Vec8, x.length = 16 → y.length = 16 → (y.drop r ++ x.take r).length = 16 := by
    intro x y hx hy
    rw [List.length_append, List.length_drop, List.length_take, hx, hy]; omega
  unfold V.halfShiftIn shiftIn
  rw [laneOfFat_length, laneOfFat_length, Nat.sub_eq_of_eq_add' hr,
    alignr16_eq r _ _ hb1 (by omega), alignr16_eq r _ _ hb2 (by omega)]
  refine ⟨by rw [List.length_append, hl _ _ ha1 hb1, hl _ _ ha2 hb2], ?_⟩
  rw [laneOfFat_append _ _ (hl _ _ ha1 hb1) (hl _ _ ha2 hb2),
    List.zipWith_append (by rw [List.length_drop, List.length_drop, hb1, hb2]),
    ← List.drop_zipWith, ← List.take_zipWith, ← laneOfFat_eq a ha, ← laneOfFat_eq b hb]

end VecP
end AcVerif
