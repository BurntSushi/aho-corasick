import AcVerif.Proofs.DfaBase
import AcVerif.Proofs.Renum
/-!
# Byte classes are a congruence of the compiled NFA; the rows of the DFA

For a compiled NFA `N` (`NfaSpec f k Q L N`: the trie edge `f b` is taken on the byte `b`) and a
class map with `ClassOK`.  The class map of the DFA builder is computed from `trieBytes N`, the
bytes with an explicit edge in `N` itself (with case folding BOTH cases of a letter), so two
different bytes of one class have no edge at any live state whatever `f` is.  "Live" is `VU L s`
(unanchored: `DEAD`, the root, the trie nodes `nu L u`) resp. `VA L s` (anchored: `DEAD`, `SA`, the
trie nodes); `L1eP.LvA L anch` picks one of the two by the mode, whose start state is
`L1dIdsP.startOf anch`.  Hence `follow_cong_*` (two bytes of one class have the same explicit
transition at every live state), `nextState_cong` (and the same `next_state` result: failure chains
stay among live states), and through `row_fold` (a row filled from `sparse_iter`) `row_spec`: the
row `dfaRow … anch s` of a live state holds `next_state` at `classOf b`.
-/
namespace AcVerif.L1dP
open AcVerif AcVerif.CNfa AcVerif.L1cP AcVerif.LmP

/-! ## membership in `trieBytes` -/

theorem mem_trieBytes_node {N : CNfa} {sid : Nat} {b : UInt8} (hs : sid < N.size) (h4 : 4 ≤ sid)
    (hf : follow N sid b ≠ FAIL) : b ∈ trieBytes N := by
  unfold trieBytes
  rw [List.mem_flatMap]
  refine ⟨sid, List.mem_range.2 hs, ?_⟩
  have hne : (sid == DEAD || sid == FAIL || sid == SU || sid == SA) = false := by
    simp only [DEAD, FAIL, SU, SA, Bool.or_eq_false_iff, beq_eq_false_iff_ne, ne_eq]
    omega
  rw [hne]
  simp only [Bool.false_eq_true, if_false]
  have := mem_of_lookup (l := (N.getD sid {}).trans) (b := b) rfl (by rw [← follow_eq]; exact hf)
  exact List.mem_map.2 ⟨_, this, rfl⟩

theorem mem_trieBytes_su {N : CNfa} {b : UInt8} (hs : SU < N.size)
    (h1 : follow N SU b ≠ FAIL) (h2 : follow N SU b ≠ SU) (h3 : follow N SU b ≠ DEAD) :
    b ∈ trieBytes N := by
  unfold trieBytes
  rw [List.mem_flatMap]
  refine ⟨SU, List.mem_range.2 hs, ?_⟩
  have hne : (SU == DEAD || SU == FAIL || SU == SU || SU == SA) = true := by decide
  rw [hne]
  simp only [if_true, beq_self_eq_true]
  have := mem_of_lookup (l := (N.getD SU {}).trans) (b := b) rfl (by rw [← follow_eq]; exact h1)
  refine List.mem_map.2 ⟨_, List.mem_filter.2 ⟨this, ?_⟩, rfl⟩
  rw [← follow_eq]
  simp only [Bool.and_eq_true, bne_iff_ne, ne_eq]
  exact ⟨⟨h1, h2⟩, h3⟩

/-- the root's step on a byte without an edge does not depend on the byte -/
theorem next_root_out (k : MatchKind) (Q : PatSet UInt8) (b : UInt8) (hp : ¬ isPref Q [b] = true) :
    Ideal.next k Q false (.at []) b =
      if k = .std ∨ idsOf Q [] = [] then .at [] else .dead := by
  by_cases hk : k = .std ∨ idsOf Q [] = []
  · rw [if_pos hk]; exact next_root k Q b hp hk
  · rw [if_neg hk]
    exact next_root_dead k Q b hp (fun e => hk (Or.inl e)) fun e => hk (Or.inr e)

/-! ## live states -/

/-- the states an unanchored run can be in (and their failure chains): dead, root, trie nodes -/
def VU (L : List (List UInt8)) (s : Nat) : Prop := s = DEAD ∨ ∃ u, (u = [] ∨ u ∈ L) ∧ s = nu L u

/-- the states an anchored run can be in: dead, the anchored start state, trie nodes -/
def VA (L : List (List UInt8)) (s : Nat) : Prop := s = DEAD ∨ s = SA ∨ ∃ u, u ∈ L ∧ s = nu L u

theorem VU_of_Rel {L : List (List UInt8)} {s : Nat} {q : St UInt8} (hr : Rel L false s q) :
    VU L s := by
  cases q with
  | dead => exact Or.inl hr
  | «at» u => exact Or.inr ⟨u, Rel_at_unanch hr⟩

theorem VA_of_Rel {L : List (List UInt8)} {s : Nat} {q : St UInt8} (hr : Rel L true s q) : VA L s := by
  cases q with
  | dead => exact Or.inl hr
  | «at» u =>
    rcases Rel_at hr with ⟨_, e⟩ | ⟨_, hu, e⟩
    · exact Or.inr (Or.inl e)
    · exact Or.inr (Or.inr ⟨u, hu, e⟩)

theorem VU_su {L : List (List UInt8)} : VU L 2 := Or.inr ⟨[], Or.inl rfl, by rw [nu_nil]; rfl⟩

theorem VA_sa {L : List (List UInt8)} : VA L 3 := Or.inr (Or.inl rfl)

end AcVerif.L1dP

namespace AcVerif.L1eP
open AcVerif AcVerif.L1dP

def LvA (L : List (List UInt8)) (anch : Bool) (s : Nat) : Prop := if anch then VA L s else VU L s

end AcVerif.L1eP

namespace AcVerif.L1dIdsP
open AcVerif AcVerif.CNfa

def startOf (anch : Bool) : Nat := if anch then SA else SU

theorem startOf_cases (anch : Bool) :
    (startOf anch = 2 ∧ startOf (!anch) = 3) ∨ (startOf anch = 3 ∧ startOf (!anch) = 2) := by
  cases anch
  · exact Or.inl ⟨rfl, rfl⟩
  · exact Or.inr ⟨rfl, rfl⟩

end AcVerif.L1dIdsP

namespace AcVerif.L1dP
open AcVerif AcVerif.CNfa AcVerif.L1cP AcVerif.LmP AcVerif.L1eP AcVerif.L1dIdsP

theorem Rel_start (L : List (List UInt8)) (anch : Bool) : Rel L anch (startOf anch) (.at []) := by
  simp only [Rel, if_true]; rfl

theorem LvA_start (L : List (List UInt8)) (anch : Bool) : LvA L anch (startOf anch) := by
  cases anch
  · exact VU_su
  · exact VA_sa

theorem LvA.of_Rel {L : List (List UInt8)} {anch : Bool} {s : Nat} {q : St UInt8}
    (hr : Rel L anch s q) : LvA L anch s := by
  cases anch
  · exact VU_of_Rel hr
  · exact VA_of_Rel hr

theorem renames_of_live {f : UInt8 → UInt8} {k : MatchKind} {Q : PatSet UInt8}
    {L : List (List UInt8)} {N : CNfa} (h : NfaSpec f k Q L N) (P : List (List UInt8))
    (hasPre : Bool) {τ : Type} {B : Aut τ UInt8} {anch : Bool} {g : Nat → τ}
    (hstep : ∀ s, LvA L anch s → ∀ c, B.next anch (g s) c = g ((N.toAut k P hasPre).next anch s c)) :
    Renames (N.toAut k P hasPre) B anch (fun s => ∃ q, Rel L anch s q) g :=
  ⟨fun _ c ⟨_, hr⟩ => ⟨_, h.Rel_step anch hr c⟩, fun s c ⟨_, hr⟩ => hstep s (LvA.of_Rel hr) c⟩

/-! ## what the anchored row entry holds; rows -/

theorem anch_entry (N : CNfa) (fuel s : Nat) (r : UInt8) :
    (nextState N true (fuel + 1) s r 0).1 = if follow N s r == FAIL then DEAD else follow N s r := by
  by_cases hf : follow N s r = FAIL
  · rw [nextState_anch_fail N fuel s r 0 hf, hf]; rfl
  · rw [nextState_stop N true fuel s r 0 hf]
    have : (follow N s r == FAIL) = false := by simpa using hf
    rw [this]; rfl

/-- generic row lemma: a row filled from `sparse_iter` by writes whose value is a class-invariant
function `val` of the representative -/
theorem row_fold (N : CNfa) (s : Nat) (classOf : UInt8 → Nat) (val : UInt8 → Option Nat)
    (hval : ∀ b b', classOf b = classOf b' → val b = val b')
    (act : UInt8 × Nat × Nat → Option Nat)
    (hact : ∀ r, act (r, classOf r, follow N s r) = val r) (row0 : Array Nat) (b : UInt8)
    (hc : classOf b < row0.size) (d : Nat) :
    (foldSet (fun x => x.2.1) act (sparseIter (N.getD s {}).trans classOf) row0).getD (classOf b) d =
      (val b).getD (row0.getD (classOf b) d) := by
  obtain ⟨hwf, hcov⟩ := sparseIter_spec (N.getD s {}).trans classOf
  have hall : ∀ x ∈ sparseIter (N.getD s {}).trans classOf, x.2.1 = classOf b → act x = val b := by
    intro x hx hxc
    obtain ⟨h1, h2⟩ := hwf x hx
    have : x = (x.1, classOf x.1, follow N s x.1) := by
      obtain ⟨x1, x2, x3⟩ := x
      simp only at h1 h2
      rw [h1, h2, follow_eq]
    rw [this, hact]
    exact hval _ _ (by rw [← h1, hxc])
  cases hv : val b with
  | none =>
    rw [hv] at hall
    simpa using foldSet_keep _ act (classOf b) d _ row0 hall
  | some v =>
    rw [hv] at hall
    simpa using foldSet_some _ act (classOf b) d v _ row0 hc hall (hcov b)

theorem dfaRow_eq (N : CNfa) (classOf : UInt8 → Nat) (nc : Nat) (anch : Bool) (s : Nat) :
    dfaRow N classOf nc anch s =
      foldSet (fun x => x.2.1)
        (fun x => some (if x.2.2 == FAIL then (if anch then DEAD else resolveFail N s x.1) else x.2.2))
        (sparseIter (N.getD s {}).trans classOf) (Array.replicate nc DEAD) := rfl

theorem dfaRow_size (N : CNfa) (classOf : UInt8 → Nat) (nc : Nat) (anch : Bool) (s : Nat) :
    (dfaRow N classOf nc anch s).size = nc := by
  rw [dfaRow_eq, foldSet_size, Array.size_replicate]

end AcVerif.L1dP

namespace AcVerif.L1cP.NfaSpec
open AcVerif AcVerif.CNfa AcVerif.L1cP AcVerif.LmP AcVerif.L1dP AcVerif.L1eP AcVerif.L1dIdsP

variable {f : UInt8 → UInt8} {k : MatchKind} {Q : PatSet UInt8} {L : List (List UInt8)} {N : CNfa}

theorem edge_mem (h : NfaSpec f k Q L N) {u : List UInt8} {b : UInt8} (hu : u = [] ∨ u ∈ L)
    (hin : u ++ [f b] ∈ L) : b ∈ trieBytes N := by
  have hf := h.goto_in u b hu hin
  have hge : 4 ≤ nu L (u ++ [f b]) := nu_ge (by simp)
  rcases hu with e | hm
  · subst e
    rw [nu_nil] at hf
    apply mem_trieBytes_su (by have := h.four_le_size; simp only [SU]; omega) <;> rw [hf] <;>
      simp only [FAIL, SU, DEAD] <;> omega
  · apply mem_trieBytes_node (h.nu_lt_size (Or.inr hm)) (nu_ge (h.ne_nil hm))
    rw [hf]; simp only [FAIL]; omega

/-! ## `follow` at the live states, for a byte outside the trie -/

theorem follow_node_out (h : NfaSpec f k Q L N) {u : List UInt8} (hu : u ∈ L) {b : UInt8}
    (hb : b ∉ trieBytes N) : follow N (nu L u) b = FAIL :=
  h.goto_out u b hu fun hin => hb (h.edge_mem (Or.inr hu) hin)

theorem follow_sa_out (h : NfaSpec f k Q L N) {b : UInt8} (hb : b ∉ trieBytes N) :
    follow N SA b = FAIL := by
  rw [h.goto_sa, if_neg]
  exact fun hin => hb (h.edge_mem (u := []) (Or.inl rfl) hin)

theorem follow_su_out (h : NfaSpec f k Q L N) {b : UInt8} (hb : b ∉ trieBytes N) :
    follow N SU b = sidOf L (if k = .std ∨ idsOf Q [] = [] then .at [] else .dead) := by
  have hout : [f b] ∉ L := fun hin => hb (h.edge_mem (u := []) (Or.inl rfl) hin)
  have hp : ¬ isPref Q [f b] = true := fun hp => hout ((h.isPref_iff_mem [] (f b)).1 hp)
  rw [h.goto_root b hout, next_root_out k Q (f b) hp]

theorem follow_su_ne_fail (h : NfaSpec f k Q L N) (b : UInt8) : follow N SU b ≠ FAIL := by
  by_cases hin : [f b] ∈ L
  · have := h.goto_in [] b (Or.inl rfl) hin
    rw [nu_nil] at this
    rw [this]; exact nu_ne_fail _ _
  · rw [h.goto_root b hin]; exact sidOf_ne_fail _ _

/-! ## live states -/

theorem VU_cases (h : NfaSpec f k Q L N) {s : Nat} (hv : VU L s) : s = 0 ∨ s = 2 ∨ 4 ≤ s := by
  rcases hv with e | ⟨u, hu, e⟩
  · exact Or.inl e
  · rcases hu with e' | hm
    · subst e'; rw [nu_nil] at e; exact Or.inr (Or.inl e)
    · exact Or.inr (Or.inr (e ▸ nu_ge (h.ne_nil hm)))

theorem VA_cases (h : NfaSpec f k Q L N) {s : Nat} (hv : VA L s) : s = 0 ∨ s = 3 ∨ 4 ≤ s := by
  rcases hv with e | e | ⟨u, hm, e⟩
  · exact Or.inl e
  · exact Or.inr (Or.inl e)
  · exact Or.inr (Or.inr (e ▸ nu_ge (h.ne_nil hm)))

theorem VU_ne_sa (h : NfaSpec f k Q L N) {s : Nat} (hv : VU L s) : s ≠ SA ∧ s ≠ FAIL := by
  have := h.VU_cases hv
  simp only [SA, FAIL]; omega

theorem VA_ne_su (h : NfaSpec f k Q L N) {s : Nat} (hv : VA L s) : s ≠ SU ∧ s ≠ FAIL := by
  have := h.VA_cases hv
  simp only [SU, FAIL]; omega

theorem VU_lt_size (h : NfaSpec f k Q L N) {s : Nat} (hv : VU L s) : s < N.size := by
  rcases hv with e | ⟨u, hu, e⟩
  · subst e; have := h.four_le_size; simp only [DEAD]; omega
  · subst e; exact h.nu_lt_size hu

theorem VA_lt_size (h : NfaSpec f k Q L N) {s : Nat} (hv : VA L s) : s < N.size := by
  rcases hv with e | e | ⟨u, hu, e⟩
  · subst e; have := h.four_le_size; simp only [DEAD]; omega
  · subst e; have := h.four_le_size; simp only [SA]; omega
  · subst e; exact h.nu_lt_size (Or.inr hu)

theorem LvA_cases (h : NfaSpec f k Q L N) {anch : Bool} {s : Nat} (hv : LvA L anch s) :
    s = 0 ∨ s = startOf anch ∨ 4 ≤ s := by
  cases anch
  · exact h.VU_cases hv
  · exact h.VA_cases hv

theorem LvA_lt_size (h : NfaSpec f k Q L N) {anch : Bool} {s : Nat} (hv : LvA L anch s) :
    s < N.size := by
  cases anch
  · exact h.VU_lt_size hv
  · exact h.VA_lt_size hv

theorem LvA_ne_fail (h : NfaSpec f k Q L N) {anch : Bool} {s : Nat} (hv : LvA L anch s) :
    s ≠ 1 := by
  have := h.LvA_cases hv
  have := startOf_cases anch
  omega

theorem LvA_ne_other_start (h : NfaSpec f k Q L N) {anch : Bool} {s : Nat}
    (hv : LvA L anch s) : s ≠ startOf (!anch) := by
  have := h.LvA_cases hv
  have := startOf_cases anch
  omega

theorem VU_fail (h : NfaSpec f k Q L N) {u : List UInt8} (hu : u ∈ L) :
    VU L (N.getD (nu L u) {}).fail := by
  rw [h.fail u hu]
  unfold finalFail
  split
  · exact Or.inl rfl
  · exact Or.inr ⟨failStd Q u, h.lsp_mem _, rfl⟩

/-- among the live states only trie nodes have `FAIL` entries, and their failure links are live -/
theorem VU_fail_of_follow (h : NfaSpec f k Q L N) {s : Nat} {b : UInt8} (hv : VU L s)
    (hf : follow N s b = FAIL) : VU L (N.getD s {}).fail := by
  rcases hv with e | ⟨u, hu, e⟩
  · subst e; rw [h.goto_dead] at hf; cases hf
  · subst e
    rcases hu with e | hm
    · subst e; rw [nu_nil] at hf; exact absurd hf (h.follow_su_ne_fail b)
    · exact h.VU_fail hm

/-! ## the congruence -/

variable {classOf : UInt8 → Nat} {nc : Nat}

theorem follow_cong_VU (h : NfaSpec f k Q L N) (hC : ClassOK N classOf nc) {s : Nat}
    (hv : VU L s) {b b' : UInt8} (hc : classOf b = classOf b') : follow N s b = follow N s b' := by
  by_cases e : b = b'
  · rw [e]
  · obtain ⟨hb, hb'⟩ := hC.cong b b' hc e
    rcases hv with e | ⟨u, hu, e⟩
    · subst e; rw [h.goto_dead, h.goto_dead]
    · subst e
      rcases hu with e | hm
      · subst e; rw [nu_nil, h.follow_su_out hb, h.follow_su_out hb']
      · rw [h.follow_node_out hm hb, h.follow_node_out hm hb']

theorem follow_cong_VA (h : NfaSpec f k Q L N) (hC : ClassOK N classOf nc) {s : Nat}
    (hv : VA L s) {b b' : UInt8} (hc : classOf b = classOf b') : follow N s b = follow N s b' := by
  by_cases e : b = b'
  · rw [e]
  · obtain ⟨hb, hb'⟩ := hC.cong b b' hc e
    rcases hv with e | e | ⟨u, hm, e⟩
    · subst e; rw [h.goto_dead, h.goto_dead]
    · subst e; rw [h.follow_sa_out hb, h.follow_sa_out hb']
    · subst e; rw [h.follow_node_out hm hb, h.follow_node_out hm hb']

theorem nextState_cong (h : NfaSpec f k Q L N) (hC : ClassOK N classOf nc) {b b' : UInt8}
    (hc : classOf b = classOf b') :
    ∀ (fuel s hp : Nat), VU L s → nextState N false fuel s b hp = nextState N false fuel s b' hp := by
  intro fuel
  induction fuel with
  | zero => intro s hp _; rfl
  | succ fuel ih =>
    intro s hp hv
    have hf := h.follow_cong_VU hC hv hc
    by_cases hfail : follow N s b = FAIL
    · rw [nextState_go N fuel s b hp hfail, nextState_go N fuel s b' hp (hf ▸ hfail)]
      exact ih _ _ (h.VU_fail_of_follow hv hfail)
    · rw [nextState_stop N false fuel s b hp hfail,
        nextState_stop N false fuel s b' hp (hf ▸ hfail), hf]

/-! ## what the unanchored row entry holds -/

theorem unanch_entry (h : NfaSpec f k Q L N) {s : Nat} (hv : VU L s) (r : UInt8) :
    (if follow N s r == FAIL then resolveFail N s r else follow N s r) =
      (nextState N false (N.size + 1) s r 0).1 := by
  by_cases hf : follow N s r = FAIL
  · rw [nextState_go N N.size s r 0 hf, hf]
    simp only [beq_self_eq_true, if_true]
    unfold resolveFail
    rcases h.VU_fail_of_follow hv hf with e | ⟨v, hv, e⟩
    · rw [e]
      simp only [beq_self_eq_true, if_true]
      rw [nextState_dead N false _ r _ (h.goto_dead r)]
    · rw [e]
      have hne : (nu L v == DEAD) = false := by simpa using nu_ne_dead L v
      simp only [hne, Bool.false_eq_true, if_false]
      have hl := h.len_lt_size hv
      -- the state reached does not depend on fuel or hop counter
      rw [h.run_step r _ v _ hv (by omega), h.run_step r _ v _ hv (by omega)]
  · rw [nextState_stop N false N.size s r 0 hf]
    have : (follow N s r == FAIL) = false := by simpa using hf
    rw [this]; rfl

/-! ## rows -/

theorem rowU_spec (h : NfaSpec f k Q L N) (hC : ClassOK N classOf nc) {s : Nat} (hv : VU L s)
    (b : UInt8) (d : Nat) :
    (dfaRow N classOf nc false s).getD (classOf b) d = (nextState N false (N.size + 1) s b 0).1 := by
  rw [dfaRow_eq]
  refine (row_fold N s classOf (fun r => some (nextState N false (N.size + 1) s r 0).1)
    ?_ _ ?_ _ b ?_ d).trans ?_
  · intro b b' hc
    rw [h.nextState_cong hC hc _ _ _ hv]
  · intro r
    simp only [Bool.false_eq_true, if_false]
    rw [h.unanch_entry hv r]
  · rw [Array.size_replicate]; exact hC.lt b
  · rfl

theorem rowA_spec (h : NfaSpec f k Q L N) (hC : ClassOK N classOf nc) {s : Nat} (hv : VA L s)
    (b : UInt8) (d : Nat) :
    (dfaRow N classOf nc true s).getD (classOf b) d = (nextState N true (N.size + 1) s b 0).1 := by
  rw [dfaRow_eq]
  refine (row_fold N s classOf (fun r => some (nextState N true (N.size + 1) s r 0).1)
    ?_ _ ?_ _ b ?_ d).trans ?_
  · intro b b' hc
    rw [anch_entry, anch_entry, h.follow_cong_VA hC hv hc]
  · intro r
    simp only [if_true]
    rw [anch_entry]
  · rw [Array.size_replicate]; exact hC.lt b
  · rfl

theorem row_spec (h : NfaSpec f k Q L N) (hC : ClassOK N classOf nc) {anch : Bool} {s : Nat}
    (hv : LvA L anch s) (b : UInt8) :
    (dfaRow N classOf nc anch s).getD (classOf b) 0 = (nextState N anch (N.size + 1) s b 0).1 := by
  cases anch
  · exact h.rowU_spec hC hv b 0
  · exact h.rowA_spec hC hv b 0

end AcVerif.L1cP.NfaSpec

namespace AcVerif.L1dP
open AcVerif AcVerif.CNfa AcVerif.L1cP AcVerif.L1eP AcVerif.L1dIdsP

theorem LvA.ne_other {f : UInt8 → UInt8} {k : MatchKind} {Q : PatSet UInt8} {L : List (List UInt8)}
    {N : CNfa} (h : NfaSpec f k Q L N) {anch : Bool} {s : Nat} (hv : LvA L anch s) :
    (s == SU || s == SA) = (s == startOf anch) := by
  have := h.LvA_ne_other_start hv
  cases anch
  · have e : (s == SA) = false := beq_eq_false_iff_ne.2 this
    rw [e, Bool.or_false]; rfl
  · have e : (s == SU) = false := beq_eq_false_iff_ne.2 this
    rw [e, Bool.false_or]; rfl

end AcVerif.L1dP
