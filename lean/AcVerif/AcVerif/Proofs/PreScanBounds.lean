import AcVerif.PreScan
import AcVerif.Proofs.SweepLoops
/-!
# C19: the prefilter work of one search (`findScan`) is bounded

The in-loop prefilter call at position `at` is given the span `at..e`; its answer accounts for
the stretch from `at` to the reported position and the loop resumes

* at `i` for a candidate `.pos i` with `i > at` (the stretch is `at..i`: no overlap),
* at `m.start` for a confirmed match `.mtch m` with `m.start > at`, while the stretch is
  `at..m.stop`: the next stretch may overlap this one by the length of `m`.

`scanLoop_le_of` bounds the loop by any potential of the position that pays for every answer.
`scanLoop_le` takes the potential `scanBound L (e - at)`, `scanBound L n = n + L * (n - 1)`, for
a prefilter whose confirmed matches are at most `L` long (`L = 0` covers the prefilters that
never confirm a match); `scanLoop_le_quad` needs no length bound and takes `n (n + 1) / 2`.
-/
namespace AcVerif
variable {σ α : Type}

/-- `n + L * (n - 1)`: `n` bytes of span, plus one match length of overlap for every in-loop
call but the last -/
def scanBound (L n : Nat) : Nat := n + L * (n - 1)

namespace ScanP

theorem scanBound_zero_left (n : Nat) : scanBound 0 n = n := by
  simp [scanBound]

theorem le_scanBound (L n : Nat) : n ≤ scanBound L n := Nat.le_add_right _ _

theorem scanBound_mono (L : Nat) {n n' : Nat} (h : n' ≤ n) : scanBound L n' ≤ scanBound L n := by
  unfold scanBound
  have : L * (n' - 1) ≤ L * (n - 1) := Nat.mul_le_mul_left L (by omega)
  omega

/-- a jump of `d ≥ 0` bytes accounted as `d`: no overlap -/
theorem scanBound_jump (L : Nat) {n n' d : Nat} (h : d + n' ≤ n) :
    d + scanBound L n' ≤ scanBound L n := by
  unfold scanBound
  have : L * (n' - 1) ≤ L * (n - 1) := Nat.mul_le_mul_left L (by omega)
  omega

/-- a jump to `n'` remaining bytes accounted as up to `(n - n') + L`: one match of overlap -/
theorem scanBound_overlap (L : Nat) {n n' x : Nat} (h1 : n' + 1 ≤ n) (hx : x ≤ n)
    (hx' : x + n' ≤ n + L) : x + scanBound L n' ≤ scanBound L n := by
  unfold scanBound
  rcases Nat.eq_zero_or_pos n' with rfl | hpos
  · simp only [Nat.zero_sub, Nat.mul_zero, Nat.add_zero]
    omega
  · obtain ⟨k, rfl⟩ : ∃ k, n' = k + 1 := ⟨n' - 1, by omega⟩
    have h2 : L * (k + 1) ≤ L * (n - 1) := Nat.mul_le_mul_left L (by omega)
    rw [Nat.mul_succ] at h2
    simp only [Nat.add_sub_cancel]
    omega

section
variable (A : Aut σ α) (hay : List α) (s e : Nat) (he : e ≤ hay.length)
  (pre : Option (Prefilter α))

/-- Loop rule: a potential `Φ` of the position bounds the extents still to come if it does not
grow from one byte to the next and every in-loop answer at `a` is paid for by the drop of `Φ` from
`a` to the position where the loop resumes (to nothing when the answer ends the search). -/
theorem scanLoop_le_of (anch earliest : Bool) (Φ : Nat → Nat)
    (next : ∀ a, a < e → Φ (a + 1) ≤ Φ a)
    (call : ∀ p, pre = some p → ∀ a, a < e →
      (p hay a e).extent a e +
        (match (p hay a e).intoOption with
          | Option.none => 0
          | some i => Φ (max i (a + 1))) ≤ Φ a)
    (sid : σ) (at_ acc : Nat) :
    scanLoop A hay s e he pre anch earliest sid at_ acc ≤ acc + Φ at_ := by
  rw [scanLoop_eq_sweep]
  refine sweep_ind (P := fun _ a acc r => r.acc ≤ acc + Φ a)
    (fun _ _ _ _ => Nat.le_add_right _ _) ?_ ?_ sid at_ acc
  · intro q a x b mv h _ hmv hh
    cases mv with
    | asked c =>
      obtain ⟨_, _, _, p, hp, rfl⟩ := of_move_eq_asked hmv
      have hc := call p hp a h
      rw [Option.isNone_iff_eq_none.1 hh] at hc
      exact Nat.add_le_add_left hc _
    | _ => exact Nat.le_add_right _ _
  · intro q a x b mv r h _ hmv hh ih
    have go : ∀ y, y ≤ x + Φ (a + 1) → y ≤ x + Φ a :=
      fun y hy => Nat.le_trans hy (Nat.add_le_add_left (next a h) _)
    cases mv with
    | dead => exact absurd rfl hh
    | hit m => exact go _ ih
    | next => exact go _ ih
    | asked c =>
      obtain ⟨_, _, _, p, hp, rfl⟩ := of_move_eq_asked hmv
      have hc := call p hp a h
      dsimp only [Move.resume, scanUpd, Move.halts] at ih hh
      cases hi : (p hay a e).intoOption with
      | none => rw [hi] at hh; exact absurd rfl hh
      | some i =>
        rw [hi] at hc ih
        refine Nat.le_trans ih ?_
        rw [Nat.add_assoc]
        exact Nat.add_le_add_left hc _

/-- the hypothesis on the in-loop answers for one haystack and one span end: a candidate or a
confirmed match stays inside the span, a confirmed match is at most `L` long -/
def LoopOk (L : Nat) (pre : Option (Prefilter α)) (hay : List α) (e : Nat) : Prop :=
  ∀ p, pre = some p → ∀ a, a ≤ e →
    match p hay a e with
    | .none => True
    | .pos i => i ≤ e
    | .mtch m => m.stop ≤ e ∧ m.stop ≤ m.start + L

theorem scanLoop_le (L : Nat) (hok : LoopOk L pre hay e) (anch earliest : Bool)
    (sid : σ) (at_ acc : Nat) :
    scanLoop A hay s e he pre anch earliest sid at_ acc ≤ acc + scanBound L (e - at_) := by
  refine scanLoop_le_of A hay s e he pre anch earliest (fun a => scanBound L (e - a)) ?_ ?_
    sid at_ acc
  · intro a _
    exact scanBound_mono L (by omega)
  · intro p hp a h
    have hp := hok p hp a (Nat.le_of_lt h)
    cases hc : p hay a e with
    | none => exact le_scanBound L (e - a)
    | pos i =>
      rw [hc] at hp
      exact scanBound_jump L (show i - a + (e - max i (a + 1)) ≤ e - a by omega)
    | mtch m =>
      rw [hc] at hp
      exact scanBound_overlap L (x := m.stop - a) (by omega) (by omega) (by omega)

/-- The first loop iteration when the loop starts on the very position the initial call was made
at: the in-loop call is the initial call again, it answers the same candidate (extent 0) and the
loop moves on by one byte. -/
theorem scanLoop_le_first (L : Nat) (hok : LoopOk L pre hay e) (anch earliest : Bool)
    (sid : σ) (at_ acc : Nat) (hfirst : ∀ p, pre = some p → p hay at_ e = .pos at_) :
    scanLoop A hay s e he pre anch earliest sid at_ acc ≤ acc + scanBound L (e - at_ - 1) := by
  have go : ∀ (sid' : σ), scanLoop A hay s e he pre anch earliest sid' (at_ + 1) acc ≤
      acc + scanBound L (e - at_ - 1) := fun sid' =>
    scanLoop_le A hay s e he pre L hok anch earliest sid' (at_ + 1) acc
  by_cases h : at_ < e
  · cases hm : move A hay s e pre anch _ at_ with
    | asked c =>
      obtain ⟨_, _, _, p, hp, rfl⟩ := of_move_eq_asked hm
      rw [scanLoop_step A hay s e he pre anch earliest sid at_ acc h rfl hm, hfirst p hp]
      simp only [Move.halts, Move.resume, scanUpd, Cand.intoOption, Cand.extent, Nat.sub_self,
        Nat.add_zero, Option.getD_some, Nat.max_eq_right (Nat.le_succ at_), Option.isNone_some,
        Bool.false_eq_true, if_false]
      exact go _
    | _ =>
      rw [scanLoop_step A hay s e he pre anch earliest sid at_ acc h rfl hm]
      split
      · exact Nat.le_add_right _ _
      · exact go _
  · rw [scanLoop_done h]; exact Nat.le_add_right _ _

/-! ## without a length bound: quadratic -/

/-- in-loop answers stay inside the span (nothing about the length of a confirmed match) -/
def LoopIn (pre : Option (Prefilter α)) (hay : List α) (e : Nat) : Prop :=
  ∀ p, pre = some p → ∀ a, a ≤ e →
    match p hay a e with
    | .none => True
    | .pos i => i ≤ e
    | .mtch m => m.stop ≤ e

theorem tri_mono {n n' : Nat} (h : n' ≤ n) : n' * (n' + 1) ≤ n * (n + 1) :=
  Nat.mul_le_mul h (by omega)

theorem tri_step_half {n n' x : Nat} (h1 : n' + 1 ≤ n) (hx : x ≤ n) :
    x + n' * (n' + 1) / 2 ≤ n * (n + 1) / 2 := by
  obtain ⟨k, rfl⟩ : ∃ k, n = k + 1 := ⟨n - 1, by omega⟩
  have h2 : n' * (n' + 1) ≤ k * (k + 1) := tri_mono (by omega)
  have h3 : (k + 1) * (k + 1 + 1) = k * (k + 1) + 2 * (k + 1) := by
    rw [Nat.mul_succ (k + 1) (k + 1), Nat.succ_mul k (k + 1)]; omega
  omega

/-- every in-loop call is given at most the rest of the span and the loop advances by at least
one byte: the work is at most the triangular number of the rest of the span -/
theorem scanLoop_le_quad (hok : LoopIn pre hay e) (anch earliest : Bool)
    (sid : σ) (at_ acc : Nat) :
    scanLoop A hay s e he pre anch earliest sid at_ acc ≤
      acc + (e - at_) * (e - at_ + 1) / 2 := by
  refine scanLoop_le_of A hay s e he pre anch earliest (fun a => (e - a) * (e - a + 1) / 2) ?_ ?_
    sid at_ acc
  · intro a _
    exact Nat.div_le_div_right (tri_mono (by omega))
  · intro p hp a h
    have hp := hok p hp a (Nat.le_of_lt h)
    cases hc : p hay a e with
    | none => exact tri_step_half (n' := 0) (by omega) (Nat.le_refl _)
    | pos i =>
      rw [hc] at hp
      exact tri_step_half (x := i - a) (by omega) (by omega)
    | mtch m =>
      rw [hc] at hp
      exact tri_step_half (x := m.stop - a) (by omega) (by omega)

end
end ScanP
end AcVerif

namespace AcVerif
namespace ScanP
variable {σ α : Type}

/-- `findScan` case by case: the initial answer ends the search (`.none`, `.mtch`) or starts
the loop (`.pos`) -/
theorem findScan_le_of (A : Aut σ α) (pre : Option (Prefilter α)) (i : Input α) (B : Nat)
    (hnone : ∀ p, pre = some p → i.s ≤ i.e → p i.hay i.s i.e = .none → i.e - i.s ≤ B)
    (hmtch : ∀ p m, pre = some p → i.s ≤ i.e → p i.hay i.s i.e = .mtch m → m.stop - i.s ≤ B)
    (hpos : ∀ p j, pre = some p → i.s ≤ i.e → p i.hay i.s i.e = .pos j →
      ∀ earliest sid, scanLoop A i.hay i.s i.e i.valid.1 pre false earliest sid j (j - i.s) ≤ B) :
    findScan A pre i ≤ B := by
  unfold findScan
  split
  · exact Nat.zero_le _
  · rename_i hd
    have hse : i.s ≤ i.e := by
      simp only [Input.isDone, decide_eq_true_eq] at hd
      omega
    simp only
    split
    · exact Nat.zero_le _
    · unfold scanImp
      split
      · exact Nat.zero_le _
      · split
        · exact Nat.zero_le _
        · cases pre with
          | none => exact Nat.zero_le _
          | some p =>
            simp only
            split
            · rename_i hc
              simp only [Cand.extent, hc]
              exact hnone p rfl hse hc
            · rename_i m hc
              simp only [Cand.extent, hc]
              exact hmtch p m rfl hse hc
            · rename_i j hc
              simp only [Cand.extent, hc]
              exact hpos p j rfl hse hc _ _

end ScanP
end AcVerif
