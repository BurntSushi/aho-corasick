import AcVerif.Proofs.Struct
/-!
# Earliest versus normal mode of the generic loop (any automaton)

The earliest-mode loop returns at the first position where the normal loop
sets `mat`; afterwards the normal loop only replaces `mat` by matches ending
later (`findS_some_mono`).  Hence on a non-standard automaton, without prefilter, earliest mode
finds a match iff normal mode does, and it ends no later (`findS_earliest_cmp`,
`tryFind_earliest_cmp`).
-/
namespace AcVerif.LmP
open AcVerif AcVerif.ScanP
variable {σ α : Type}

theorem findS_some_mono (A : Aut σ α) (s : Nat) (anch : Bool) (rest : List α) :
    ∀ (sid : σ) (at_ : Nat) (m : Mat), m.stop ≤ at_ →
      ∃ m', findS A s anch false sid at_ (some m) rest = some m' ∧ m.stop ≤ m'.stop := by
  induction rest with
  | nil => intro sid at_ m _; exact ⟨m, rfl, Nat.le_refl _⟩
  | cons c rest ih =>
    intro sid at_ m hm
    rcases move_none_cases A [] s 0 anch (A.next anch sid c) at_ with h | h | h <;>
      rw [findS_cons A [] s 0 anch false sid at_ _ c rest rfl h]
    · exact ⟨m, rfl, Nat.le_refl _⟩
    · obtain ⟨m', h1, h2⟩ := ih (A.next anch sid c) (at_ + 1)
        (getMatch A (A.next anch sid c) 0 (at_ + 1)) (Nat.le_refl _)
      exact ⟨m', h1, Nat.le_trans (Nat.le_succ_of_le hm) h2⟩
    · exact ih _ (at_ + 1) m (Nat.le_succ_of_le hm)

theorem findS_earliest_cmp (A : Aut σ α) (s : Nat) (anch : Bool) (rest : List α) :
    ∀ (sid : σ) (at_ : Nat),
      (findS A s anch true sid at_ none rest).isSome =
        (findS A s anch false sid at_ none rest).isSome ∧
      ∀ m m', findS A s anch true sid at_ none rest = some m →
        findS A s anch false sid at_ none rest = some m' → m.stop ≤ m'.stop := by
  induction rest with
  | nil => intro sid at_; exact ⟨rfl, fun _ _ h => nomatch h⟩
  | cons c rest ih =>
    intro sid at_
    rcases move_none_cases A [] s 0 anch (A.next anch sid c) at_ with h | h | h <;>
      rw [findS_cons A [] s 0 anch true sid at_ _ c rest rfl h,
        findS_cons A [] s 0 anch false sid at_ _ c rest rfl h]
    · exact ⟨rfl, fun _ _ h => nomatch h⟩
    · -- the earliest loop returns the match that the normal loop only records
      obtain ⟨m', h1, h2⟩ := findS_some_mono A s anch rest (A.next anch sid c) (at_ + 1)
        (getMatch A (A.next anch sid c) 0 (at_ + 1)) (Nat.le_refl _)
      simp only [Move.halts, findUpd, findPost, ↓reduceIte, Bool.false_eq_true, h1]
      exact ⟨rfl, fun m m'' e1 e2 => by cases e1; cases e2; exact h2⟩
    · exact ih _ _

theorem tryFind_earliest_cmp (A : Aut σ α) (hk : A.kind ≠ .std) (i : Input α)
    (r r' : Option Mat)
    (h1 : tryFindFwd A none { i with earliest := true } = .ok r)
    (h2 : tryFindFwd A none { i with earliest := false } = .ok r') :
    r.isSome = r'.isSome ∧ ∀ m m', r = some m → r' = some m' → m.stop ≤ m'.stop := by
  have hkind : (A.kind == MatchKind.std) = false := beq_false_of_ne hk
  cases hs : A.start i.anch with
  | none =>
    -- both modes reject the request
    cases (tryFindFwd_nostart A none { i with earliest := true } hs).symm.trans h1
  | some sid =>
    have e1 := (tryFindFwd_findS A { i with earliest := true } hs).symm.trans h1
    have e2 := (tryFindFwd_findS A { i with earliest := false } hs).symm.trans h2
    have hd1 : ({ i with earliest := true } : Input α).isDone = i.isDone := rfl
    have hd2 : ({ i with earliest := false } : Input α).isDone = i.isDone := rfl
    simp only [hkind, Bool.false_or, hd1, hd2, if_true, Bool.false_eq_true, if_false] at e1 e2
    cases e1; cases e2
    cases i.isDone with
    | true => exact ⟨rfl, fun _ _ h => nomatch h⟩
    | false =>
      cases A.isMatch sid with
      | true =>
        -- the start state matches: earliest mode returns that match, normal mode records it
        obtain ⟨m', e1, e2⟩ := findS_some_mono A i.s i.anch ((i.hay.take i.e).drop i.s) sid i.s
          (getMatch A sid 0 i.s) (Nat.le_refl _)
        simp only [Bool.false_eq_true, if_false, if_true, e1]
        exact ⟨rfl, fun _ _ e3 e4 => by cases e3; cases e4; exact e2⟩
      | false => exact findS_earliest_cmp A i.s i.anch _ sid i.s

end AcVerif.LmP
