import AcVerif.BuildChecked
import AcVerif.Proofs.CompilerBase
/-!
# The shape of the trie, as the memory model needs it during `build_trie`

The memory operations are only specified in range, so the refinement of `build_trie` needs that
every transition target and every state of the pattern loop is in range.  That follows from the
shape of the trie alone, for any automaton of that shape (`TI`; `d` is a depth function on the
states, `TI.edge`: a transition into a trie node increases the depth by one).  Here: `TI` and what
one step of `build_trie` does to it (`TI.follow`, `TI.alloc`); `TrieRule.lean` carries it through
the loop (`TI_buildTrie`) and hands it to every other invariant of `build_trie`.

What the failure phase needs – `copy_matches(fail, next)` is never called with `fail == next`; the
failure chase never reads the failure link of `DEAD`, `FAIL` or the unanchored start (the crate's
`alloc_state` leaves these three `0`, unlike `CNfa.init`: `zeroFail012` in `NfaMemCompileTop.lean`)
and does not run out of fuel – comes from the compiler proof (`L1cP.ChildOK`, `L1cP.ChaseOK`, used
in `NfaMemCompileBfs.lean`); of the shape only `FP` (`NfaMemCompileFill.lean`) is used there.

Namespace `MemC`: the proof that the compiler run on the memory, `MemNfa.compile` of
`AcVerif/NfaMemCompile.lean`, refines `CNfa.compile` (`Rel`, `compile_rel`), in the
`NfaMemCompile*` files.
-/
namespace AcVerif.MemC
open AcVerif AcVerif.CNfa AcVerif.L1cP

/-! ## keys of a transition list -/

theorem keys_insertTrans {b : UInt8} {t : Nat} {l : List (UInt8 × Nat)} :
    Sorted l → b ∈ l.map (·.1) → (insertTrans b t l).map (·.1) = l.map (·.1) := by
  refine insertTrans_induction
    (motive := fun l r => Sorted l → b ∈ l.map (·.1) → r.map (·.1) = l.map (·.1)) b t ?_ ?_ ?_ ?_ l
  · exact fun _ hb => nomatch hb
  · -- `b` is below the first key of a sorted list, so it is not a key
    intro d s rest hbd hs hb
    exfalso
    obtain ⟨x, hx, hx1⟩ := List.mem_map.1 hb
    rcases List.mem_cons.1 hx with e | e
    · subst e; exact UInt8.lt_irrefl _ (hx1 ▸ hbd)
    · have := (List.pairwise_cons.1 hs).1 x e
      rw [hx1] at this
      exact UInt8.lt_irrefl _ (UInt8.lt_trans hbd this)
  · exact fun s rest _ _ => rfl
  · intro d s rest hdb ih hs hb
    rcases List.mem_cons.1 hb with e | e
    · exact absurd hdb (e ▸ UInt8.lt_irrefl _)
    · rw [List.map_cons, List.map_cons, ih (List.pairwise_cons.1 hs).2 e]

theorem keys_newEdges {fold : Bool} {b : UInt8} {t : Nat} {l : List (UInt8 × Nat)} (hs : Sorted l)
    (hall : ∀ c : UInt8, c ∈ l.map (·.1)) : (newEdges fold b t l).map (·.1) = l.map (·.1) ∧
      Sorted (newEdges fold b t l) := by
  unfold newEdges
  cases fold
  · simp only [Bool.false_eq_true, if_false]
    exact ⟨keys_insertTrans hs (hall b), sorted_insertTrans hs⟩
  · simp only [if_true]
    have h1 := keys_insertTrans (t := t) hs (hall b)
    have hs1 : Sorted (insertTrans b t l) := sorted_insertTrans hs
    refine ⟨?_, sorted_insertTrans hs1⟩
    rw [keys_insertTrans hs1 (by rw [h1]; exact hall _), h1]

theorem mem_keys_fullTrans (t : Nat) (c : UInt8) : c ∈ (fullTrans t).map (·.1) :=
  List.mem_map.2 ⟨(c, t), mem_fullTrans t c, rfl⟩

theorem lookup_mem_of_key {l : List (UInt8 × Nat)} {b : UInt8} (hb : b ∈ l.map (·.1)) :
    (b, lookup l b) ∈ l := by
  induction l with
  | nil => simp at hb
  | cons y rest ih =>
    obtain ⟨c, s⟩ := y
    rw [lookup_cons]
    by_cases e : c = b
    · subst e; rw [if_pos rfl]; exact List.mem_cons_self
    · rw [if_neg e]
      simp only [List.map_cons, List.mem_cons] at hb
      rcases hb with e' | e'
      · exact absurd e'.symm e
      · exact List.mem_cons_of_mem _ (ih e')

/-! ## distinct targets (no case folding) -/

def Distinct (l : List (UInt8 × Nat)) : Prop := l.Pairwise fun x y => x.2 = y.2 → x.2 < 4

theorem distinct_insertTrans {b : UInt8} {t : Nat} {l : List (UInt8 × Nat)} :
    Distinct l → (∀ x ∈ l, x.2 ≠ t) → Distinct (insertTrans b t l) := by
  refine insertTrans_induction
    (motive := fun l r => Distinct l → (∀ x ∈ l, x.2 ≠ t) → Distinct r) b t ?_ ?_ ?_ ?_ l
  · exact fun _ _ => List.pairwise_singleton _ _
  · exact fun d s rest _ hd hfresh =>
      List.pairwise_cons.2 ⟨fun x hx e => absurd e.symm (hfresh x hx), hd⟩
  · exact fun s rest hd hfresh => List.pairwise_cons.2
      ⟨fun x hx e => absurd e.symm (hfresh x (List.mem_cons_of_mem _ hx)), (List.pairwise_cons.1 hd).2⟩
  · intro d s rest _ ih hd hfresh
    have hd' := List.pairwise_cons.1 hd
    refine List.pairwise_cons.2
      ⟨fun x hx e => ?_, ih hd'.2 fun x hx => hfresh x (List.mem_cons_of_mem _ hx)⟩
    rcases mem_insertTrans hx with e' | e'
    · subst e'
      exact absurd e (hfresh (d, s) List.mem_cons_self)
    · exact hd'.1 x e' e

/-! ## the trie invariant -/

structure TI (fold : Bool) (n : CNfa) (d : Nat → Nat) : Prop where
  size4 : 4 ≤ n.size
  d0 : ∀ s, s < 4 → d s = 0
  dpos : ∀ s, 4 ≤ s → s < n.size → 1 ≤ d s ∧ d s + 3 ≤ s
  /-- every transition: target in range; into a trie node the depth grows by one; trie nodes lead
  to trie nodes; the unanchored start leads to `FAIL` or to trie nodes -/
  edge : ∀ s x, x ∈ (n.getD s {}).trans →
    x.2 < n.size ∧ (4 ≤ x.2 → d x.2 = d s + 1) ∧ (4 ≤ s → 4 ≤ x.2) ∧ (s = 2 → x.2 = 1 ∨ 4 ≤ x.2)
  sortedSU : Sorted (n.getD 2 {}).trans
  keysSU : (n.getD 2 {}).trans.map (·.1) = (fullTrans 0).map (·.1)
  dead : (n.getD 0 {}).trans = fullTrans 0
  sa : (n.getD 3 {}).trans = fullTrans 1
  fails : ∀ s, 3 ≤ s → s < n.size → (n.getD s {}).fail = 2
  distinct : fold = false → Distinct (n.getD 2 {}).trans

theorem TI.congr {fold : Bool} {n n' : CNfa} {d : Nat → Nat} (h : TI fold n d)
    (hsz : n'.size = n.size)
    (hst : ∀ s, (n'.getD s {}).trans = (n.getD s {}).trans ∧ (n'.getD s {}).fail = (n.getD s {}).fail) :
    TI fold n' d where
  size4 := hsz ▸ h.size4
  d0 := h.d0
  dpos := fun s h4 hs => h.dpos s h4 (hsz ▸ hs)
  edge := fun s x hx => by rw [hsz]; exact h.edge s x ((hst s).1 ▸ hx)
  sortedSU := by rw [(hst 2).1]; exact h.sortedSU
  keysSU := by rw [(hst 2).1]; exact h.keysSU
  dead := by rw [(hst 0).1]; exact h.dead
  sa := by rw [(hst 3).1]; exact h.sa
  fails := fun s h3 hs => by rw [(hst s).2]; exact h.fails s h3 (hsz ▸ hs)
  distinct := fun hf => by rw [(hst 2).1]; exact h.distinct hf

theorem TI_init (fold : Bool) : TI fold init (fun _ => 0) := by
  have hsz : init.size = 4 := rfl
  have h0 : init.getD 0 {} = { trans := fullTrans DEAD, fail := SU } := by
    rw [Array.getD_eq_getD_getElem?]; rfl
  have h2 : init.getD 2 {} = { trans := fullTrans FAIL, fail := SU } := by
    rw [Array.getD_eq_getD_getElem?]; rfl
  have h3 : init.getD 3 {} = { trans := fullTrans FAIL, fail := SU } := by
    rw [Array.getD_eq_getD_getElem?]; rfl
  -- every transition leads to `DEAD` or `FAIL`, those of the unanchored start to `FAIL`
  have hedge : ∀ s x, x ∈ (init.getD s {}).trans → x.2 ≤ 1 ∧ s < 4 ∧ (s = 2 → x.2 = 1) := by
    intro s x hx
    match s, hx with
    | 0, hx => rw [h0] at hx; rw [snd_of_mem_fullTrans hx]; exact ⟨by decide, by decide, nofun⟩
    | 1, hx => nomatch hx
    | 2, hx => rw [h2] at hx; rw [snd_of_mem_fullTrans hx]; exact ⟨by decide, by decide, fun _ => rfl⟩
    | 3, hx => rw [h3] at hx; rw [snd_of_mem_fullTrans hx]; exact ⟨by decide, by decide, nofun⟩
    | s + 4, hx => nomatch hx
  refine {
    size4 := Nat.le_of_eq hsz.symm
    d0 := fun _ _ => rfl
    dpos := fun s h4 hs => absurd (hsz ▸ hs) (Nat.not_lt.2 h4)
    edge := fun s x hx => ?_
    sortedSU := by rw [h2]; exact sorted_fullTrans _
    keysSU := by rw [h2]; simp [fullTrans]
    dead := by rw [h0]; rfl
    sa := by rw [h3]; rfl
    fails := fun s h3' hs => ?_
    distinct := fun _ => ?_ }
  · obtain ⟨e1, e2, e3⟩ := hedge s x hx
    rw [hsz]
    exact ⟨by omega, by omega, by omega, fun e => Or.inl (e3 e)⟩
  · have : s = 3 := by omega
    rw [this, h3]; rfl
  · rw [h2]
    refine List.Pairwise.imp_of_mem (fun hx _ _ _ => ?_) (sorted_fullTrans FAIL)
    rw [snd_of_mem_fullTrans hx]; decide

theorem TI.alloc {fold : Bool} {n : CNfa} {d : Nat → Nat} (h : TI fold n d) {prev : Nat}
    (hp : prev < n.size) (hp2 : prev = 2 ∨ 4 ≤ prev) (b : UInt8) :
    TI fold (newChild fold n prev b) (fun s => if s = n.size then d prev + 1 else d s) := by
  have hg := getD_newChild fold n prev b hp
  have h4 := h.size4
  have hne : prev ≠ n.size := Nat.ne_of_lt hp
  have hprev : (newChild fold n prev b).getD prev {} =
      { n.getD prev {} with trans := newEdges fold b n.size (n.getD prev {}).trans } := by
    rw [hg, if_pos rfl]
  have hother : ∀ s, s ≠ prev → (newChild fold n prev b).getD s {} = n.getD s {} :=
    fun s h1 => by rw [hg, if_neg h1]
  have hold : ∀ s, s < n.size → (if s = n.size then d prev + 1 else d s) = d s :=
    fun s hs => if_neg (Nat.ne_of_lt hs)
  have hlow : ∀ s, s < 4 → s < n.size := fun s hs => Nat.lt_of_lt_of_le hs h4
  have hall : ∀ c : UInt8, c ∈ (n.getD 2 {}).trans.map (·.1) := by
    intro c; rw [h.keysSU]; exact mem_keys_fullTrans 0 c
  -- the list of the unanchored start changes only when it is the parent
  have hsu : prev ≠ 2 → (newChild fold n prev b).getD 2 {} = n.getD 2 {} :=
    fun e => hother 2 (Ne.symm e)
  refine {
    size4 := by rw [size_newChild]; exact Nat.le_succ_of_le h4
    d0 := fun s hs => (hold s (hlow s hs)).trans (h.d0 s hs)
    dpos := fun s hs4 hs => ?_, edge := fun s x hx => ?_, sortedSU := ?_, keysSU := ?_
    dead := by rw [hother 0 (by omega)]; exact h.dead
    sa := by rw [hother 3 (by omega)]; exact h.sa
    fails := fun s h3 hs => ?_, distinct := fun hf => ?_ }
  · rw [size_newChild] at hs
    by_cases e : s = n.size
    · rw [if_pos e, e]
      rcases hp2 with e2 | e2
      · rw [e2, h.d0 2 (by decide)]; omega
      · have := h.dpos prev e2 hp; omega
    · rw [if_neg e]; exact h.dpos s hs4 (by omega)
  · rw [size_newChild]
    by_cases e : s = prev
    · rw [e, hprev] at hx
      rw [e, hold prev hp]
      rcases mem_newEdges hx with e1 | e1
      · rw [e1, if_pos rfl]
        exact ⟨Nat.lt_succ_self _, fun _ => rfl, fun _ => h4, fun _ => Or.inr h4⟩
      · obtain ⟨a1, a2, a3, a4⟩ := h.edge prev x e1
        rw [hold _ a1]
        exact ⟨Nat.lt_succ_of_lt a1, a2, a3, a4⟩
    · by_cases e2 : s = n.size
      · rw [hother s e, e2, Array.getD_of_size_le _ _ (Nat.le_refl _)] at hx
        nomatch hx
      · rw [hother s e] at hx
        obtain ⟨a1, a2, a3, a4⟩ := h.edge s x hx
        rw [hold _ a1, if_neg e2]
        exact ⟨Nat.lt_succ_of_lt a1, a2, a3, a4⟩
  · by_cases e : prev = 2
    · subst e; rw [hprev]
      exact (keys_newEdges h.sortedSU hall).2
    · rw [hsu e]; exact h.sortedSU
  · by_cases e : prev = 2
    · subst e; rw [hprev]
      exact (keys_newEdges h.sortedSU hall).1.trans h.keysSU
    · rw [hsu e]; exact h.keysSU
  · rw [size_newChild] at hs
    rw [hg]
    by_cases e : s = prev
    · rw [if_pos e]; exact h.fails prev (e ▸ h3) hp
    · rw [if_neg e]
      by_cases e2 : s = n.size
      · rw [e2, Array.getD_of_size_le _ _ (Nat.le_refl _)]
      · exact h.fails s h3 (by omega)
  · by_cases e : prev = 2
    · subst e; rw [hprev, hf]
      exact distinct_insertTrans (h.distinct hf) fun x hx => Nat.ne_of_lt (h.edge 2 x hx).1
    · rw [hsu e]; exact h.distinct hf

/-! ## following an edge -/

theorem bne_FAIL_false {x : Nat} : (x != FAIL) = false ↔ x = FAIL := by simp

theorem TI.follow {fold : Bool} {n : CNfa} {d : Nat → Nat} (h : TI fold n d) {prev : Nat}
    (hp2 : prev = 2 ∨ 4 ≤ prev) {b : UInt8} (hf : follow n prev b ≠ FAIL) :
    follow n prev b < n.size ∧ 4 ≤ follow n prev b := by
  obtain ⟨a1, _, a3, a4⟩ := h.edge prev _ (mem_of_lookup (l := (n.getD prev {}).trans) rfl hf)
  refine ⟨a1, hp2.elim (fun e => (a4 e).elim (fun e' => absurd e' hf) id) a3⟩

end AcVerif.MemC
