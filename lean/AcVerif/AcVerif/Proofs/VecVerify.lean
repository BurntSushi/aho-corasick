import AcVerif.Proofs.VecOps
/-!
# `Teddy::verify` / `verify64` at the vector level is the lane model's `verify`

`verify64` walks the set bits of a 64-bit lane in increasing order; the bits
are grouped as `64 / BUCKETS` positions × `BUCKETS` buckets, so the walk is the
lane model's nested search (positions ascending, then buckets ascending).
`verify64_digits` is this for one 64-bit word given as little-endian digits, `verify_lanes64` for
a list of lanes cut into such words.  Results: `verifyV_slim` (`verifyV t false w … cand =
t.verify … (laneOfSlim cand)`, `w = 16 ∨ w = 32`, 8 buckets) and `verifyV_fat` (the same with
`laneOfFat`, `w = 32`, 16 buckets; `fat_lane64`: after `unpacklo`/`unpackhi` each extracted 64-bit
lane holds four 16-bit lanes of the fat encoding).
-/
namespace AcVerif.VecP
open AcVerif.PackedP

/-! ## `findSome?` over ranges -/

theorem findSome?_range_mul {β : Type} (f : Nat → Option β) (m n : Nat) :
    (List.range (m * n)).findSome? f =
      (List.range m).findSome? fun i => (List.range n).findSome? fun j => f (i * n + j) := by
  induction m with
  | zero => simp
  | succ m ih =>
    rw [Nat.succ_mul, List.range_add, List.findSome?_append, ih, List.range_succ,
      List.findSome?_append, List.findSome?_singleton, List.findSome?_map]
    rfl

/-! ## little-endian digits -/

theorem digits_testBit (s : Nat) (zs : List Nat) (hz : ∀ z ∈ zs, z < 2 ^ s) (q r : Nat)
    (hr : r < s) :
    (zs.foldr (fun z acc => z + 2 ^ s * acc) 0).testBit (q * s + r) = (zs.getD q 0).testBit r := by
  induction zs generalizing q with
  | nil => simp
  | cons z zs ih =>
    rw [List.foldr_cons, Nat.add_comm z,
      Nat.testBit_two_pow_mul_add _ (hz z (List.mem_cons_self ..))]
    cases q with
    | zero =>
      rw [if_pos (by omega)]
      simp
    | succ q =>
      have h1 : ¬ (q + 1) * s + r < s := by rw [Nat.succ_mul]; omega
      have h2 : (q + 1) * s + r - s = q * s + r := by rw [Nat.succ_mul]; omega
      rw [if_neg h1, h2, ih (fun z' hz' => hz z' (List.mem_cons_of_mem _ hz'))]
      simp

/-- `verify64` on the little-endian concatenation of `64 / BUCKETS` bucket bit sets -/
theorem verify64_digits (t : Teddy) (hay : PBytes) (base : Nat) (zs : List Nat)
    (hs : 0 < t.nBuckets) (hz : ∀ z ∈ zs, z < 2 ^ t.nBuckets) (hl : zs.length * t.nBuckets = 64) :
    verify64 t hay base (zs.foldr (fun z acc => z + 2 ^ t.nBuckets * acc) 0) =
      t.verify hay base zs := by
  unfold verify64 Teddy.verify
  rw [← hl, findSome?_range_mul]
  apply List.findSome?_congr
  intro j _
  apply List.findSome?_congr
  intro b hb
  have hb' : b < t.nBuckets := List.mem_range.1 hb
  have e1 : (j * t.nBuckets + b) / t.nBuckets = j := by
    rw [Nat.add_comm, Nat.add_mul_div_right _ _ hs, Nat.div_eq_of_lt hb', Nat.zero_add]
  have e2 : (j * t.nBuckets + b) % t.nBuckets = b := by
    rw [Nat.add_comm, Nat.add_mul_mod_self_right, Nat.mod_eq_of_lt hb']
  simp only
  rw [digits_testBit _ _ hz _ _ hb', and_bit_ne_zero, e1, e2]

theorem verify_chunks (t : Teddy) (hay : PBytes) (base : Nat) (l : List Nat) (c m : Nat)
    (hl : l.length = m * c) :
    t.verify hay base l =
      (List.range m).findSome? fun i =>
        t.verify hay (base + c * i) ((l.drop (c * i)).take c) := by
  unfold Teddy.verify
  rw [hl, findSome?_range_mul]
  apply List.findSome?_congr
  intro i hi
  have hi' : i < m := List.mem_range.1 hi
  have hle : c * i + c ≤ l.length := by
    rw [hl, Nat.mul_comm c i, ← Nat.succ_mul]; exact Nat.mul_le_mul_right c hi'
  have hlen : ((l.drop (c * i)).take c).length = c := by
    rw [List.length_take, List.length_drop]; omega
  rw [hlen]
  apply List.findSome?_congr
  intro r hr
  have hr' : r < c := List.mem_range.1 hr
  have e1 : ((l.drop (c * i)).take c).getD r 0 = l.getD (i * c + r) 0 := by
    rw [List.getD_take_of_lt _ _ _ _ hr', List.getD_drop, Nat.mul_comm]
  have e2 : base + c * i + r = base + (i * c + r) := by rw [Nat.mul_comm]; omega
  rw [e1, e2]

theorem verify_lanes64 (t : Teddy) (hay : PBytes) (base : Nat) (l : List Nat) (c m : Nat)
    (hc : c * t.nBuckets = 64) (hl : l.length = m * c) (hz : ∀ z ∈ l, z < 2 ^ t.nBuckets) :
    t.verify hay base l =
      (List.range m).findSome? fun i => verify64 t hay (base + c * i)
        (((l.drop (c * i)).take c).foldr (fun z acc => z + 2 ^ t.nBuckets * acc) 0) := by
  rw [verify_chunks t hay base l c m hl]
  apply List.findSome?_congr
  intro i hi
  have hi' : i * c + c ≤ m * c := by
    rw [← Nat.succ_mul]; exact Nat.mul_le_mul_right c (List.mem_range.1 hi)
  refine (verify64_digits t hay _ _ (Nat.pos_of_ne_zero (by rintro h; rw [h] at hc; cases hc))
    (fun z h => hz z (List.mem_of_mem_drop (List.mem_of_mem_take h))) ?_).symm
  rw [List.length_take, List.length_drop, hl, Nat.mul_comm c i, Nat.min_eq_left (by omega), hc]

/-! ## slim -/

theorem lane64_eq (a : Vec8) (i : Nat) :
    V.lane64 a i =
      (((laneOfSlim a).drop (8 * i)).take 8).foldr (fun z acc => z + 2 ^ 8 * acc) 0 := by
  unfold V.lane64 laneOfSlim
  rw [← List.map_drop, ← List.map_take, List.foldr_map]

theorem verifyV_slim (t : Teddy) (hB : t.nBuckets = 8) (w : Nat) (hw : w = 16 ∨ w = 32)
    (hay : PBytes) (base : Nat) (cand : Vec8) (hc : cand.length = w) :
    verifyV t false w hay base cand = t.verify hay base (laneOfSlim cand) := by
  have hl : (laneOfSlim cand).length = w / 8 * 8 := by
    unfold laneOfSlim; rw [List.length_map, hc]; omega
  have hz : ∀ z ∈ laneOfSlim cand, z < 2 ^ t.nBuckets := by
    intro z hz
    obtain ⟨x, _, rfl⟩ := List.mem_map.1 hz
    rw [hB]; exact x.toNat_lt
  rw [verify_lanes64 t hay base _ 8 (w / 8) (by rw [hB]) hl hz, hB]
  unfold verifyV
  simp only [Bool.not_false, if_true]
  apply List.findSome?_congr
  intro i _
  rw [lane64_eq]

/-! ## fat -/

theorem interleave8_cons (x y : UInt8) (a b : Vec8) :
    V.interleave8 (x :: a) (y :: b) = x :: y :: V.interleave8 a b := rfl

theorem interleave8_nil_right (a : Vec8) : V.interleave8 a [] = [] := by
  unfold V.interleave8; rw [List.zip_nil_right]; rfl

theorem interleave8_length (a b : Vec8) :
    (V.interleave8 a b).length = 2 * min a.length b.length := by
  induction a generalizing b with
  | nil => simp [V.interleave8]
  | cons x a ih =>
    cases b with
    | nil => simp [interleave8_nil_right]
    | cons y b =>
      rw [interleave8_cons, List.length_cons, List.length_cons, ih, List.length_cons,
        List.length_cons]
      omega

theorem interleave8_drop (a b : Vec8) (k : Nat) :
    (V.interleave8 a b).drop (2 * k) = V.interleave8 (a.drop k) (b.drop k) := by
  induction k generalizing a b with
  | zero => rfl
  | succ k ih =>
    cases a with
    | nil => rfl
    | cons x a =>
      cases b with
      | nil => simp only [interleave8_nil_right, List.drop_nil]
      | cons y b => exact ih a b

theorem interleave8_take (a b : Vec8) (k : Nat) :
    (V.interleave8 a b).take (2 * k) = V.interleave8 (a.take k) (b.take k) := by
  induction k generalizing a b with
  | zero => rfl
  | succ k ih =>
    cases a with
    | nil => rfl
    | cons x a =>
      cases b with
      | nil => simp only [interleave8_nil_right, List.take_nil]
      | cons y b =>
        rw [interleave8_cons, Nat.mul_succ, List.take_succ_cons, List.take_succ_cons, ih a b]
        rfl

/-- interleaved bytes, read little-endian, are the `fatPair`s read as 16-bit digits -/
theorem foldr_interleave8 (a b : Vec8) :
    (V.interleave8 a b).foldr (fun x acc => x.toNat + 256 * acc) 0 =
      (List.zipWith fatPair a b).foldr (fun z acc => z + 2 ^ 16 * acc) 0 := by
  induction a generalizing b with
  | nil => rfl
  | cons x a ih =>
    cases b with
    | nil => rfl
    | cons y b =>
      rw [interleave8_cons, List.zipWith_cons_cons, List.foldr_cons, List.foldr_cons,
        List.foldr_cons, ih, fatPair]
      omega

theorem lane64_interleave8 (a b : Vec8) (i : Nat) :
    V.lane64 (V.interleave8 a b) i =
      (((List.zipWith fatPair a b).drop (4 * i)).take 4).foldr (fun z acc => z + 2 ^ 16 * acc) 0 := by
  unfold V.lane64
  rw [show 8 * i = 2 * (4 * i) by omega, interleave8_drop, interleave8_take _ _ 4,
    foldr_interleave8, List.drop_zipWith, List.take_zipWith]

/-- `unpacklo` pairs up the low 8 bytes of the low 128-bit halves: its two low 64-bit lanes -/
theorem lane64_unpackLo (a b : Vec8) (ha : 8 ≤ a.length) (hb : 8 ≤ b.length) (i : Nat)
    (hi : i < 2) :
    V.lane64 (V.unpackLo a b) i =
      (((List.zipWith fatPair a b).drop (4 * i)).take 4).foldr (fun z acc => z + 2 ^ 16 * acc) 0 := by
  have hl : 8 * i + 8 ≤ (V.interleave8 (a.take 8) (b.take 8)).length := by
    rw [interleave8_length, List.length_take, List.length_take]; omega
  have := lane64_interleave8 (a.take 8) (b.take 8) i
  rw [← List.take_zipWith, List.take_drop_take _ _ _ _ (by omega)] at this
  rw [← this]
  unfold V.unpackLo V.lane64
  rw [List.drop_append_of_le_length (by omega),
    List.take_append_of_le_length (by rw [List.length_drop]; omega)]

theorem lane64_unpackHi (a b : Vec8) (ha : 16 ≤ a.length) (hb : 16 ≤ b.length) (i : Nat)
    (hi : i < 2) :
    V.lane64 (V.unpackHi a b) i =
      (((List.zipWith fatPair a b).drop (8 + 4 * i)).take 4).foldr
        (fun z acc => z + 2 ^ 16 * acc) 0 := by
  have : V.unpackHi a b = V.unpackLo (a.drop 8) (b.drop 8) := by
    unfold V.unpackHi V.unpackLo; rw [List.drop_drop, List.drop_drop]
  rw [this, lane64_unpackLo _ _ (by rw [List.length_drop]; omega) (by rw [List.length_drop]; omega)
    i hi, ← List.drop_zipWith, List.drop_drop]

theorem laneOfFat_swap (v : Vec8) (h : v.length = 32) :
    laneOfFat v = (List.zipWith fatPair v (V.swapHalves v)).take 16 := by
  unfold V.swapHalves
  rw [laneOfFat_eq v h, List.take_zipWith, List.take_left' (by rw [List.length_drop]; omega)]

/-- the 64-bit lanes that `Teddy<16>::verify` extracts hold four lanes of the fat encoding each -/
theorem fat_lane64 (v : Vec8) (h : v.length = 32) (i : Nat) (hi : i < 2) :
    V.lane64 (V.unpackLo v (V.swapHalves v)) i =
      (((laneOfFat v).drop (4 * i)).take 4).foldr (fun z acc => z + 2 ^ 16 * acc) 0 ∧
    V.lane64 (V.unpackHi v (V.swapHalves v)) i =
      (((laneOfFat v).drop (4 * (i + 2))).take 4).foldr (fun z acc => z + 2 ^ 16 * acc) 0 := by
  have hs : (V.swapHalves v).length = 32 := by
    unfold V.swapHalves; rw [List.length_append, List.length_drop, List.length_take]; omega
  rw [laneOfFat_swap v h, List.take_drop_take _ _ _ _ (by omega), List.take_drop_take _ _ _ _ (by omega),
    Nat.mul_add, Nat.add_comm]
  exact ⟨lane64_unpackLo _ _ (by omega) (by omega) i hi,
    lane64_unpackHi _ _ (by omega) (by omega) i hi⟩

theorem laneOfFat_lt (v : Vec8) : ∀ z ∈ laneOfFat v, z < 2 ^ 16 := by
  intro z hz
  obtain ⟨j, _, rfl⟩ := List.mem_map.1 hz
  have := (v.getD j 0).toNat_lt
  have := (v.getD (j + 16) 0).toNat_lt
  omega

theorem verifyV_fat (t : Teddy) (hB : t.nBuckets = 16) (hay : PBytes) (base : Nat) (cand : Vec8)
    (hc : cand.length = 32) :
    verifyV t true 32 hay base cand = t.verify hay base (laneOfFat cand) := by
  obtain ⟨e0, e2⟩ := fat_lane64 cand hc 0 (by omega)
  obtain ⟨e1, e3⟩ := fat_lane64 cand hc 1 (by omega)
  rw [verify_lanes64 t hay base _ 4 4 (by rw [hB]) (laneOfFat_length cand)
    (by rw [hB]; exact laneOfFat_lt cand), hB]
  unfold verifyV
  simp only [Bool.not_true, Bool.false_eq_true, if_false]
  rw [e0, e1, e2, e3]
  rfl

end AcVerif.VecP
