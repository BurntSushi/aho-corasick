import AcVerif.Proofs.LeftmostAnch
import AcVerif.Proofs.SpecBase
/-!
# From "best kept occurrence in the span text" to the specification `IsFind`

`BestIn` in haystack coordinates is the `betterLL`-best member of the set `AdmQ Q hay s e anch`
(`isBestQ_of_bestIn`; `IsBest` is in `SpecBase`).
* `.ll`: the kept set is everything (`isFind_ll_of_best`);
* `.lf`: leftmost-first is leftmost-longest on the set pruned by `keepLF` (`isFind_lf_of_best`):
  every pattern has a kept prefix with no larger id (`kept_prefix`, in `LmBasic`),
  so every admissible occurrence has a kept one at the same start, ending no later, with no
  larger id (`kept_occ`).
-/
namespace AcVerif.LmP
open AcVerif
set_option linter.unusedSectionVars false
variable {α : Type} [DecidableEq α] {Q : PatSet α}

theorem betterLL_of_prefLL {s : Nat} {q q' : List α × Nat} {st st' : Nat}
    (h : prefLL q st q' st') : betterLL (matOf s q st) (matOf s q' st') := by
  simp only [betterLL, matOf]
  rcases h with h | ⟨h1, h2 | ⟨h2, h3⟩⟩
  · left; omega
  · right; exact ⟨by omega, Or.inl (by omega)⟩
  · right; exact ⟨by omega, Or.inr ⟨by omega, h3⟩⟩

theorem isBestQ_of_bestIn {hay : List α} {s e : Nat} (he : e ≤ hay.length)
    (hse : s ≤ e)
    {anch : Bool} {r : Option Mat} (h : BestIn Q s anch ((hay.take e).drop s) r) :
    IsBest betterLL (AdmQ Q hay s e anch) r := by
  cases r with
  | none =>
    intro m hm
    obtain ⟨q, st, ho, ha, _⟩ := (admQ_iff he hse).1 hm
    exact h q st ha ho
  | some m =>
    obtain ⟨q, st, h0, ho, hm, hbest⟩ := h
    refine ⟨(admQ_iff he hse).2 ⟨q, st, ho, h0, hm⟩, fun m' hm' => ?_⟩
    obtain ⟨q', st', ho', ha', rfl⟩ := (admQ_iff he hse).1 hm'
    exact hm ▸ betterLL_of_prefLL (hbest q' st' ha' ho')

theorem occOrNone_adm {hay : List α} {s e : Nat} (he : e ≤ hay.length)
    (hse : s ≤ e)
    {anch : Bool} {r : Option Mat} (h : OccOrNone Q s anch ((hay.take e).drop s) r) :
    ∀ m, r = some m → AdmQ Q hay s e anch m := by
  intro m hm
  obtain ⟨q, st, h0, ho, hq⟩ := h m hm
  exact (admQ_iff he hse).2 ⟨q, st, ho, h0, hq⟩

theorem isFind_ll_of_best {P : List (List α)} {hay : List α} {s e : Nat} {anch : Bool}
    {r : Option Mat} (h : IsBest betterLL (AdmQ (patSet .ll P) hay s e anch) r) :
    IsFind .ll P hay s e anch r :=
  isFind_iff_best.2 ((IsBest.congr (fun _ => admQ_enum_iff) r).1 h)

/-! ## `.lf` -/

theorem kept_occ {P : List (List α)} {hay : List α} {s e : Nat} {anch : Bool} {m : Mat}
    (h : IsOccA P hay s e anch m) :
    ∃ m', AdmQ (patSet .lf P) hay s e anch m' ∧ m'.start = m.start ∧ m'.stop ≤ m.stop ∧
      m'.pid ≤ m.pid := by
  obtain ⟨⟨p, hp, hs, hstop, hle, hpre⟩, ha⟩ := h
  obtain ⟨i, p', hi, hp', hpre', hk⟩ := kept_prefix P m.pid p hp
  have hl := hpre'.length_le
  refine ⟨⟨i, m.start, m.start + p'.length⟩, ⟨⟨(p', i), mem_patSet_lf.2 ⟨hp', hk⟩, rfl, hs, rfl,
    by simp only; omega, hpre'.trans hpre⟩, ha⟩, rfl, by simp only; omega, hi⟩

theorem isFind_lf_of_best {P : List (List α)} {hay : List α} {s e : Nat} {anch : Bool}
    {r : Option Mat} (h : IsBest betterLL (AdmQ (patSet .lf P) hay s e anch) r) :
    IsFind .lf P hay s e anch r := by
  cases r with
  | none =>
    intro m hm
    obtain ⟨m', hm', _⟩ := kept_occ hm
    exact h m' hm'
  | some m =>
    obtain ⟨⟨⟨q, hq, hpid, hs, hstop, hle, hpre⟩, ha⟩, hbest⟩ := h
    have hq' := mem_patSet_lf.1 hq
    refine ⟨⟨⟨q.1, by rw [← hpid]; exact hq'.1, hs, hstop, hle, hpre⟩, ha⟩, ?_⟩
    intro m' hm'
    obtain ⟨m'', hm'', hst, hstop'', hpid''⟩ := kept_occ hm'
    have hb := hbest m'' hm''
    obtain ⟨⟨q2, hq2, hpid2, hs2, hstop2, hle2, hpre2⟩, _⟩ := hm''
    rcases hb with hb | ⟨hb1, hb2 | ⟨_, hb3⟩⟩
    · left; omega
    · right
      refine ⟨by omega, ?_⟩
      -- `m''` is strictly shorter than `m` at the same start: its pattern is a proper prefix
      apply Nat.le_trans _ hpid''
      apply Nat.le_of_not_lt
      intro hlt
      have hpp : q2.1 <+: q.1 := by
        rw [← hb1] at hpre2
        exact List.prefix_of_prefix_length_le hpre2 hpre (by omega)
      exact Bool.false_ne_true ((keepLF_eq_false.2
        ⟨q2.2, by omega, q2.1, mem_patSet hq2, hpp, by omega⟩).symm.trans hq'.2)
    · right; exact ⟨by omega, by omega⟩

theorem isFind_of_best {k : MatchKind} (hk : k = .ll ∨ k = .lf) {P : List (List α)}
    {hay : List α} {s e : Nat} {anch : Bool} {r : Option Mat}
    (h : IsBest betterLL (AdmQ (patSet k P) hay s e anch) r) : IsFind k P hay s e anch r := by
  rcases hk with rfl | rfl
  · exact isFind_ll_of_best h
  · exact isFind_lf_of_best h

end AcVerif.LmP
