import AcVerif.Proofs.ScanMove
/-!
# The search loop

`sweep` is the loop that `findLoop`, `ovlLoop`, `findCost`, `CostP.ovlCost`, `scanLoop` and
`ovlScanLoop` all transcribe: take the transition, decide by `move`, end or resume.  What the six
differ in is whether a reportable match ends the loop (`stop`), what they accumulate on the way
(`upd`), and what they make of the configuration the run ends in (a `post` per loop,
`Proofs/SweepLoops.lean`).  What is true of the loop as a loop is proved here once:
`sweep_unique` (a function satisfying the loop equation is `post ∘ sweep`), `sweep_ind` (loop
rule), `sweep_rel` (two runs in lockstep: transfer, ghost state).
-/
namespace AcVerif
variable {σ τ α ρ ρ' β : Type}

/-- the configuration in which a run ended: `last` is the move that ended it, `none` when the
span was exhausted -/
structure Swept (σ ρ : Type) where
  sid : σ
  at_ : Nat
  acc : ρ
  last : Option Move

def Swept.map (f : ρ → ρ') (r : Swept σ ρ) : Swept σ ρ' := ⟨r.sid, r.at_, f r.acc, r.last⟩

/-- `upd acc q c at_ mv`: the accumulator after the transition from `q` on the byte `c` at `at_`
that led to the move `mv` -/
def sweep (A : Aut σ α) (hay : List α) (s e : Nat) (he : e ≤ hay.length)
    (pre : Option (Prefilter α)) (anch stop : Bool) (upd : ρ → σ → α → Nat → Move → ρ)
    (sid : σ) (at_ : Nat) (acc : ρ) : Swept σ ρ :=
  if h : at_ < e then
    let c := hay[at_]'(Nat.lt_of_lt_of_le h he)
    let sid' := A.next anch sid c
    let mv := move A hay s e pre anch sid' at_
    if mv.halts stop then ⟨sid', at_, upd acc sid c at_ mv, some mv⟩
    else sweep A hay s e he pre anch stop upd sid' (mv.resume at_) (upd acc sid c at_ mv)
  else ⟨sid, at_, acc, none⟩
termination_by e - at_
decreasing_by
  have := Move.lt_resume
    (move A hay s e pre anch (A.next anch sid (hay[at_]'(Nat.lt_of_lt_of_le h he))) at_) at_
  omega

section
variable {A : Aut σ α} {hay : List α} {s e : Nat} {he : e ≤ hay.length}
  {pre : Option (Prefilter α)} {anch stop : Bool} {upd : ρ → σ → α → Nat → Move → ρ}

theorem sweep_done {sid : σ} {at_ : Nat} {acc : ρ} (h : ¬ at_ < e) :
    sweep A hay s e he pre anch stop upd sid at_ acc = ⟨sid, at_, acc, none⟩ := by
  rw [sweep, dif_neg h]

theorem sweep_step {sid : σ} {at_ : Nat} {acc : ρ} (h : at_ < e) {b : α} {q : σ} {mv : Move}
    (hb : hay[at_]'(Nat.lt_of_lt_of_le h he) = b) (hq : A.next anch sid b = q)
    (hmv : move A hay s e pre anch q at_ = mv) :
    sweep A hay s e he pre anch stop upd sid at_ acc =
      if mv.halts stop then ⟨q, at_, upd acc sid b at_ mv, some mv⟩
      else sweep A hay s e he pre anch stop upd q (mv.resume at_) (upd acc sid b at_ mv) := by
  subst hb hq hmv
  rw [sweep, dif_pos h]

theorem sweep_unique (post : Swept σ ρ → β) {F : σ → Nat → ρ → β}
    (hdone : ∀ sid at_ acc, ¬ at_ < e → F sid at_ acc = post ⟨sid, at_, acc, none⟩)
    (hstep : ∀ sid at_ acc (h : at_ < e) b q mv, hay[at_]'(Nat.lt_of_lt_of_le h he) = b →
      A.next anch sid b = q → move A hay s e pre anch q at_ = mv →
      F sid at_ acc =
        if mv.halts stop then post ⟨q, at_, upd acc sid b at_ mv, some mv⟩
        else F q (mv.resume at_) (upd acc sid b at_ mv))
    (sid : σ) (at_ : Nat) (acc : ρ) :
    F sid at_ acc = post (sweep A hay s e he pre anch stop upd sid at_ acc) := by
  induction at_ using ScanP.upTo_induction e generalizing sid acc with
  | stop a h => rw [hdone _ _ _ h, sweep_done h]
  | step a h ih =>
    rw [hstep _ _ _ h _ _ _ rfl rfl rfl, sweep_step h rfl rfl rfl]
    split
    · rfl
    · exact ih _ (Move.lt_resume _ _) _ _

/-- Loop rule.  `P` relates a configuration to the final one.  (`hb`, `hmv` say which byte and
which move; a bound that holds whatever they are ignores them.) -/
theorem sweep_ind {P : σ → Nat → ρ → Swept σ ρ → Prop}
    (done : ∀ q a x, ¬ a < e → P q a x ⟨q, a, x, none⟩)
    (halt : ∀ q a x b mv (h : a < e), hay[a]'(Nat.lt_of_lt_of_le h he) = b →
      move A hay s e pre anch (A.next anch q b) a = mv → mv.halts stop = true →
      P q a x ⟨A.next anch q b, a, upd x q b a mv, some mv⟩)
    (step : ∀ q a x b mv r (h : a < e), hay[a]'(Nat.lt_of_lt_of_le h he) = b →
      move A hay s e pre anch (A.next anch q b) a = mv → ¬ mv.halts stop = true →
      P (A.next anch q b) (mv.resume a) (upd x q b a mv) r → P q a x r)
    (sid : σ) (at_ : Nat) (acc : ρ) :
    P sid at_ acc (sweep A hay s e he pre anch stop upd sid at_ acc) := by
  induction at_ using ScanP.upTo_induction e generalizing sid acc with
  | stop a h => rw [sweep_done h]; exact done _ _ _ h
  | step a h ih =>
    rw [sweep_step h rfl rfl rfl]
    split
    · rename_i hh; exact halt _ _ _ _ _ h rfl rfl hh
    · rename_i hh; exact step _ _ _ _ _ _ h rfl rfl hh (ih _ (Move.lt_resume _ _) _ _)

theorem sweep_at_ge (sid : σ) (at_ : Nat) (acc : ρ) :
    at_ ≤ (sweep A hay s e he pre anch stop upd sid at_ acc).at_ :=
  sweep_ind (P := fun _ a _ r => a ≤ r.at_)
    (fun _ _ _ _ => Nat.le_refl _) (fun _ _ _ _ _ _ _ _ _ => Nat.le_refl _)
    (fun _ a _ _ mv _ _ _ _ _ h => Nat.le_trans (Nat.le_of_lt (mv.lt_resume a)) h) sid at_ acc

end

/-- Two runs in lockstep.  States related by `R` (kept by a transition on the same byte, and
deciding the same `move`) and accumulators related by `S` (kept by the two updates) lead to final
configurations related in the same way, reached at the same position on the same move. -/
theorem sweep_rel {A : Aut σ α} {B : Aut τ α} {hay : List α} {s e : Nat} {he : e ≤ hay.length}
    {pre : Option (Prefilter α)} {anch stop : Bool}
    {upd : ρ → σ → α → Nat → Move → ρ} {upd' : ρ' → τ → α → Nat → Move → ρ'}
    (R : σ → τ → Prop) (S : ρ → ρ' → Prop)
    (hnext : ∀ a b c, R a b → R (A.next anch a c) (B.next anch b c))
    (hmove : ∀ a b at_, R a b → move A hay s e pre anch a at_ = move B hay s e pre anch b at_)
    (hupd : ∀ x y a b c at_ mv, S x y → R a b → S (upd x a c at_ mv) (upd' y b c at_ mv))
    {a : σ} {b : τ} {at_ : Nat} {x : ρ} {y : ρ'} (hab : R a b) (hxy : S x y)
    {r : Swept σ ρ} {r' : Swept τ ρ'} (hr : sweep A hay s e he pre anch stop upd a at_ x = r)
    (hr' : sweep B hay s e he pre anch stop upd' b at_ y = r') :
    R r.sid r'.sid ∧ r.at_ = r'.at_ ∧ S r.acc r'.acc ∧ r.last = r'.last := by
  subst hr hr'
  induction at_ using ScanP.upTo_induction e generalizing a b x y with
  | stop at_ h =>
    rw [sweep_done h, sweep_done h]
    exact ⟨hab, rfl, hxy, rfl⟩
  | step at_ h ih =>
    have hab' := hnext _ _ (hay[at_]'(Nat.lt_of_lt_of_le h he)) hab
    rw [sweep_step h rfl rfl rfl, sweep_step h rfl rfl rfl, hmove _ _ at_ hab']
    split
    · exact ⟨hab', rfl, hupd _ _ _ _ _ _ _ hxy hab, rfl⟩
    · exact ih _ (Move.lt_resume _ _) hab' (hupd _ _ _ _ _ _ _ hxy hab)

/-- an accumulator that is a function of another one is ghost state -/
theorem sweep_map {A : Aut σ α} {hay : List α} {s e : Nat} {he : e ≤ hay.length}
    {pre : Option (Prefilter α)} {anch stop : Bool}
    {upd : ρ → σ → α → Nat → Move → ρ} {upd' : ρ' → σ → α → Nat → Move → ρ'} (f : ρ → ρ')
    (hf : ∀ x q c at_ mv, f (upd x q c at_ mv) = upd' (f x) q c at_ mv)
    (sid : σ) (at_ : Nat) (x : ρ) :
    (sweep A hay s e he pre anch stop upd sid at_ x).map f =
      sweep A hay s e he pre anch stop upd' sid at_ (f x) := by
  cases hr : sweep A hay s e he pre anch stop upd sid at_ x
  cases hr' : sweep A hay s e he pre anch stop upd' sid at_ (f x)
  obtain ⟨rfl, rfl, rfl, rfl⟩ := sweep_rel Eq (fun x y => f x = y)
    (fun _ _ _ h => h ▸ rfl) (fun _ _ _ h => h ▸ rfl)
    (fun x y a b c at_ mv h1 h2 => by subst h1 h2; exact hf ..) rfl rfl hr hr'
  rfl

end AcVerif
