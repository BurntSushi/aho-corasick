import AcVerif.Proofs.CompilerRun
import AcVerif.Proofs.SearchEquiv
import AcVerif.Proofs.NfaIdsSim
import AcVerif.Proofs.DfaIdsAll
import AcVerif.Proofs.ContigRun
import AcVerif.Proofs.NfaLive
/-!
# The layer interface: each transcribed builder, run on the compiled NFA, is `SearchEquiv` to the
specification automaton

One statement per builder, for both settings of `ascii_case_insensitive` (`fold`): the compiled
NFA (`L1cG_searchEquiv`), the stored NFA (`L1cIdsG_searchEquiv`), the stored DFA
(`L1dIdsG_searchEquiv`), the contiguous NFA (`L1eG_searchEquiv`), each against
`(ideal k (P.map (List.map (foldIf fold))) sk hasPre).comap (foldIf fold)`, with what they rest
on.  The theorem files `Theorems/L1*.lean` instantiate them; the capstone
(`Proofs/TopLevelAut.lean`) reads them here.
-/
namespace AcVerif
open AcVerif.L1cP AcVerif.L1dP AcVerif.L1eP AcVerif.L1dIdsP AcVerif.L1cIdsP AcVerif.CNfa

variable {σ : Type}

/-! ## the compiled NFA -/

theorem L1cG_obsEquiv (k : MatchKind) (fold : Bool) (P : List (List UInt8)) (hasPre anch : Bool) :
    ObsEquiv ((CNfa.compile k fold P).toAut k P hasPre)
      ((ideal k (P.map (List.map (foldIf fold))) .both hasPre).comap (foldIf fold)) false anch
      (if anch then CNfa.SA else CNfa.SU) (.at []) := by
  obtain ⟨L, h⟩ := compile_specG k fold P
  exact h.obsEquiv_ideal P hasPre anch

theorem L1cG_searchEquiv (k : MatchKind) (fold : Bool) (P : List (List UInt8)) (hasPre : Bool) :
    SearchEquiv ((CNfa.compile k fold P).toAut k P hasPre)
      ((ideal k (P.map (List.map (foldIf fold))) .both hasPre).comap (foldIf fold)) := by
  obtain ⟨L, h⟩ := compile_specG k fold P
  exact .of_ideal_comap rfl (fun _ => rfl) (h.startEquiv P hasPre)

/-! ## the stored NFA -/

theorem L1cIdsG_live (k : MatchKind) (fold : Bool) (P : List (List UInt8)) (anch : Bool) :
    ∃ L, NfaSpec (foldIf fold) k (patSet k (P.map (List.map (foldIf fold)))) L
        (CNfa.compile k fold P) ∧
      NLive (CNfa.compile k fold P) anch (RelV L anch) := by
  obtain ⟨L, h⟩ := compile_specG k fold P
  exact ⟨L, h, NLive_of_spec h anch⟩

theorem L1cIdsG_obsEquiv (k : MatchKind) (fold : Bool) (P : List (List UInt8))
    (hasPre anch : Bool) :
    ObsEquiv ((buildNfaIds (CNfa.compile k fold P) hasPre).toAut k P hasPre)
      ((CNfa.compile k fold P).toAut k P hasPre) false anch
      (if anch then (buildNfaIds (CNfa.compile k fold P) hasPre).startA
        else (buildNfaIds (CNfa.compile k fold P) hasPre).startU)
      (if anch then CNfa.SA else CNfa.SU) := by
  obtain ⟨L, _, hL⟩ := L1cIdsG_live k fold P anch
  exact hL.obsEquiv_start hasPre k P

theorem L1cIdsG_obsEquiv_ideal (k : MatchKind) (fold : Bool) (P : List (List UInt8))
    (hasPre anch : Bool) :
    ObsEquiv ((buildNfaIds (CNfa.compile k fold P) hasPre).toAut k P hasPre)
      ((ideal k (P.map (List.map (foldIf fold))) .both hasPre).comap (foldIf fold)) false anch
      (if anch then (buildNfaIds (CNfa.compile k fold P) hasPre).startA
        else (buildNfaIds (CNfa.compile k fold P) hasPre).startU) (.at []) :=
  (L1cIdsG_obsEquiv k fold P hasPre anch).trans (L1cG_obsEquiv k fold P hasPre anch)

theorem L1cIdsG_searchEquiv (k : MatchKind) (fold : Bool) (P : List (List UInt8))
    (hasPre : Bool) :
    SearchEquiv ((buildNfaIds (CNfa.compile k fold P) hasPre).toAut k P hasPre)
      ((ideal k (P.map (List.map (foldIf fold))) .both hasPre).comap (foldIf fold)) :=
  .of_ideal_comap rfl (fun _ => rfl) fun anch =>
    .of_obsEquiv rfl (by cases anch <;> rfl) (L1cIdsG_obsEquiv_ideal k fold P hasPre anch)

/-! ## the start kinds of a DFA -/

theorem buildDfa_start_none (N : CNfa) (k : MatchKind) (P : List (List UInt8)) (hasPre bc : Bool)
    {sk : StartKind} {anch : Bool} (h : ¬ supportsAnch sk anch) :
    ((buildDfa N sk bc).toAut k P hasPre).start anch = none := by
  rcases not_supportsAnch h with ⟨rfl, rfl⟩ | ⟨rfl, rfl⟩
  · rfl
  · rfl

theorem ideal_comap_start_eq (k : MatchKind) (P : List (List UInt8)) (sk : StartKind)
    (hasPre : Bool) (g : UInt8 → UInt8) (anch : Bool) :
    (supportsAnch sk anch → ((ideal k P sk hasPre).comap g).start anch = some (.at [])) ∧
      (¬ supportsAnch sk anch → ((ideal k P sk hasPre).comap g).start anch = none) := by
  constructor
  · rintro (h | ⟨h, h'⟩ | ⟨h, h'⟩)
    · subst h; cases anch <;> rfl
    · subst h; subst h'; rfl
    · subst h; subst h'; rfl
  · intro h
    rcases not_supportsAnch h with ⟨rfl, rfl⟩ | ⟨rfl, rfl⟩
    · rfl
    · rfl

/-- the start kind of the (case-insensitive) ideal automaton only matters for `start` -/
theorem ideal_comap_obs_run_sk (k : MatchKind) (P : List (List UInt8)) (sk : StartKind)
    (hasPre anch : Bool) (g : UInt8 → UInt8) (w : List UInt8) : ∀ q : St UInt8,
    ((ideal k P sk hasPre).comap g).obs false (((ideal k P sk hasPre).comap g).runFrom anch q w) =
      ((ideal k P .both hasPre).comap g).obs false
        (((ideal k P .both hasPre).comap g).runFrom anch q w) := by
  induction w with
  | nil => intro q; rfl
  | cons c w ih => intro q; exact ih (Ideal.next k (patSet k P) anch q (g c))

theorem ObsEquiv.ideal_comap_sk {A : Aut σ UInt8} {k : MatchKind}
    {P : List (List UInt8)} {hasPre : Bool} {anch : Bool} {g : UInt8 → UInt8} {a : σ}
    {q : St UInt8} (sk : StartKind)
    (h : ObsEquiv A ((ideal k P .both hasPre).comap g) false anch a q) :
    ObsEquiv A ((ideal k P sk hasPre).comap g) false anch a q :=
  fun w => (h w).trans (ideal_comap_obs_run_sk k P sk hasPre anch g w q).symm

/-! ## the stored DFA -/

section
variable {f : UInt8 → UInt8} {k : MatchKind} {Q : PatSet UInt8} {L : List (List UInt8)} {N : CNfa}
variable {P' : List (List UInt8)}

theorem buildDfaIds_obsEquiv_nfa (h : NfaSpec f k Q L N) (P : List (List UInt8))
    (sk : StartKind) (bc hasPre anch : Bool) (hs : supportsAnch sk anch) :
    ∃ s0, ((buildDfaIds N sk bc hasPre).toAut k P hasPre).start anch = some s0 ∧
      ObsEquiv ((buildDfaIds N sk bc hasPre).toAut k P hasPre) (N.toAut k P hasPre) false anch s0
        (if anch then CNfa.SA else CNfa.SU) :=
  have hS := sim_of_spec h sk bc hasPre anch hs
  ⟨_, hS.toAut_start P, hS.obsEquiv h P⟩

/-- `P'`: the patterns of the specification, whose ideal automaton is fed `f b`.  For an unsupported
anchoring mode both sides reject. -/
theorem buildDfaIds_startEquiv (h : NfaSpec f k (patSet k P') L N) (P : List (List UInt8))
    (sk : StartKind) (bc hasPre anch : Bool) :
    StartEquiv ((buildDfaIds N sk bc hasPre).toAut k P hasPre) ((ideal k P' sk hasPre).comap f)
      false anch := by
  unfold StartEquiv
  by_cases hs : supportsAnch sk anch
  · obtain ⟨s0, h0, h1⟩ := buildDfaIds_obsEquiv_nfa h P sk bc hasPre anch hs
    rw [h0, (ideal_comap_start_eq k P' sk hasPre f anch).1 hs]
    exact (h1.trans (h.obsEquiv_ideal P hasPre anch)).ideal_comap_sk sk
  · rw [toAut_start_unsupported N k P sk bc hasPre anch hs,
      (ideal_comap_start_eq k P' sk hasPre f anch).2 hs]
    trivial

end

theorem L1dIdsG_searchEquiv (k : MatchKind) (fold : Bool) (P : List (List UInt8))
    (sk : StartKind) (bc hasPre : Bool) :
    SearchEquiv ((buildDfaIds (CNfa.compile k fold P) sk bc hasPre).toAut k P hasPre)
      ((ideal k (P.map (List.map (foldIf fold))) sk hasPre).comap (foldIf fold)) := by
  obtain ⟨L, h⟩ := compile_specG k fold P
  exact .of_ideal_comap rfl (fun _ => rfl) (buildDfaIds_startEquiv h P sk bc hasPre)

/-! ## the contiguous NFA -/

theorem L1eG_live (k : MatchKind) (fold : Bool) (P : List (List UInt8)) (bc anch : Bool) :
    ∃ L, NfaSpec (foldIf fold) k (patSet k (P.map (List.map (foldIf fold)))) L
        (CNfa.compile k fold P) ∧ FX L (CNfa.compile k fold P) ∧
      NLive (CNfa.compile k fold P) anch (RelV L anch) ∧
      CLive (CNfa.compile k fold P) bc (RelV L anch) := by
  obtain ⟨L, h, hX, _⟩ := compile_specX k fold P
  exact ⟨L, h, hX, NLive_of_spec h anch,
    (CLive_of_spec h hX bc).mono fun _ ⟨_, hr⟩ => (LvA.of_Rel hr).lv⟩

theorem L1eG_start (k : MatchKind) (fold : Bool) (P : List (List UInt8)) (hasPre bc : Bool)
    (dd : Nat) (anch : Bool) :
    (if anch then (buildContig (CNfa.compile k fold P) dd bc hasPre).startA
      else (buildContig (CNfa.compile k fold P) dd bc hasPre).startU) =
      cNewId (CNfa.compile k fold P) dd bc (if anch then CNfa.SA else CNfa.SU) := by
  obtain ⟨L, _, _, hL, hC⟩ := L1eG_live k fold P bc anch
  rw [buildContig_eq]
  exact contig_start hL hC dd hasPre

theorem L1eG_obsEquiv (k : MatchKind) (fold : Bool) (P : List (List UInt8)) (hasPre bc : Bool)
    (dd : Nat) (hP : P.length < 2147483648) (anch : Bool) :
    ObsEquiv ((buildContig (CNfa.compile k fold P) dd bc hasPre).toAut k P hasPre)
      ((CNfa.compile k fold P).toAut k P hasPre) false anch
      (if anch then (buildContig (CNfa.compile k fold P) dd bc hasPre).startA
        else (buildContig (CNfa.compile k fold P) dd bc hasPre).startU)
      (if anch then CNfa.SA else CNfa.SU) := by
  obtain ⟨L, h, _, hL, hC⟩ := L1eG_live k fold P bc anch
  rw [L1eG_start, buildContig_eq]
  refine contig_obsEquiv hL hC dd hasPre k P ?_
  rintro s ⟨q, hr⟩
  have := h.mats_length_le hr
  rw [List.length_map] at this
  omega

theorem L1eG_obsEquiv_ideal (k : MatchKind) (fold : Bool) (P : List (List UInt8))
    (hasPre bc : Bool) (dd : Nat) (hP : P.length < 2147483648) (anch : Bool) :
    ObsEquiv ((buildContig (CNfa.compile k fold P) dd bc hasPre).toAut k P hasPre)
      ((ideal k (P.map (List.map (foldIf fold))) .both hasPre).comap (foldIf fold)) false anch
      (if anch then (buildContig (CNfa.compile k fold P) dd bc hasPre).startA
        else (buildContig (CNfa.compile k fold P) dd bc hasPre).startU) (.at []) :=
  (L1eG_obsEquiv k fold P hasPre bc dd hP anch).trans (L1cG_obsEquiv k fold P hasPre anch)

theorem L1eG_searchEquiv (k : MatchKind) (fold : Bool) (P : List (List UInt8)) (hasPre bc : Bool)
    (dd : Nat) (hP : P.length < 2147483648) :
    SearchEquiv ((buildContig (CNfa.compile k fold P) dd bc hasPre).toAut k P hasPre)
      ((ideal k (P.map (List.map (foldIf fold))) .both hasPre).comap (foldIf fold)) :=
  .of_ideal_comap rfl (fun _ => rfl) fun anch =>
    .of_obsEquiv rfl (by cases anch <;> rfl) (L1eG_obsEquiv_ideal k fold P hasPre bc dd hP anch)

end AcVerif
