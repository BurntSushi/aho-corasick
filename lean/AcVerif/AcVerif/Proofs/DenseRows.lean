import AcVerif.DenseModel
import AcVerif.Proofs.ContigStep
/-!
# Dense rows of the noncontiguous NFA: reading through `follow_transition` = scanning the list

Namespace `DenseP`: the facts about `denseRows`, `followD`, `nextStateD` of
`AcVerif/DenseModel.lean`.  `denseRows_getD`: which states have a row, and that the row is the dense
row `State::write` would produce with the identity as id map; `denseRow_spec`: for `s` in a set `V`
with `CLive N true V`, entry `cm N b` of the row of `s` is `follow N s b` (by `denseRow_entry`;
`cm N` is the class map of `N`).  If the node list of an `NfaSpec` has no duplicates, every state id
`< N.size` other than `FAIL` is live (`lv_of_lt_size`), hence `followD` through `denseRows` is
`follow` at **every** state id, states without a row included (`followD_eq`; `followD_compile` for
the compiled NFA), and then `nextStateD` is `nextState` (`nextStateD_eq`).
-/
namespace AcVerif.DenseP
open AcVerif AcVerif.CNfa AcVerif.L1cP AcVerif.L1dP AcVerif.L1eP

/-- the class map the noncontiguous NFA always uses -/
abbrev cm (N : CNfa) : UInt8 → Nat := classOfMarks (marksOf (trieBytes N))

def denseRow (N : CNfa) (sid : Nat) : Array Nat :=
  L1eP.denseRow (cm N) (cm N 255 + 1) (N.getD sid {}) id

theorem denseRows_getD (N : CNfa) (dd sid : Nat) :
    (denseRows N dd).getD sid none =
      if sid < N.size ∧ sid ≠ DEAD ∧ sid ≠ FAIL ∧ (storedDepths N).getD sid 0 < dd
      then some (denseRow N sid) else none := by
  unfold denseRows
  simp only
  by_cases hs : sid < N.size
  · rw [Array.getD_map_range _ _ _ _ hs]
    by_cases h0 : sid = DEAD
    · subst h0; simp
    · by_cases h1 : sid = FAIL
      · subst h1; simp
      · have e : (sid == DEAD || sid == FAIL) = false := by simp [h0, h1]
        rw [e]
        simp only [Bool.false_eq_true, if_false]
        by_cases hd : (storedDepths N).getD sid 0 < dd
        · rw [if_pos hd, if_pos ⟨hs, h0, h1, hd⟩]
          rfl
        · rw [if_neg hd, if_neg (fun h => hd h.2.2.2)]
  · rw [Array.getD_map_range_ge _ _ _ _ (Nat.le_of_not_lt hs), if_neg (fun h => hs h.1)]

theorem denseRow_spec {N : CNfa} {V : Nat → Prop} (hC : CLive N true V) {s : Nat} (hv : V s)
    (b : UInt8) : (denseRow N s).getD (cm N b) FAIL = follow N s b := by
  rw [follow_eq]
  exact denseRow_entry (classOf := cm N) (newId := id) (fd := true)
    { sorted := hC.sorted s hv
      cong := fun b b' hc => by rw [← follow_eq, ← follow_eq]; exact hC.cong s hv b b' hc
      cls_lt := (classOK_marks N).lt
      al_le := ncOf_le N true
      dense_or_nofail := Or.inl (Or.inl rfl)
      id_fail := rfl
      id_ne := fun _ h => h } b FAIL

theorem lv_of_lt_size {f : UInt8 → UInt8} {k : MatchKind} {Q : PatSet UInt8}
    {L : List (List UInt8)} {N : CNfa} (h : NfaSpec f k Q L N) (hnd : L.Nodup) {s : Nat}
    (hs : s < N.size) (h1 : s ≠ FAIL) : Lv L s := by
  rcases h.id_cases hnd hs with e | e | e | hu
  · exact Or.inl (Or.inl e)
  · exact absurd e h1
  · exact Or.inr (Or.inr (Or.inl e))
  · exact Or.inl (Or.inr hu)

/-! ## `follow_transition` and `next_state` -/

section
variable {N : CNfa} {V : Nat → Prop} (hC : CLive N true V) (dd : Nat)
include hC

/-- reading through the dense rows = scanning the sparse list, at a state that is in `V` if it has
a row -/
theorem followD_eq_of {sid : Nat} (hv : sid < N.size → sid ≠ FAIL → V sid) (b : UInt8) :
    followD N (denseRows N dd) sid b = follow N sid b := by
  unfold followD
  rw [denseRows_getD]
  by_cases hc : sid < N.size ∧ sid ≠ DEAD ∧ sid ≠ FAIL ∧ (storedDepths N).getD sid 0 < dd
  · rw [if_pos hc]
    exact denseRow_spec hC (hv hc.1 hc.2.2.1) b
  · rw [if_neg hc]

theorem followD_eq_live {sid : Nat} (hv : V sid) (b : UInt8) :
    followD N (denseRows N dd) sid b = follow N sid b :=
  followD_eq_of hC dd (fun _ _ => hv) b

/-- at **every** state id, if `V` has all states but `FAIL`: live states have a correct row; `DEAD`,
`FAIL` and ids out of range have none -/
theorem followD_eq (hall : ∀ s, s < N.size → s ≠ FAIL → V s) (sid : Nat) (b : UInt8) :
    followD N (denseRows N dd) sid b = follow N sid b :=
  followD_eq_of hC dd (hall sid) b

end

theorem followD_compile (k : MatchKind) (fold : Bool) (P : List (List UInt8)) (dd sid : Nat)
    (b : UInt8) :
    followD (compile k fold P) (denseRows (compile k fold P) dd) sid b =
      follow (compile k fold P) sid b := by
  obtain ⟨L, h, hX, hnd⟩ := compile_specX k fold P
  exact followD_eq (CLive_of_spec h hX true) dd (fun _ hs h1 => lv_of_lt_size h hnd hs h1) sid b

theorem nextStateD_eq {N : CNfa} {rows : Array (Option (Array Nat))}
    (hf : ∀ sid b, followD N rows sid b = follow N sid b) (anch : Bool) :
    ∀ (fuel sid : Nat) (b : UInt8) (hops : Nat),
      nextStateD N rows anch fuel sid b hops = nextState N anch fuel sid b hops
  | 0, _, _, _ => rfl
  | fuel + 1, sid, b, hops => by
    show (if (followD N rows sid b != FAIL) = true then (followD N rows sid b, hops)
        else if anch = true then (DEAD, hops)
        else nextStateD N rows anch fuel (N.getD sid {}).fail b (hops + 1)) =
      (if (follow N sid b != FAIL) = true then (follow N sid b, hops)
        else if anch = true then (DEAD, hops)
        else nextState N anch fuel (N.getD sid {}).fail b (hops + 1))
    rw [hf, nextStateD_eq hf anch fuel]

end AcVerif.DenseP
