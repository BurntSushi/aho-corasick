import AcVerif.Proofs.NfaIdsBase
import AcVerif.Proofs.NfaLive
/-!
# L1c-ids: what follows for the stored NFA from `NLive`

From `NLive N anch V` (`NfaLive.lean`), for `M = buildNfaIds N hasPre` and the id map `posOf N`:
`M.next` commutes with the map (`NLive.next`), the id-range flags of `M` are the list flags of `N`
(`NLive.isDead`, `.isMatch`, `.isSpecial`, `.isStart`; by `rangeId_posOf`), so `M` is `N` with its
states renamed (`NLive.renames`): the runs correspond (`NLive.run`, `NLive.reach`) and observations
agree (`NLive.obsEquiv`); every read is in bounds (`NLive.next?`, `NLive.matchList?`) and the
`is_special` contract holds at the id of every state of `V` (`NLive.contract`).
`NLive.obsEquiv_start` (from the start ids of `M`), `NLive.special_contract` and `NLive.inbounds`
(at the id reached on any input `w`) are the statements of `Theorems/L1cIds.lean` for any `N` with
`NLive`.
-/
namespace AcVerif.L1cIdsP
open AcVerif AcVerif.CNfa AcVerif.L1cP AcVerif.L1dP AcVerif.L1eP AcVerif.L1dIdsP

section
variable {N : CNfa} {anch : Bool} {V : Nat → Prop} (hL : NLive N anch V) (hasPre : Bool)
include hL

theorem NLive.next {s : Nat} (hv : V s) (b : UInt8) :
    (buildNfaIds N hasPre).next anch ((buildNfaIds N hasPre).states.size + 1) (posOf N s) b =
      posOf N (nextState N anch (N.size + 1) s b 0).1 := by
  show (nextState (buildNfaIds N hasPre).states anch ((buildNfaIds N hasPre).states.size + 1)
    (posOf N s) b 0).1 = _
  rw [buildNfaIds_states, idStates_size,
    nextState_ids hL.shuf anch b hL.lt (fun ha s hv => hL.failV ha s b hv) _ s 0 hv]

theorem NLive.next? {s : Nat} (hv : V s) (b : UInt8) :
    (buildNfaIds N hasPre).next? anch ((buildNfaIds N hasPre).states.size + 1) (posOf N s) b =
      some ((buildNfaIds N hasPre).next anch ((buildNfaIds N hasPre).states.size + 1)
        (posOf N s) b) := by
  rw [hL.next hasPre hv b]
  have hsz : (buildNfaIds N hasPre).states.size = N.size := by
    rw [buildNfaIds_states, idStates_size]
  rw [hsz]
  exact next?_ids hL.shuf hasPre anch b hL.lt (fun ha s hv => hL.failV ha s b hv) _ s 0 hv
    (by have := hL.hops s b hv; omega)

theorem NLive.pos_lt {s : Nat} (hv : V s) : posOf N s < (buildNfaIds N hasPre).states.size := by
  rw [buildNfaIds_states, idStates_size]
  exact hL.shuf.pos_lt s (hL.lt s hv)

/-! ### the flags -/

theorem NLive.isDead {s : Nat} (hv : V s) :
    (buildNfaIds N hasPre).isDead (posOf N s) = (s == DEAD) :=
  (rangeId_posOf hL.shuf (hL.lt s hv) (hL.ne1 s hv)).isDead

theorem NLive.isMatch {s : Nat} (hv : V s) :
    (buildNfaIds N hasPre).isMatch (posOf N s) = (s != DEAD && CNfa.isMatch N s) := by
  show (posOf N s != 0 && decide (posOf N s ≤ nfaMaxMatch N (cNa N))) = _
  exact (rangeId_posOf hL.shuf (hL.lt s hv) (hL.ne1 s hv)).isMatch hL.shuf hL.mm rfl

theorem NLive.isSpecial {s : Nat} (hv : V s) :
    (buildNfaIds N hasPre).isSpecial (posOf N s) =
      (s == DEAD || CNfa.isMatch N s || (hasPre && (s == SU || s == SA))) := by
  show decide (posOf N s ≤ nfaMaxSpecial N (cNa N) hasPre) = _
  exact (rangeId_posOf hL.shuf (hL.lt s hv) (hL.ne1 s hv)).isSpecial hL.shuf hL.mm rfl

theorem NLive.isStart {s : Nat} (hv : V s) :
    (buildNfaIds N hasPre).isStart (posOf N s) = (s == SU || s == SA) := by
  have hS := hL.shuf
  have h4 := hL.four
  have hs := hL.lt s hv
  show (posOf N s == cNa N - 2 || posOf N s == cNa N - 1) = _
  rw [Bool.eq_iff_iff]
  simp only [Bool.or_eq_true, beq_iff_eq]
  have e2 : posOf N 2 = cNa N - 2 := hS.posSU
  have e3 : posOf N 3 = cNa N - 1 := hS.posSA
  constructor
  · rintro (e | e)
    · left; rw [← e2] at e; exact posOf_inj hS hs (show 2 < N.size by omega) e
    · right; rw [← e3] at e; exact posOf_inj hS hs (show 3 < N.size by omega) e
  · rintro (e | e)
    · left; rw [e]; exact e2
    · right; rw [e]; exact e3

theorem NLive.matchList {s : Nat} (hv : V s) :
    (buildNfaIds N hasPre).matchList (posOf N s) = (N.getD s {}).matches_ := by
  show ((buildNfaIds N hasPre).states.getD (posOf N s) {}).matches_ = _
  rw [buildNfaIds_states, mats_ids hL.shuf (hL.lt s hv)]

theorem NLive.matchList? {s : Nat} (hv : V s) :
    (buildNfaIds N hasPre).matchList? (posOf N s) =
      some ((buildNfaIds N hasPre).matchList (posOf N s)) := by
  show ((buildNfaIds N hasPre).states[posOf N s]?).map (·.matches_) =
    some ((buildNfaIds N hasPre).states.getD (posOf N s) {}).matches_
  rw [Array.getElem?_eq_some_getD _ {} (hL.pos_lt hasPre hv)]
  rfl

theorem NLive.isMatch_iff {s : Nat} (hv : V s) :
    (buildNfaIds N hasPre).isMatch (posOf N s) = true ↔
      ((buildNfaIds N hasPre).states.getD (posOf N s) {}).matches_ ≠ [] :=
  isMatch_all hL.shuf hL.mm hL.dead_mats hasPre (hL.pos_lt hasPre hv)
    (posOf_ne_one hL.shuf (hL.lt s hv) (hL.ne1 s hv))

/-! ### observations, runs -/

variable (k : MatchKind) (P : List (List UInt8))

theorem NLive.obs {s : Nat} (hv : V s) :
    ((buildNfaIds N hasPre).toAut k P hasPre).obs false (posOf N s) =
      (N.toAut k P hasPre).obs false s := by
  show Obs.mk _ _ _ _ = Obs.mk _ _ _ _
  simp only [NfaI.toAut, CNfa.toAut, Bool.false_eq_true, if_false]
  rw [hL.isSpecial hasPre hv, hL.isDead hasPre hv, hL.isMatch hasPre hv, hL.matchList hasPre hv]

theorem NLive.toAut_start :
    ((buildNfaIds N hasPre).toAut k P hasPre).start anch = some (posOf N (startOf anch)) := by
  have hS := hL.shuf
  cases anch
  · show some (cNa N - 2) = some (posOf N 2)
    unfold posOf; rw [hS.posSU]
  · show some (cNa N - 1) = some (posOf N 3)
    unfold posOf; rw [hS.posSA]

theorem NLive.renames :
    Renames (N.toAut k P hasPre) ((buildNfaIds N hasPre).toAut k P hasPre) anch V (posOf N) :=
  ⟨fun s c => hL.step s c, fun _ c hv => hL.next hasPre hv c⟩

theorem NLive.run (w : List UInt8) : ∀ s, V s →
    V ((N.toAut k P hasPre).runFrom anch s w) ∧
      ((buildNfaIds N hasPre).toAut k P hasPre).runFrom anch (posOf N s) w =
        posOf N ((N.toAut k P hasPre).runFrom anch s w) :=
  fun _ hv => (hL.renames hasPre k P).run w hv

theorem NLive.obsEquiv :
    ObsEquiv ((buildNfaIds N hasPre).toAut k P hasPre) (N.toAut k P hasPre) false anch
      (posOf N (startOf anch)) (startOf anch) :=
  (hL.renames hasPre k P).obsEquiv (fun _ => hL.obs hasPre k P) hL.start

theorem NLive.reach (s0 : Nat)
    (hs : ((buildNfaIds N hasPre).toAut k P hasPre).start anch = some s0) (w : List UInt8) :
    ∃ s, V s ∧ ((buildNfaIds N hasPre).toAut k P hasPre).runFrom anch s0 w = posOf N s ∧
      s = (N.toAut k P hasPre).runFrom anch (startOf anch) w :=
  (hL.renames hasPre k P).reach hL.start (hL.toAut_start hasPre k P) hs w

/-! ### the `is_special` contract and the bounds, at a state of `V` -/

theorem NLive.contract {s : Nat} (hv : V s) :
    ((buildNfaIds N hasPre).isSpecial (posOf N s) = true ↔
        ((buildNfaIds N hasPre).isDead (posOf N s) = true ∨
          (buildNfaIds N hasPre).isMatch (posOf N s) = true ∨
          (hasPre = true ∧ (buildNfaIds N hasPre).isStart (posOf N s) = true))) ∧
      ((buildNfaIds N hasPre).isDead (posOf N s) = true → ∀ a b,
        (buildNfaIds N hasPre).next a ((buildNfaIds N hasPre).states.size + 1) (posOf N s) b = 0) := by
  refine ⟨special_iff_of_flags (hL.isSpecial hasPre hv) (hL.isDead hasPre hv)
    (hL.isMatch hasPre hv) fun _ => by rw [hL.isStart hasPre hv], ?_⟩
  · intro hd a b
    rw [hL.isDead hasPre hv] at hd
    have e0 : s = DEAD := by simpa using hd
    subst e0
    -- the dead state has a transition to itself on every byte, in either mode
    show (nextState (buildNfaIds N hasPre).states a ((buildNfaIds N hasPre).states.size + 1)
      (posOf N DEAD) b 0).1 = 0
    rw [buildNfaIds_states]
    have hf : follow (idStates N) (posOf N DEAD) b = DEAD := by
      rw [follow_ids hL.shuf (by have := hL.four; simp only [DEAD]; omega), hL.dead_loop,
        posOf_dead hL.shuf]
    rw [posOf_dead hL.shuf] at hf ⊢
    rw [nextState_dead _ a _ b 0 hf]
    rfl


theorem NLive.start_ids :
    (if anch then (buildNfaIds N hasPre).startA else (buildNfaIds N hasPre).startU) =
      posOf N (startOf anch) := by
  have := hL.toAut_start hasPre .std []
  exact Option.some.inj this

theorem NLive.obsEquiv_start :
    ObsEquiv ((buildNfaIds N hasPre).toAut k P hasPre) (N.toAut k P hasPre) false anch
      (if anch then (buildNfaIds N hasPre).startA else (buildNfaIds N hasPre).startU)
      (if anch then SA else SU) := by
  rw [hL.start_ids hasPre]
  exact hL.obsEquiv hasPre k P

theorem NLive.special_contract (s0 : Nat)
    (hs : ((buildNfaIds N hasPre).toAut k P hasPre).start anch = some s0) (w : List UInt8) :
    let M := buildNfaIds N hasPre
    let q := (M.toAut k P hasPre).runFrom anch s0 w
    (M.isSpecial q = true ↔
        (M.isDead q = true ∨ M.isMatch q = true ∨ (hasPre = true ∧ M.isStart q = true))) ∧
      (M.isMatch q = true ↔ (M.states.getD q {}).matches_ ≠ []) ∧
      (M.isDead q = true → ∀ a b, M.next a (M.states.size + 1) q b = 0) := by
  intro M q
  obtain ⟨s, hv, hq, _⟩ := hL.reach hasPre k P s0 hs w
  have hq' : q = posOf N s := hq
  rw [hq']
  obtain ⟨c1, c2⟩ := hL.contract hasPre hv
  exact ⟨c1, hL.isMatch_iff hasPre hv, c2⟩

theorem NLive.inbounds {n : Nat}
    (hpat : ∀ s, V s → ∀ p ∈ (N.getD s {}).matches_, p < n) (s0 : Nat)
    (hs : ((buildNfaIds N hasPre).toAut k P hasPre).start anch = some s0) (w : List UInt8) :
    let M := buildNfaIds N hasPre
    let q := (M.toAut k P hasPre).runFrom anch s0 w
    q < M.states.size ∧
      (∀ b, M.next? anch (M.states.size + 1) q b = some (M.next anch (M.states.size + 1) q b)) ∧
      M.matchList? q = some (M.matchList q) ∧ ∀ p ∈ M.matchList q, p < n := by
  intro M q
  obtain ⟨s, hv, hq, _⟩ := hL.reach hasPre k P s0 hs w
  have hq' : q = posOf N s := hq
  rw [hq']
  refine ⟨hL.pos_lt hasPre hv, fun b => hL.next? hasPre hv b, hL.matchList? hasPre hv, ?_⟩
  intro p hp
  rw [hL.matchList hasPre hv] at hp
  exact hpat s hv p hp

end

end AcVerif.L1cIdsP
