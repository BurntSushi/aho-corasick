import AcVerif.Proofs.NfaMemChain
import AcVerif.Proofs.CompilerBase
/-!
# The representation invariant of the linked-list memory, and the read operations

`MemOKW m tc mc` is the invariant relative to the cell lists `tc s` / `mc s` of every state;
`MemOK m` hides the witnesses.  Under it `iter_trans` and `iter_matches` yield the cells in list
order (`iterTrans_eq`, `iterMatches_eq`), `follow_transition_sparse` is a lookup in the sorted
list (`follow_eq_lookup`), and the tail walk of `add_match` / `copy_matches` ends at the last cell
(`tailWalk_eq`).
-/
namespace AcVerif.MemP
open AcVerif MemNfa
open AcVerif.L1cP (lookup lookup_cons lookup_nil Sorted)

/-- the `link` field of `self.sparse[i]` -/
def tlink (m : MemNfa) (i : Nat) : Nat := (m.tr i).link
/-- the `link` field of `self.matches[i]` -/
def mlink (m : MemNfa) (i : Nat) : Nat := (m.mt i).link
/-- what `iter_trans` yields at cell `i` -/
def kv (m : MemNfa) (i : Nat) : UInt8 × Nat := ((m.tr i).byte, (m.tr i).next)
/-- what `iter_matches` yields at cell `i` -/
def pidOf (m : MemNfa) (i : Nat) : Nat := (m.mt i).pid

structure MemOKW (m : MemNfa) (tc mc : Nat → List Nat) : Prop where
  /-- the dummy entries at index 0 exist and are untouched -/
  tpos : 0 < m.sparse.size
  mpos : 0 < m.matches_.size
  tsent : m.tr 0 = {}
  msent : m.mt 0 = {}
  /-- following the links from the head of `s` visits `tc s` and ends (finite, acyclic) -/
  tchain : ∀ s, IsChain (tlink m) (m.st s).sparse (tc s)
  tlt : ∀ s, ∀ i ∈ tc s, i < m.sparse.size
  tsorted : ∀ s, (tc s).Pairwise fun i j => (m.tr i).byte < (m.tr j).byte
  tdisj : ∀ s s', s ≠ s' → ∀ i ∈ tc s, i ∉ tc s'
  mchain : ∀ s, IsChain (mlink m) (m.st s).matches_ (mc s)
  mlt : ∀ s, ∀ i ∈ mc s, i < m.matches_.size
  mnodup : ∀ s, (mc s).Nodup
  mdisj : ∀ s s', s ≠ s' → ∀ i ∈ mc s, i ∉ mc s'

def MemOK (m : MemNfa) : Prop := ∃ tc mc, MemOKW m tc mc

namespace MemOKW
variable {m : MemNfa} {tc mc : Nat → List Nat}

theorem tnodup (h : MemOKW m tc mc) (s : Nat) : (tc s).Nodup := by
  refine (h.tsorted s).imp ?_
  intro a b hab e
  subst e
  exact absurd hab (UInt8.lt_irrefl _)

theorem tlen (h : MemOKW m tc mc) (s : Nat) : (tc s).length ≤ m.sparse.size :=
  length_le_of_nodup_lt (h.tnodup s) (h.tlt s)

theorem mlen (h : MemOKW m tc mc) (s : Nat) : (mc s).length ≤ m.matches_.size :=
  length_le_of_nodup_lt (h.mnodup s) (h.mlt s)

theorem tne0 (h : MemOKW m tc mc) (s : Nat) : ∀ i ∈ tc s, i ≠ 0 := (h.tchain s).ne_zero

theorem tchains (h : MemOKW m tc mc) :
    Chains (tlink m) (fun s => (m.st s).sparse) m.sparse.size tc :=
  ⟨h.tchain, h.tlt, h.tnodup, h.tdisj⟩

theorem mchains (h : MemOKW m tc mc) :
    Chains (mlink m) (fun s => (m.st s).matches_) m.matches_.size mc :=
  ⟨h.mchain, h.mlt, h.mnodup, h.mdisj⟩

theorem congr {m' : MemNfa} (h : MemOKW m tc mc) (hsz : m'.sparse.size = m.sparse.size)
    (hmt : m'.matches_ = m.matches_)
    (htr : ∀ i, (m'.tr i).link = (m.tr i).link ∧ (m'.tr i).byte = (m.tr i).byte)
    (h0 : m'.tr 0 = {})
    (hst : ∀ s, (m'.st s).sparse = (m.st s).sparse ∧ (m'.st s).matches_ = (m.st s).matches_) :
    MemOKW m' tc mc := by
  have T := h.tchains.congr (lnk' := tlink m') (head' := fun s => (m'.st s).sparse)
    (fun _ i _ => (htr i).1) (fun s => (hst s).1) (Nat.le_of_eq hsz.symm)
  have M := h.mchains.congr (lnk' := mlink m') (head' := fun s => (m'.st s).matches_)
    (fun _ i _ => congrArg MMatch.link (mt_of_matches hmt i)) (fun s => (hst s).2)
    (Nat.le_of_eq (congrArg Array.size hmt).symm)
  refine ⟨hsz ▸ h.tpos, hmt ▸ h.mpos, h0, (mt_of_matches hmt 0).trans h.msent, T.chain, T.lt,
    fun s => (h.tsorted s).imp ?_, T.disj, M.chain, M.lt, M.nodup, M.disj⟩
  intro a b hab
  rw [(htr a).2, (htr b).2]; exact hab

theorem unique (h : MemOKW m tc mc) {tc' mc' : Nat → List Nat} (h' : MemOKW m tc' mc') :
    tc' = tc ∧ mc' = mc :=
  ⟨funext fun s => (h'.tchain s).unique (h.tchain s),
   funext fun s => (h'.mchain s).unique (h.mchain s)⟩

end MemOKW

/-! ## the initial value -/

theorem st_oob (m : MemNfa) {s : Nat} (h : m.states.size ≤ s) : m.st s = {} :=
  Array.getD_of_size_le _ _ h

theorem memOKW_empty : MemOKW MemNfa.empty (fun _ => []) (fun _ => []) where
  tpos := by decide
  mpos := by decide
  tsent := rfl
  msent := rfl
  tchain := fun _ => rfl
  tlt := fun _ i hi => by cases hi
  tsorted := fun _ => List.Pairwise.nil
  tdisj := fun _ _ _ i hi => by cases hi
  mchain := fun _ => rfl
  mlt := fun _ i hi => by cases hi
  mnodup := fun _ => List.Pairwise.nil
  mdisj := fun _ _ _ i hi => by cases hi

theorem memOK_empty : MemOK MemNfa.empty := ⟨_, _, memOKW_empty⟩

/-! ## iteration -/

theorem iterTransGo_eq (m : MemNfa) {h : Nat} {l : List Nat} (hc : IsChain (tlink m) h l)
    {fuel : Nat} (hf : l.length ≤ fuel) : iterTransGo m fuel h = l.map (kv m) := by
  refine hc.walk (motive := fun fuel h l => iterTransGo m fuel h = l.map (kv m))
    (fun fuel => by cases fuel <;> simp [iterTransGo]) (fun f i is hi0 _ ih => ?_) hf
  simp only [iterTransGo, if_neg hi0, List.map_cons]
  exact congrArg (kv m i :: ·) ih

theorem iterMatchesGo_eq (m : MemNfa) {h : Nat} {l : List Nat} (hc : IsChain (mlink m) h l)
    {fuel : Nat} (hf : l.length ≤ fuel) : iterMatchesGo m fuel h = l.map (pidOf m) := by
  refine hc.walk (motive := fun fuel h l => iterMatchesGo m fuel h = l.map (pidOf m))
    (fun fuel => by cases fuel <;> simp [iterMatchesGo]) (fun f i is hi0 _ ih => ?_) hf
  simp only [iterMatchesGo, if_neg hi0, List.map_cons]
  exact congrArg (pidOf m i :: ·) ih

theorem iterTrans_eq {m : MemNfa} {tc mc : Nat → List Nat} (h : MemOKW m tc mc) (s : Nat) :
    m.iterTrans s = (tc s).map (kv m) :=
  iterTransGo_eq m (h.tchain s) (Nat.le_succ_of_le (h.tlen s))

theorem iterMatches_eq {m : MemNfa} {tc mc : Nat → List Nat} (h : MemOKW m tc mc) (s : Nat) :
    m.iterMatches s = (mc s).map (pidOf m) :=
  iterMatchesGo_eq m (h.mchain s) (Nat.le_succ_of_le (h.mlen s))

theorem sorted_cells {m : MemNfa} {l : List Nat} :
    (l.Pairwise fun i j => (m.tr i).byte < (m.tr j).byte) ↔ Sorted (l.map (kv m)) := by
  unfold Sorted; rw [List.pairwise_map]; rfl

theorem sorted_iterTrans {m : MemNfa} {tc mc : Nat → List Nat} (h : MemOKW m tc mc) (s : Nat) :
    Sorted (m.iterTrans s) := by
  rw [iterTrans_eq h]
  exact sorted_cells.1 (h.tsorted s)

/-! ## `follow_transition_sparse` -/

theorem lookup_eq_FAIL {l : List (UInt8 × Nat)} {b : UInt8} (h : ∀ x ∈ l, x.1 ≠ b) :
    lookup l b = CNfa.FAIL := by
  induction l with
  | nil => rfl
  | cons x rest ih =>
    obtain ⟨c, t⟩ := x
    rw [lookup_cons, if_neg (h (c, t) List.mem_cons_self)]
    exact ih fun y hy => h y (List.mem_cons_of_mem _ hy)

/-- the early exit at the first `byte <= t.byte` loses nothing on a sorted list -/
theorem followGo_eq (m : MemNfa) (b : UInt8) {h : Nat} {l : List Nat}
    (hc : IsChain (tlink m) h l)
    (hs : l.Pairwise fun i j => (m.tr i).byte < (m.tr j).byte)
    {fuel : Nat} (hf : l.length ≤ fuel) : followGo m b fuel h = lookup (l.map (kv m)) b := by
  refine hc.walk (motive := fun fuel h l => (l.Pairwise fun i j => (m.tr i).byte < (m.tr j).byte) →
      followGo m b fuel h = lookup (l.map (kv m)) b)
    (fun fuel _ => by cases fuel <;> simp [followGo, lookup_nil, MemNfa.FAIL, CNfa.FAIL])
    (fun f h is hi0 _ ih hs => ?_) hf hs
  have hs' := List.pairwise_cons.1 hs
  simp only [followGo, if_neg hi0, List.map_cons]
  show _ = lookup (((m.tr h).byte, (m.tr h).next) :: _) b
  rw [lookup_cons]
  by_cases hle : b ≤ (m.tr h).byte
  · rw [if_pos hle]
    by_cases hbe : b = (m.tr h).byte
    · rw [if_pos hbe, if_pos hbe.symm]
    · rw [if_neg hbe, if_neg (fun e => hbe e.symm)]
      symm
      apply lookup_eq_FAIL
      intro x hx
      obtain ⟨j, hj, rfl⟩ := List.mem_map.1 hx
      have h1 := hs'.1 j hj
      show (m.tr j).byte ≠ b
      intro e
      rw [UInt8.lt_iff_toNat_lt] at h1
      rw [UInt8.le_iff_toNat_le] at hle
      rw [← e] at hle
      omega
  · rw [if_neg hle]
    have : ¬ (m.tr h).byte = b := by
      intro e; subst e; exact hle (UInt8.le_refl _)
    rw [if_neg this]
    exact ih hs'.2

theorem follow_eq_lookup {m : MemNfa} {tc mc : Nat → List Nat} (h : MemOKW m tc mc)
    (s : Nat) (b : UInt8) : m.followTransitionSparse s b = lookup (m.iterTrans s) b := by
  rw [iterTrans_eq h]
  exact followGo_eq m b (h.tchain s) (h.tsorted s) (Nat.le_succ_of_le (h.tlen s))

/-! ## the tail walk of `add_match` / `copy_matches` -/

theorem tailWalk_eq (m : MemNfa) (hs : (m.mt 0).link = 0) {h : Nat} {l : List Nat}
    (hc : IsChain (mlink m) h l) {fuel : Nat} (hf : l.length ≤ fuel) :
    tailWalk m fuel h = l.getLast?.getD 0 := by
  refine hc.walk (motive := fun fuel h l => tailWalk m fuel h = l.getLast?.getD 0)
    (fun fuel => by cases fuel <;> simp [tailWalk, hs]) (fun f i is hi0 hrest ih => ?_) hf
  simp only [tailWalk]
  by_cases hl : (m.mt i).link ≠ 0
  · rw [if_pos hl, show m.tailWalk f (m.mt i).link = _ from ih]
    cases is with
    | nil => exact absurd rfl (hrest.ne_nil hl)
    | cons j js => rw [List.getLast?_cons_cons]
  · rw [if_neg hl]
    have hl0 : mlink m i = 0 := by simpa [mlink] using hl
    rw [hl0] at hrest
    rw [hrest.eq_nil]
    rfl

/-! ## frame lemmas for the iterators (no invariant needed) -/

theorem iterMatchesGo_congr {m m' : MemNfa} (h : ∀ i, m'.mt i = m.mt i) (fuel link : Nat) :
    iterMatchesGo m' fuel link = iterMatchesGo m fuel link := by
  induction fuel generalizing link with
  | zero => rfl
  | succ f ih => simp only [iterMatchesGo, h, ih]

theorem iterMatches_congr {m m' : MemNfa} (h : m'.matches_ = m.matches_) {s : Nat}
    (hs : (m'.st s).matches_ = (m.st s).matches_) : m'.iterMatches s = m.iterMatches s := by
  unfold iterMatches
  rw [hs, h]
  exact iterMatchesGo_congr (mt_of_matches h) _ _

theorem iterTransGo_congr {m m' : MemNfa} (h : ∀ i, m'.tr i = m.tr i) (fuel link : Nat) :
    iterTransGo m' fuel link = iterTransGo m fuel link := by
  induction fuel generalizing link with
  | zero => rfl
  | succ f ih => simp only [iterTransGo, h, ih]

theorem iterTrans_congr {m m' : MemNfa} (h : m'.sparse = m.sparse) {s : Nat}
    (hs : (m'.st s).sparse = (m.st s).sparse) : m'.iterTrans s = m.iterTrans s := by
  unfold iterTrans
  rw [hs, h]
  exact iterTransGo_congr (tr_of_sparse h) _ _

end AcVerif.MemP
