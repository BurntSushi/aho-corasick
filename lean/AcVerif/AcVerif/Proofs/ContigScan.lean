import AcVerif.Proofs.ContigDefs
/-!
# L1e proofs: the class scan of a sparse state stops at the first real slot

`sparseIdx` is the slot number `i * 4 + j` at which the scan of `next_state` stops; the scan
returns the target word of that slot (`sparseScan_eq_idx`).  On the class words written by
`State::write` it is the index of the FIRST transition with that class (`sparseIdx_spec`): the last
word is padded with copies of its last class, so a padding lane is never the first hit.
-/
namespace AcVerif.L1eP
open AcVerif AcVerif.CNfa

theorem u32Len_eq (n : Nat) : u32Len n = (n + 3) / 4 := by
  unfold u32Len
  simp only [beq_iff_eq]
  split <;> omega

theorem u32Len_pos {n : Nat} (h : 0 < n) : u32Len n = u32Len (n - 4) + 1 := by
  rw [u32Len_eq, u32Len_eq]
  omega

theorem chunks_nil (fuel : Nat) : writeState.chunks [] fuel = [] := by
  cases fuel with
  | zero => exact writeState.chunks.eq_1 []
  | succ f => exact writeState.chunks.eq_2 (f + 1) (by omega)

theorem chunks_cons (a : Nat) (l : List Nat) (fuel : Nat) :
    writeState.chunks (a :: l) (fuel + 1) =
      packChunk (List.take 4 (a :: l) ++
        List.replicate (4 - (List.take 4 (a :: l)).length) ((List.take 4 (a :: l)).getLastD 0)) ::
        writeState.chunks (List.drop 4 (a :: l)) fuel :=
  writeState.chunks.eq_3 (a :: l) fuel (by simp)

theorem chunks_length (cl : List Nat) (fuel : Nat) (hf : cl.length < fuel) :
    (writeState.chunks cl fuel).length = u32Len cl.length := by
  induction fuel generalizing cl with
  | zero => omega
  | succ f ih =>
    cases cl with
    | nil => rw [chunks_nil]; rfl
    | cons a l =>
      have hd : (List.drop 4 (a :: l)).length = (a :: l).length - 4 := List.length_drop
      have hpos : 0 < (a :: l).length := Nat.succ_pos _
      rw [chunks_cons, List.length_cons, ih _ (by omega), hd]
      exact (u32Len_pos hpos).symm

/-- which of the four lanes of the class word number `i` holds `cls` -/
def slotOf (cls chunk i : Nat) : Option Nat :=
  if chunk % 256 == cls then some (i * 4)
  else if (chunk / 256) % 256 == cls then some (i * 4 + 1)
  else if (chunk / 65536) % 256 == cls then some (i * 4 + 2)
  else if (chunk / 16777216) % 256 == cls then some (i * 4 + 3)
  else none

def sparseIdx (w : Nat → Nat) (cls base m : Nat) : Option Nat :=
  (List.range m).findSome? fun i => slotOf cls (w (base + i)) i

def lanes (chunk : Nat) : List Nat :=
  [chunk % 256, chunk / 256 % 256, chunk / 65536 % 256, chunk / 16777216 % 256]

theorem slotOf_eq (cls chunk i : Nat) :
    slotOf cls chunk i = ((lanes chunk).findIdx? (· == cls)).map (i * 4 + ·) := by
  simp only [slotOf, lanes, List.findIdx?_cons, List.findIdx?_nil, apply_ite (Option.map _),
    Option.map_some, Option.map_none, Nat.zero_add, Nat.add_zero]

theorem slotOf_succ (cls chunk i : Nat) :
    slotOf cls chunk (i + 1) = (slotOf cls chunk i).map (· + 4) := by
  rw [slotOf_eq, slotOf_eq, Option.map_map]
  congr 1
  funext j
  show (i + 1) * 4 + j = i * 4 + j + 4
  omega

theorem findSome?_omap {α β γ : Type} (l : List α) (g : α → Option β) (f : β → γ) :
    (l.findSome? g).map f = l.findSome? fun a => (g a).map f :=
  List.map_findSome?

theorem sparseIdx_succ (w : Nat → Nat) (cls base m : Nat) :
    sparseIdx w cls base (m + 1) =
      (slotOf cls (w base) 0).or ((sparseIdx w cls (base + 1) m).map (· + 4)) := by
  unfold sparseIdx
  rw [List.range_succ_eq_map, List.findSome?_cons, List.findSome?_map, findSome?_omap]
  have e : ((fun i => slotOf cls (w (base + i)) i) ∘ Nat.succ) =
      fun i => (slotOf cls (w (base + 1 + i)) i).map (· + 4) := by
    funext i
    show slotOf cls (w (base + (i + 1))) (i + 1) = _
    rw [slotOf_succ, Nat.add_right_comm, Nat.add_assoc]
  rw [e]
  cases slotOf cls (w (base + 0)) 0 <;> rfl

theorem sparseScan_eq_idx (w : Nat → Nat) (cls base toff m : Nat) :
    sparseScan w cls base toff m = (sparseIdx w cls base m).map fun j => w (toff + j) := by
  unfold sparseScan sparseIdx
  rw [findSome?_omap]
  congr 1
  funext i
  simp only [slotOf, apply_ite (Option.map _), Option.map_some, Option.map_none, Nat.add_assoc]

theorem low_byte {a : Nat} (r : Nat) (ha : a < 256) :
    (a + 256 * r) % 256 = a ∧ (a + 256 * r) / 256 = r :=
  ⟨by rw [Nat.add_mul_mod_self_left, Nat.mod_eq_of_lt ha],
    by rw [Nat.add_mul_div_left _ _ (by decide), Nat.div_eq_of_lt ha, Nat.zero_add]⟩

/-- the word is `a + 256 * (b + 256 * (c + 256 * d))`: peel one byte at a time -/
theorem bytes_of_word (a b c d : Nat) (ha : a < 256) (hb : b < 256) (hc : c < 256) (hd : d < 256) :
    (a + 256 * b + 65536 * c + 16777216 * d) % 256 = a ∧
    (a + 256 * b + 65536 * c + 16777216 * d) / 256 % 256 = b ∧
    (a + 256 * b + 65536 * c + 16777216 * d) / 65536 % 256 = c ∧
    (a + 256 * b + 65536 * c + 16777216 * d) / 16777216 % 256 = d := by
  have e : a + 256 * b + 65536 * c + 16777216 * d = a + 256 * (b + 256 * (c + 256 * d)) := by omega
  rw [e, show 65536 = 256 * 256 from rfl, show 16777216 = 256 * 256 * 256 from rfl,
    ← Nat.div_div_eq_div_mul, ← Nat.div_div_eq_div_mul, ← Nat.div_div_eq_div_mul,
    (low_byte _ ha).2, (low_byte _ hb).2, (low_byte _ hc).2]
  exact ⟨(low_byte _ ha).1, (low_byte _ hb).1, (low_byte _ hc).1, Nat.mod_eq_of_lt hd⟩

theorem lanes_pack (p : List Nat) (h4 : p.length = 4) (hp : ∀ x ∈ p, x < 256) :
    lanes (packChunk p) = p := by
  match p, h4 with
  | [a, b, c, d], _ =>
    obtain ⟨e0, e1, e2, e3⟩ := bytes_of_word a b c d (hp a (by simp)) (hp b (by simp))
      (hp c (by simp)) (hp d (by simp))
    show lanes (a + 256 * b + 65536 * c + 16777216 * d) = _
    unfold lanes
    rw [e0, e1, e2, e3]

theorem findIdx?_pad (c : List Nat) (hne : c ≠ []) (n : Nat) (p : Nat → Bool) :
    (c ++ List.replicate n (c.getLastD 0)).findIdx? p = c.findIdx? p := by
  rw [List.findIdx?_append]
  cases h : c.findIdx? p with
  | some j => rfl
  | none =>
    have hl : p (c.getLastD 0) = false := by
      rw [List.getLastD_eq_getLast?, List.getLast?_eq_some_getLast hne]
      exact List.findIdx?_eq_none_iff.1 h _ (List.getLast_mem hne)
    rw [List.findIdx?_replicate, hl, if_neg (fun h => Bool.false_ne_true h.2)]
    rfl

theorem sparseIdx_spec (w : Nat → Nat) (cls base : Nat) (cl : List Nat) (fuel : Nat)
    (hf : cl.length < fuel) (hcl : ∀ c ∈ cl, c < 256)
    (hw : Stored w base (writeState.chunks cl fuel)) :
    sparseIdx w cls base (u32Len cl.length) = cl.findIdx? (· == cls) := by
  induction fuel generalizing cl base with
  | zero => omega
  | succ f ih =>
    cases cl with
    | nil => rfl
    | cons a l =>
      -- `c`: the classes packed into the first word; `r`: the others
      have hcr : List.take 4 (a :: l) ++ List.drop 4 (a :: l) = a :: l := List.take_append_drop 4 _
      have hcne : List.take 4 (a :: l) ≠ [] := by simp
      have hclen : (List.take 4 (a :: l)).length = min 4 (a :: l).length := List.length_take
      have hrlen : (List.drop 4 (a :: l)).length = (a :: l).length - 4 := List.length_drop
      have hpos : 0 < (a :: l).length := Nat.succ_pos _
      have hcmem : ∀ x ∈ List.take 4 (a :: l), x < 256 := fun x hx => hcl x (List.mem_of_mem_take hx)
      rw [chunks_cons] at hw
      generalize List.take 4 (a :: l) = c at *
      generalize List.drop 4 (a :: l) = r at *
      have hrec := ih (base + 1) r (by omega)
        (fun x hx => hcl x (by rw [← hcr]; exact List.mem_append_right c hx)) hw.tail
      rw [u32Len_pos hpos, ← hrlen, sparseIdx_succ, hrec, hw.head,
        slotOf_eq, lanes_pack _ (by rw [List.length_append, List.length_replicate]; omega)
          (by
            intro x hx
            rcases List.mem_append.1 hx with hx | hx
            · exact hcmem x hx
            · rw [List.eq_of_mem_replicate hx, List.getLastD_eq_getLast?,
                List.getLast?_eq_some_getLast hcne]
              exact hcmem _ (List.getLast_mem hcne)),
        findIdx?_pad c hcne, ← hcr, List.findIdx?_append]
      have e0 : (fun x : Nat => 0 * 4 + x) = id :=
        funext fun x => by rw [Nat.zero_mul, Nat.zero_add]; rfl
      rw [e0, Option.map_id]
      cases hj : r.findIdx? (· == cls) with
      | none => rfl
      | some j =>
        -- `r` is not empty, so the first word holds four classes
        have hr0 : 0 < r.length := by
          cases r with
          | nil => cases hj
          | cons _ _ => exact Nat.succ_pos _
        rw [show c.length = 4 by omega]
        rfl

end AcVerif.L1eP
