import AcVerif.Proofs.Sweep
import AcVerif.Cost
import AcVerif.CostOverlap
import AcVerif.PreScan
/-!
# The six model loops are `sweep`

Each model loop is `sweep` with its own accumulator update, read off through its own `post`
(`*_eq_sweep`).  For a proof that walks `findLoop`, `ovlLoop` or `scanLoop` by hand: `*_done`
(entered at or past the end) and `*_step` (one iteration, given the state entered and the move).
-/
namespace AcVerif
open ScanP
variable {σ α ρ : Type}

/-- `findLoop` remembers the last reportable match -/
def findUpd (mat : Option Mat) : Move → Option Mat
  | .hit m => some m
  | _ => mat

/-- … and forgets it when the prefilter ends the search -/
def findPost (r : Swept σ (Option Mat)) : Option Mat :=
  match r.last with
  | some (.asked _) => none
  | _ => r.acc

/-- the `OverlappingState` a call of `ovlLoop` leaves -/
def ovlPost (r : Swept σ ρ) : OState σ :=
  match r.last with
  | some (.hit m) => { mat := some m, id := some r.sid, at_ := r.at_, nextIdx := some 1 }
  | _ => { mat := none, id := some r.sid, at_ := r.at_, nextIdx := none }

theorem ovlPost_at (r : Swept σ ρ) : (ovlPost r).at_ = r.at_ := by
  unfold ovlPost; split <;> rfl

theorem ovlPost_id (r : Swept σ ρ) : (ovlPost r).id = some r.sid := by
  unfold ovlPost; split <;> rfl

theorem ovlPost_mat (r : Swept σ ρ) :
    (ovlPost r).mat.isSome = true → (ovlPost r).nextIdx.isSome = true := by
  unfold ovlPost; split
  · exact fun _ => rfl
  · exact fun h => nomatch h

/-- the prefilter work of one move at `at_` -/
def scanUpd (e at_ acc : Nat) : Move → Nat
  | .asked c => acc + c.extent at_ e
  | _ => acc

section
variable {A : Aut σ α} {hay : List α} {s e : Nat} {he : e ≤ hay.length}
  {pre : Option (Prefilter α)} {anch earliest : Bool} {sid : σ} {at_ : Nat}

theorem findLoop_done {mat : Option Mat} (h : ¬ at_ < e) :
    findLoop A hay s e he pre anch earliest sid at_ mat = mat := by
  rw [findLoop, dif_neg h]

theorem ovlLoop_done (h : ¬ at_ < e) :
    ovlLoop A hay s e he pre anch sid at_ =
      { mat := none, id := some sid, at_ := at_, nextIdx := none } := by
  rw [ovlLoop, dif_neg h]

theorem scanLoop_done {acc : Nat} (h : ¬ at_ < e) :
    scanLoop A hay s e he pre anch earliest sid at_ acc = acc := by
  rw [scanLoop, dif_neg h]

end

section
variable (A : Aut σ α) (hay : List α) (s e : Nat) (he : e ≤ hay.length)
  (pre : Option (Prefilter α)) (anch : Bool)

theorem findLoop_eq_sweep (earliest : Bool) (sid : σ) (at_ : Nat) (mat : Option Mat) :
    findLoop A hay s e he pre anch earliest sid at_ mat =
      findPost (sweep A hay s e he pre anch earliest (fun mat _ _ _ => findUpd mat) sid at_ mat) :=
  sweep_unique findPost
    (fun sid at_ mat h => by rw [findLoop, dif_neg h]; rfl)
    (fun sid at_ mat h b q mv hb hq hmv => by
      subst hb hq hmv
      rw [findLoop, dif_pos h]
      exact loopBody_halts earliest (fun mv => findPost ⟨_, at_, findUpd mat mv, some mv⟩)
        (fun mv j => findLoop A hay s e he pre anch earliest _ j (findUpd mat mv)))
    sid at_ mat

theorem ovlLoop_eq_sweep (sid : σ) (at_ : Nat) :
    ovlLoop A hay s e he pre anch sid at_ =
      ovlPost (sweep A hay s e he pre anch true (fun x _ _ _ _ => x) sid at_ ()) :=
  sweep_unique ovlPost (F := fun sid at_ _ => ovlLoop A hay s e he pre anch sid at_)
    (fun sid at_ _ h => by rw [ovlLoop, dif_neg h]; rfl)
    (fun sid at_ _ h b q mv hb hq hmv => by
      subst hb hq hmv
      rw [ovlLoop, dif_pos h]
      exact loopBody_halts true (fun mv => ovlPost ⟨_, at_, (), some mv⟩)
        (fun _ j => ovlLoop A hay s e he pre anch _ j))
    sid at_ ()

theorem scanLoop_eq_sweep (earliest : Bool) (sid : σ) (at_ acc : Nat) :
    scanLoop A hay s e he pre anch earliest sid at_ acc =
      (sweep A hay s e he pre anch earliest (fun acc _ _ at_ => scanUpd e at_ acc) sid at_ acc).acc :=
  sweep_unique Swept.acc
    (fun sid at_ acc h => by rw [scanLoop, dif_neg h])
    (fun sid at_ acc h b q mv hb hq hmv => by
      subst hb hq hmv
      rw [scanLoop, dif_pos h]
      exact loopBody_halts earliest (scanUpd e at_ acc)
        (fun mv j => scanLoop A hay s e he pre anch earliest _ j (scanUpd e at_ acc mv)))
    sid at_ acc

theorem ovlScanLoop_eq_sweep (sid : σ) (at_ acc : Nat) :
    ovlScanLoop A hay s e he pre anch sid at_ acc =
      (sweep A hay s e he pre anch true (fun acc _ _ at_ => scanUpd e at_ acc) sid at_ acc).acc :=
  sweep_unique Swept.acc
    (fun sid at_ acc h => by rw [ovlScanLoop, dif_neg h])
    (fun sid at_ acc h b q mv hb hq hmv => by
      subst hb hq hmv
      rw [ovlScanLoop, dif_pos h]
      exact loopBody_halts true (scanUpd e at_ acc)
        (fun mv j => ovlScanLoop A hay s e he pre anch _ j (scanUpd e at_ acc mv)))
    sid at_ acc

/-- one iteration of `findLoop` / `ovlLoop` / `scanLoop`, for a caller that knows the state
entered and the move -/
theorem findLoop_step (earliest : Bool) (sid : σ) (at_ : Nat) (mat : Option Mat) (h : at_ < e)
    {q : σ} {mv : Move} (hq : A.next anch sid (hay[at_]'(Nat.lt_of_lt_of_le h he)) = q)
    (hmv : move A hay s e pre anch q at_ = mv) :
    findLoop A hay s e he pre anch earliest sid at_ mat =
      if mv.halts earliest then findPost ⟨q, at_, findUpd mat mv, some mv⟩
      else findLoop A hay s e he pre anch earliest q (mv.resume at_) (findUpd mat mv) := by
  rw [findLoop_eq_sweep, sweep_step h rfl hq hmv]
  split
  · rfl
  · rw [← findLoop_eq_sweep]

theorem ovlLoop_step (sid : σ) (at_ : Nat) (h : at_ < e) {q : σ} {mv : Move}
    (hq : A.next anch sid (hay[at_]'(Nat.lt_of_lt_of_le h he)) = q)
    (hmv : move A hay s e pre anch q at_ = mv) :
    ovlLoop A hay s e he pre anch sid at_ =
      if mv.halts true then ovlPost ⟨q, at_, (), some mv⟩
      else ovlLoop A hay s e he pre anch q (mv.resume at_) := by
  rw [ovlLoop_eq_sweep, sweep_step h rfl hq hmv]
  split
  · rfl
  · rw [← ovlLoop_eq_sweep]

theorem scanLoop_step (earliest : Bool) (sid : σ) (at_ acc : Nat) (h : at_ < e) {q : σ}
    {mv : Move} (hq : A.next anch sid (hay[at_]'(Nat.lt_of_lt_of_le h he)) = q)
    (hmv : move A hay s e pre anch q at_ = mv) :
    scanLoop A hay s e he pre anch earliest sid at_ acc =
      if mv.halts earliest then scanUpd e at_ acc mv
      else scanLoop A hay s e he pre anch earliest q (mv.resume at_) (scanUpd e at_ acc mv) := by
  rw [scanLoop_eq_sweep, sweep_step h rfl hq hmv]
  split
  · rfl
  · rw [← scanLoop_eq_sweep]

theorem ScanP.ovlLoop_at_ge (sid : σ) (at_ : Nat) :
    at_ ≤ (ovlLoop A hay s e he pre anch sid at_).at_ := by
  rw [ovlLoop_eq_sweep, ovlPost_at]; exact sweep_at_ge ..

end

section
variable [DecidableEq α] (k : MatchKind) (Q : PatSet α) (A : Aut (St α) α) (g : α → α)
  (hay : List α) (s e : Nat) (he : e ≤ hay.length) (pre : Option (Prefilter α)) (anch : Bool)

/-- the two work counters of one transition -/
def costUpd (cost : Cost) (q : St α) (c : α) (_ : Nat) (_ : Move) : Cost :=
  ⟨cost.transitions + 1, cost.fails + Ideal.hops k Q anch q (g c)⟩

def pairUpd {σ ρ ρ' : Type} (u : ρ → σ → α → Nat → Move → ρ) (u' : ρ' → σ → α → Nat → Move → ρ')
    (x : ρ × ρ') (q : σ) (c : α) (a : Nat) (mv : Move) : ρ × ρ' :=
  (u x.1 q c a mv, u' x.2 q c a mv)

theorem findCost_eq_sweep (earliest : Bool) (sid : St α) (at_ : Nat) (mat : Option Mat)
    (cost : Cost) :
    findCost k Q A g hay s e he pre anch earliest sid at_ mat cost =
      ((fun r : Swept (St α) (Option Mat × Cost) => (findPost (r.map Prod.fst), r.acc.2))
        (sweep A hay s e he pre anch earliest
          (pairUpd (fun mat _ _ _ => findUpd mat) (costUpd k Q g anch)) sid at_ (mat, cost))) :=
  sweep_unique (fun r => (findPost (r.map Prod.fst), r.acc.2))
    (F := fun sid at_ x => findCost k Q A g hay s e he pre anch earliest sid at_ x.1 x.2)
    (fun sid at_ x h => by rw [findCost, dif_neg h]; rfl)
    (fun sid at_ x h b q mv hb hq hmv => by
      subst hb hq hmv
      rw [findCost, dif_pos h]
      exact loopBody_halts earliest
        (fun mv => (findPost ⟨_, at_, findUpd x.1 mv, some mv⟩, costUpd k Q g anch x.2 sid _ at_ mv))
        (fun mv j => findCost k Q A g hay s e he pre anch earliest _ j (findUpd x.1 mv)
          (costUpd k Q g anch x.2 sid _ at_ mv)))
    sid at_ (mat, cost)

theorem ovlCost_eq_sweep (sid : St α) (at_ : Nat) (cost : Cost) :
    CostP.ovlCost k Q A g hay s e he pre anch sid at_ cost =
      ((fun r : Swept (St α) Cost => (ovlPost r, r.acc))
        (sweep A hay s e he pre anch true (costUpd k Q g anch) sid at_ cost)) :=
  sweep_unique (fun r => (ovlPost r, r.acc))
    (fun sid at_ cost h => by rw [CostP.ovlCost, dif_neg h]; rfl)
    (fun sid at_ cost h b q mv hb hq hmv => by
      subst hb hq hmv
      rw [CostP.ovlCost, dif_pos h]
      exact loopBody_halts true
        (fun mv => (ovlPost ⟨_, at_, costUpd k Q g anch cost sid _ at_ mv, some mv⟩,
          costUpd k Q g anch cost sid _ at_ mv))
        (fun mv j => CostP.ovlCost k Q A g hay s e he pre anch _ j
          (costUpd k Q g anch cost sid _ at_ mv)))
    sid at_ cost

end
end AcVerif
