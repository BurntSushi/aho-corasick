import AcVerif.Proofs.LmBasic
import AcVerif.Proofs.StdEngine
import AcVerif.Spec
/-!
# The ideal standard automaton: runs, outputs, and the list of all matches

`allMatches_eq_flatMap` writes `allMatches` position by position over the run of the automaton.
For `ideal .std P sk false`: it is `StdLike` (`stdLike_ideal`); the unanchored run on `w` ends in
`lsp (enumPats P) w` (`run_unanch'`), the anchored run in `w` itself or in the dead state
(`run_anch`; the dead state is never left, `run_dead`); a state's match list is ordered by `outOrd`
(`pairwise_out`) and holds exactly the patterns that are suffixes of the state (`mem_outStd`,
`mem_mpats_run*`).
-/
namespace AcVerif.StdP
open AcVerif

section Lsp
variable {α : Type} [DecidableEq α]

theorem lsp_suffix (Q : PatSet α) (w : List α) : lsp Q w <:+ w := LmP.lsp_suffix Q w

theorem lsp_max (Q : PatSet α) {w v : List α} (hs : v <:+ w) (hv : isPref Q v = true) :
    v <:+ lsp Q w := LmP.lsp_max hs hv

end Lsp

/-! ## generic: the list of all matches, position by position -/
section Generic
variable {σ α : Type}

theorem repAt_start (A : Aut σ α) (s : Nat) (anch : Bool) (q : σ) :
    repAt A s anch q s = (A.mpats q).map (mk A s) := by
  unfold repAt
  rw [List.takeWhile_eq_self]
  intro pid _
  simp [okPid, mk]

theorem allRep_eq_flatMap (A : Aut σ α) (s : Nat) (anch : Bool) (q : σ) (at_ : Nat)
    (rest : List α) :
    allRep A s anch q at_ rest =
      (List.range rest.length).flatMap
        (fun t => repAt A s anch (A.runFrom anch q (rest.take (t + 1))) (at_ + (t + 1))) := by
  induction rest generalizing q at_ with
  | nil => rfl
  | cons c rest ih =>
    simp only [allRep, List.length_cons, List.range_succ_eq_map, List.flatMap_cons,
      List.flatMap_map, ih]
    congr 2
    funext t
    simp only [Nat.succ_eq_add_one, List.take_succ_cons, Aut.runFrom]
    congr 1
    omega

theorem allMatches_eq_flatMap (A : Aut σ α) (s : Nat) (anch : Bool) (q0 : σ) (T : List α) :
    allMatches A s anch q0 T =
      (List.range (T.length + 1)).flatMap
        (fun t => repAt A s anch (A.runFrom anch q0 (T.take t)) (s + t)) := by
  rw [allMatches, allRep_eq_flatMap, List.range_succ_eq_map, List.flatMap_cons, List.flatMap_map,
    ← repAt_start A s anch q0]
  rfl

end Generic

/-! ## the ideal standard automaton -/
section Ideal
variable {α : Type} [DecidableEq α] (P : List (List α)) (sk : StartKind)

theorem stdLike_ideal :
    StdLike (ideal .std P sk false) where
  special := fun _ => Bool.or_false _
  isMatch := fun _ => rfl
  dead_next := by
    intro anch q c h
    rw [eq_of_beq (α := St α) h]
    rfl
  dead_out := by
    intro q h
    rw [eq_of_beq (α := St α) h]
    rfl
  kind := rfl

abbrev lenOf (P : List (List α)) (pid : Nat) : Nat := (P.getD pid []).length

omit [DecidableEq α] in
theorem lenOf_eq {P : List (List α)} {pid : Nat} {p : List α} (h : P[pid]? = some p) :
    lenOf P pid = p.length := by
  simp [lenOf, List.getD_eq_getElem?_getD, h]

theorem mem_idsOf {P : List (List α)} {v : List α} {pid : Nat} :
    pid ∈ idsOf (enumPats P) v ↔ P[pid]? = some v := by
  simp only [idsOf, List.mem_map, List.mem_filter, decide_eq_true_eq]
  constructor
  · rintro ⟨⟨p, j⟩, ⟨hm, hv⟩, rfl⟩
    simp only at hv; subst hv; exact LmP.mem_enumPats.1 hm
  · intro h; exact ⟨(v, pid), ⟨LmP.mem_enumPats.2 h, rfl⟩, rfl⟩

theorem mem_outStd {P : List (List α)} {u : List α} {pid : Nat} :
    pid ∈ outStd (enumPats P) u ↔ ∃ p, P[pid]? = some p ∧ p <:+ u := by
  simp only [outStd, List.mem_flatMap, List.mem_range, mem_idsOf]
  constructor
  · rintro ⟨k, _, h⟩; exact ⟨_, h, List.drop_suffix k u⟩
  · rintro ⟨p, hp, hs⟩
    have := hs.length_le
    refine ⟨u.length - p.length, by omega, ?_⟩
    rw [← List.suffix_iff_eq_drop.1 hs]; exact hp

/-- the order of a state's match list: longer first, then by id -/
def outOrd (P : List (List α)) (a b : Nat) : Prop :=
  lenOf P b < lenOf P a ∨ (lenOf P a = lenOf P b ∧ a < b)

theorem pairwise_idsOf (v : List α) :
    (idsOf (enumPats P) v).Pairwise (· < ·) := by
  unfold idsOf
  rw [List.pairwise_map]
  exact (LmP.idsInc_enumPats P).filter _

theorem pairwise_outStd (u : List α) :
    (outStd (enumPats P) u).Pairwise (outOrd P) := by
  unfold outStd
  rw [List.pairwise_flatMap]
  constructor
  · intro k _
    refine (pairwise_idsOf P (u.drop k)).imp_of_mem ?_
    intro a b ha hb hab
    right
    exact ⟨by rw [lenOf_eq (mem_idsOf.1 ha), lenOf_eq (mem_idsOf.1 hb)], hab⟩
  · refine List.pairwise_lt_range.imp_of_mem ?_
    intro k1 k2 h1 h2 hlt x hx y hy
    left
    rw [lenOf_eq (mem_idsOf.1 hx), lenOf_eq (mem_idsOf.1 hy)]
    simp only [List.mem_range] at h1 h2
    simp only [List.length_drop]
    omega

theorem pairwise_out (q : St α) :
    (Ideal.out .std (enumPats P) q).Pairwise (outOrd P) := by
  cases q with
  | dead => simp [Ideal.out]
  | «at» u => exact pairwise_outStd P u

/-! ### runs -/

theorem run_dead (anch : Bool) (w : List α) :
    (ideal .std P sk false).runFrom anch .dead w = .dead := by
  induction w with
  | nil => rfl
  | cons c w ih => exact ih

theorem run_unanch (x w : List α) :
    (ideal .std P sk false).runFrom false (.at (lsp (enumPats P) x)) w =
      .at (lsp (enumPats P) (x ++ w)) := by
  induction w generalizing x with
  | nil => simp [Aut.runFrom]
  | cons c w ih =>
    have hstep : (ideal .std P sk false).next false (.at (lsp (enumPats P) x)) c =
        .at (lsp (enumPats P) (x ++ [c])) := by
      show stepStd (enumPats P) (lsp (enumPats P) x) c = _
      rw [stepStd, ← LmP.lsp_step]
    rw [Aut.runFrom, hstep, ih (x ++ [c])]
    simp

theorem run_unanch' (w : List α) :
    (ideal .std P sk false).runFrom false (.at []) w = .at (lsp (enumPats P) w) := by
  have := run_unanch P sk [] w
  simpa [lsp] using this

theorem run_anch (u w : List α) :
    (ideal .std P sk false).runFrom true (.at u) w = .at (u ++ w) ∨
    ((ideal .std P sk false).runFrom true (.at u) w = .dead ∧
      isPref (enumPats P) (u ++ w) = false) := by
  induction w generalizing u with
  | nil => left; simp [Aut.runFrom]
  | cons c w ih =>
    rw [Aut.runFrom]
    have hstep : (ideal .std P sk false).next true (.at u) c = stepAnch (enumPats P) u c := rfl
    rw [hstep, stepAnch]
    cases hp : isPref (enumPats P) (u ++ [c]) with
    | true =>
      have := ih (u ++ [c])
      simpa using this
    | false =>
      refine Or.inr ⟨run_dead P sk true w, ?_⟩
      cases h : isPref (enumPats P) (u ++ c :: w) with
      | false => rfl
      | true => rw [LmP.isPref_of_prefix (by simp) h] at hp; cases hp

/-! ### the match list after consuming `w` -/

theorem mem_mpats_run {P : List (List α)} {sk : StartKind} {anch : Bool} {w : List α} {pid : Nat}
    (h : pid ∈ (ideal .std P sk false).mpats ((ideal .std P sk false).runFrom anch (.at []) w)) :
    ∃ p, P[pid]? = some p ∧ p <:+ w := by
  cases anch with
  | false =>
    rw [run_unanch'] at h
    obtain ⟨p, hp, hs⟩ := mem_outStd.1 h
    exact ⟨p, hp, hs.trans (lsp_suffix _ w)⟩
  | true =>
    rcases run_anch P sk [] w with h' | ⟨h', _⟩
    · rw [h'] at h
      obtain ⟨p, hp, hs⟩ := mem_outStd.1 h
      exact ⟨p, hp, hs⟩
    · rw [h'] at h; cases h

theorem mem_mpats_run_unanch {P : List (List α)} {sk : StartKind} {w p : List α} {pid : Nat}
    (hp : P[pid]? = some p) (hs : p <:+ w) :
    pid ∈ (ideal .std P sk false).mpats ((ideal .std P sk false).runFrom false (.at []) w) := by
  rw [run_unanch']
  refine mem_outStd.2 ⟨p, hp, lsp_max _ hs ?_⟩
  exact LmP.isPref_of_mem (q := (p, pid)) (LmP.mem_enumPats.2 hp)

theorem mem_mpats_run_anch {P : List (List α)} {sk : StartKind} {w : List α} {pid : Nat}
    (hp : P[pid]? = some w) :
    pid ∈ (ideal .std P sk false).mpats ((ideal .std P sk false).runFrom true (.at []) w) := by
  have hpre : isPref (enumPats P) ([] ++ w) = true :=
    LmP.isPref_of_mem (q := (w, pid)) (LmP.mem_enumPats.2 hp)
  rcases run_anch P sk [] w with h' | ⟨_, h'⟩
  · rw [h']
    exact mem_outStd.2 ⟨w, hp, by simp⟩
  · rw [hpre] at h'; cases h'

end Ideal

end AcVerif.StdP
