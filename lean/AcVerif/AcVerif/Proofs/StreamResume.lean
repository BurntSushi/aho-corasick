import AcVerif.Proofs.StreamInv
/-!
# Stream search: pulling on after a transient read error – the reader's call counter

Purely structural (no invariant): what a `readT` / `fillT` / `nextT` call does to the reader's
call counter relative to the failing call index.  Either every `read` call made succeeded
(`Adv`), or the last one made was the failing one (`Failed`), which is what an error result
means.  The fault is one-shot: `Spent rd` (the call index `failAt` is behind us) is established
by the failing call and kept by every other call.
-/
namespace AcVerif.StreamP
open AcVerif
variable {σ α : Type}

/-- the failing call index (if any) is behind us -/
def Spent (rd : Reader α) : Prop := ∀ k, rd.failAt = some k → k < rd.calls

theorem spent_of_none {rd : Reader α} (h : rd.failAt = none) : Spent rd := by
  intro k hk; rw [h] at hk; cases hk

/-- the fault `k` is still ahead -/
def Live (k : Nat) (rd : Reader α) : Prop := rd.failAt = some k ∧ rd.calls ≤ k

/-- `rd'` comes from `rd` by `read` calls none of which was the failing one -/
def Adv (rd rd' : Reader α) : Prop :=
  rd'.failAt = rd.failAt ∧ rd.calls ≤ rd'.calls ∧
    ∀ k, rd.failAt = some k → k < rd.calls ∨ rd'.calls ≤ k

/-- `rd'` comes from `rd` by `read` calls the last of which was the failing one -/
def Failed (rd rd' : Reader α) : Prop :=
  ∃ k, Live k rd ∧ rd'.failAt = some k ∧ rd'.calls = k + 1

theorem Adv.refl (rd : Reader α) : Adv rd rd :=
  ⟨rfl, Nat.le_refl _, fun _ _ => (Nat.lt_or_ge _ _)⟩

theorem Adv.trans {rd rd₁ rd₂ : Reader α} (h : Adv rd rd₁) (h' : Adv rd₁ rd₂) : Adv rd rd₂ := by
  refine ⟨h'.1.trans h.1, Nat.le_trans h.2.1 h'.2.1, fun k hk => ?_⟩
  have := h.2.2 k hk
  have := h'.2.2 k (h.1 ▸ hk)
  omega

theorem Adv.failed {rd rd₁ rd₂ : Reader α} (h : Adv rd rd₁) (h' : Failed rd₁ rd₂) :
    Failed rd rd₂ := by
  obtain ⟨k, ⟨h1, h2⟩, h3, h4⟩ := h'
  exact ⟨k, ⟨h.1 ▸ h1, Nat.le_trans h.2.1 h2⟩, h3, h4⟩

theorem Adv.spent {rd rd' : Reader α} (h : Adv rd rd') (hs : Spent rd) : Spent rd' := by
  intro k hk
  have := hs k (h.1 ▸ hk)
  have := h.2.1
  omega

theorem Adv.live {rd rd' : Reader α} {k : Nat} (h : Adv rd rd') (hl : Live k rd) : Live k rd' := by
  have := h.2.2 k hl.1
  exact ⟨h.1.trans hl.1, by have := hl.2; omega⟩

theorem Failed.spent {rd rd' : Reader α} (h : Failed rd rd') : ¬ Spent rd ∧ Spent rd' := by
  obtain ⟨k, ⟨h1, h2⟩, h3, h4⟩ := h
  refine ⟨fun hs => ?_, fun j hj => ?_⟩
  · have := hs k h1; omega
  · rw [h3] at hj; cases hj; omega

theorem readT_rdr (rd : Reader α) (room : Nat) :
    match rd.readT room with
    | .ok (_, rd') => Adv rd rd'
    | .error rd' => Failed rd rd' := by
  cases hc : (rd.failAt == some rd.calls) with
  | true =>
    rw [readT_err rd room hc]
    exact ⟨rd.calls, ⟨eq_of_beq hc, Nat.le_refl _⟩, eq_of_beq hc, rfl⟩
  | false =>
    rw [readT_ok rd room hc]
    refine ⟨rfl, Nat.le_succ _, fun k hk => ?_⟩
    have : k ≠ rd.calls := fun e => by rw [hk, e, beq_self_eq_true] at hc; cases hc
    show k < rd.calls ∨ rd.calls + 1 ≤ k
    omega

theorem fillT_rdr (fuel : Nat) (b : Buffer α) (rd : Reader α) (ra : Bool) :
    match b.fillT rd ra fuel with
    | .ok (_, _, rd') => Adv rd rd'
    | .error (_, rd') => Failed rd rd' := by
  induction fuel generalizing b rd ra with
  | zero => exact Adv.refl rd
  | succ fuel ih =>
    have hr := readT_rdr rd (b.cap - b.buf.length)
    rw [Buffer.fillT]
    generalize rd.readT (b.cap - b.buf.length) = rres at hr
    match rres, hr with
    | .error rd', hr => exact hr
    | .ok (bytes, rd'), hr =>
      simp only
      by_cases h0 : bytes.length = 0
      · rw [if_pos h0]; exact hr
      · rw [if_neg h0]
        by_cases hge : (b.buf ++ bytes).length ≥ b.min
        · rw [if_pos hge]; exact hr
        · rw [if_neg hge]
          have := ih { b with buf := b.buf ++ bytes } rd' true
          generalize Buffer.fillT { b with buf := b.buf ++ bytes } rd' true fuel = fres at this
          match fres, this with
          | .error _, this => exact hr.failed this
          | .ok _, this => exact hr.trans this

/-! ## one `nextT` call -/

theorem matchStep_ne (A : Aut σ α) (it it' : ChunkIter σ α) : matchStep A it ≠ (.ioErr, it') := by
  simp only [matchStep]
  split <;> (intro h; cases h)

theorem matchStep_rdr (A : Aut σ α) (it : ChunkIter σ α) : (matchStep A it).2.rdr = it.rdr := by
  simp only [matchStep]
  split <;> rfl

theorem eofStep_ne (it it' : ChunkIter σ α) : eofStep it ≠ (.ioErr, it') := by
  unfold eofStep
  split <;> (intro h; cases h)

theorem eofStep_rdr (it : ChunkIter σ α) : (eofStep it).2.rdr = it.rdr := by
  unfold eofStep
  split <;> rfl

theorem rollStep_rdr (it : ChunkIter σ α) : (rollStep it).rdr = it.rdr := by
  unfold rollStep
  split <;> rfl

/-- what a `nextT` call has done to the reader `rd` it started with: an error item means that
the failing call was made -/
def RdrPost (rd : Reader α) : NextResult σ α × ChunkIter σ α → Prop
  | (.ioErr, it') => Failed rd it'.rdr
  | (_, it') => Adv rd it'.rdr

theorem rdrPost_of_adv {rd : Reader α} {res : NextResult σ α × ChunkIter σ α}
    (hne : ∀ it', res ≠ (.ioErr, it')) (h : Adv rd res.2.rdr) : RdrPost rd res := by
  match res, hne, h with
  | (.done, _), _, h => exact h
  | (.ioErr, it'), hne, _ => exact absurd rfl (hne it')
  | (.chunk _, _), _, h => exact h

theorem nextT_rdr (A : Aut σ α) (fuel : Nat) (it : ChunkIter σ α) :
    RdrPost it.rdr (ChunkIter.nextT A it fuel) := by
  -- stated for any reader `rd` that has advanced to `it.rdr`, so that the loop can go round
  suffices ∀ rd, Adv rd it.rdr → RdrPost rd (ChunkIter.nextT A it fuel) from this _ (Adv.refl _)
  induction fuel generalizing it with
  | zero => exact fun rd h => h
  | succ fuel ih =>
    intro rd h
    rw [nextT_succ]
    unfold nextBody
    split
    · exact rdrPost_of_adv (matchStep_ne A it) ((matchStep_rdr A it).symm ▸ h)
    · split
      · split
        · exact h
        · have h' : Adv rd (rollStep it).rdr := (rollStep_rdr it).symm ▸ h
          have hf := fillT_rdr ((rollStep it).rdr.data.length - (rollStep it).rdr.pos + 1)
            (rollStep it).buf (rollStep it).rdr false
          dsimp only
          generalize (rollStep it).buf.fillT (rollStep it).rdr false _ = fres at hf ⊢
          match fres, hf with
          | .error e, hf => exact h'.failed hf
          | .ok (false, b, r), hf =>
            exact rdrPost_of_adv (eofStep_ne _) ((eofStep_rdr _).symm ▸ h'.trans hf)
          | .ok (true, b, r), hf => exact ih _ rd (h'.trans hf)
      · exact ih _ rd h

end AcVerif.StreamP
