import AcVerif.Proofs.ListArray
/-!
# Folding `min` / `max` over a list of lengths

Both are instances of folding an operation that returns one of its arguments
(`List.foldl_pick_mem`) and whose result lies below both of them in some preorder
(`List.foldl_below`).

`MiscP`: lemmas that belong neither to an automaton construction nor to a search loop's
correctness proof: these folds, ASCII case folding (`FoldFacts`), searching through `Aut.comap`
(`Comap`), the specification's iterator (`IterFacts`), the splice loop of `try_replace_all*`
(`Splice`).
-/
namespace AcVerif.MiscP

theorem foldl_min_le (l : List Nat) (a : Nat) : ∀ x ∈ l, l.foldl min a ≤ x :=
  (List.foldl_below Nat.le_refl Nat.le_trans Nat.min_le_left Nat.min_le_right l a).2

theorem foldl_min_mem (l : List Nat) (a : Nat) : l.foldl min a = a ∨ l.foldl min a ∈ l :=
  List.foldl_pick_mem (fun a b => (Nat.le_total a b).imp Nat.min_eq_left Nat.min_eq_right) l a

/-! the minimum pattern length `(P.map List.length).foldl min a` of the automaton records and the
packed searchers (`a = usize::MAX`) -/

theorem minLen_le {α : Type} (P : List (List α)) (a : Nat) {p : List α} (hp : p ∈ P) :
    (P.map List.length).foldl min a ≤ p.length :=
  foldl_min_le _ _ _ (List.mem_map_of_mem hp)

theorem minLen_eq_zero_iff {α : Type} (P : List (List α)) {a : Nat} (ha : 0 < a) :
    (P.map List.length).foldl min a = 0 ↔ [] ∈ P := by
  constructor
  · intro h
    rcases foldl_min_mem (P.map List.length) a with h' | h'
    · omega
    · obtain ⟨p, hp, hl⟩ := List.mem_map.1 (h ▸ h')
      exact List.length_eq_zero_iff.1 hl ▸ hp
  · exact fun h => Nat.le_zero.1 (minLen_le P a h)

theorem minLen_pos {α : Type} (P : List (List α)) {a : Nat} (ha : 0 < a)
    (hne : ∀ p ∈ P, p ≠ []) : 0 < (P.map List.length).foldl min a :=
  Nat.pos_of_ne_zero fun h => hne _ ((minLen_eq_zero_iff P ha).1 h) rfl

theorem le_foldl_max (l : List Nat) (a : Nat) : ∀ x ∈ l, x ≤ l.foldl max a :=
  (List.foldl_below (R := fun a b => b ≤ a) Nat.le_refl (fun h1 h2 => Nat.le_trans h2 h1)
    Nat.le_max_left Nat.le_max_right l a).2

theorem foldl_max_mem (l : List Nat) (a : Nat) : l.foldl max a = a ∨ l.foldl max a ∈ l :=
  List.foldl_pick_mem (fun a b => (Nat.le_total b a).imp Nat.max_eq_left Nat.max_eq_right) l a

end AcVerif.MiscP
