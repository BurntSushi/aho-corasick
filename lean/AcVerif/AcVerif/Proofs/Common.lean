import AcVerif.Basic
/-!
# Vocabulary shared by the property theorems

One definition: `supportsAnch sk anch`, the automaton built with `StartKind` `sk` has a start state
for the mode `anch` (`Anchored::Yes` / `Anchored::No`).  It is the hypothesis under which the
search theorems speak of a result at all; that it is exactly the condition the crate's
`enforce_anchored_consistency` tests is `Top_gate` in `Theorems/TopLevel.lean`.
-/
namespace AcVerif

def supportsAnch (sk : StartKind) (anch : Bool) : Prop :=
  sk = .both ∨ (sk = .unanchored ∧ anch = false) ∨ (sk = .anchored ∧ anch = true)

end AcVerif
