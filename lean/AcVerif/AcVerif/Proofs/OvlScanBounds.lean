import AcVerif.Proofs.PreScanBounds
import AcVerif.Proofs.Transfer
/-!
# C19: the prefilter work of one call of the stepwise overlapping search

`ovlScanLoop` (AcVerif/PreScan.lean) is `ovlLoop` accumulating the extents of its prefilter
calls.  `ovlLoop` stops at the first match it may report, as `findLoop` does for an earliest
search, so `ovlScanLoop` is `scanLoop` for an earliest search (`ovlScanLoop_eq_scanLoop`) and
the bounds of `Proofs/PreScanBounds.lean` apply to it.  Unlike `findScan` there is no initial
call outside the loop: a confirming prefilter is consulted *inside* the loop, so for an arbitrary
automaton record the `L`-slack is really there (`Theorems/C19OvlScan.lean`).

The extents depend on an automaton only through `is_special` / `is_dead` / `is_match` and the
match lists (as `ovlLoop` does, `Proofs/Transfer.lean`), so observationally equivalent records
report the same extents (`scanLoop_transfer`, `tryOvlScan_transfer`, `ovlCallsScan_transfer`).
-/
namespace AcVerif
variable {σ α : Type}

/-- the side condition on the overlapping state: a state that has been through the loop
(`id ≠ none`) holds a position inside or after the span start.  True of `OState.start` and
preserved by every call (`ScanP.OvlReach.step`). -/
def OvlReach (i : Input α) (st : OState σ) : Prop := st.id = Option.none ∨ i.s ≤ st.at_

namespace ScanP

theorem ovlScanLoop_eq_scanLoop (A : Aut σ α) (hay : List α) (s e : Nat) (he : e ≤ hay.length)
    (pre : Option (Prefilter α)) (anch : Bool) (sid : σ) (at_ acc : Nat) :
    ovlScanLoop A hay s e he pre anch sid at_ acc =
      scanLoop A hay s e he pre anch true sid at_ acc :=
  (ovlScanLoop_eq_sweep ..).trans (scanLoop_eq_sweep ..).symm

/-- `tryOvlScan` case by case: whatever branch is taken, the call is either free or one run of
the loop from `i.s`, `st.at_ + 1` or `st.at_` (none of them before the span start) with an empty
accumulator, and without prefilter when the search is anchored -/
theorem tryOvlScan_le_of (A : Aut σ α) (pre : Option (Prefilter α)) (i : Input α) (st : OState σ)
    (hr : OvlReach i st) (B : Nat)
    (h : i.s ≤ i.e → A.kind = .std → ∀ sid at_, i.s ≤ at_ →
      scanLoop A i.hay i.s i.e i.valid.1 (if i.anch then Option.none else pre) i.anch true
        sid at_ 0 ≤ B) :
    tryOvlScan A pre i st ≤ B := by
  unfold tryOvlScan
  by_cases hk : (A.kind != .std) = true
  · rw [if_pos hk]; exact Nat.zero_le _
  rw [if_neg hk]
  by_cases hd : i.isDone = true
  · rw [if_pos hd]; exact Nat.zero_le _
  rw [if_neg hd]
  have hk : A.kind = .std := by
    cases hk' : A.kind <;> simp [hk'] at hk ⊢
  have hse : i.s ≤ i.e := by
    simp only [Input.isDone, decide_eq_true_eq] at hd
    omega
  have h := fun sid at_ hat =>
    Nat.le_trans
      (Nat.le_of_eq (ovlScanLoop_eq_scanLoop A i.hay i.s i.e i.valid.1 _ i.anch sid at_ 0))
      (h hse hk sid at_ hat)
  dsimp only
  cases hid : st.id with
  | none =>
    dsimp only
    cases A.start i.anch with
    | none => exact Nat.zero_le _
    | some sid =>
      dsimp only
      split
      · exact Nat.zero_le _
      · exact h _ _ (Nat.le_refl _)
  | some sid =>
    have hat : i.s ≤ st.at_ := hr.resolve_left (by rw [hid]; exact Option.some_ne_none sid)
    dsimp only
    cases st.nextIdx with
    | none => exact h _ _ hat
    | some idx =>
      dsimp only
      split
      · exact Nat.zero_le _
      · exact h _ _ (Nat.le_succ_of_le hat)

/-! ## the states a call history goes through -/

theorem OvlReach.start (i : Input α) : OvlReach i (OState.start : OState σ) := Or.inl rfl

theorem OvlReach.clearMat {i : Input α} {st : OState σ} (h : OvlReach i st) :
    OvlReach i { st with mat := Option.none } := h

section
variable (A : Aut σ α) (pre : Option (Prefilter α)) (i : Input α)

theorem ovlImp_reach (st st' : OState σ) (hr : OvlReach i st)
    (h : ovlImp A i pre st = .ok st') : OvlReach i st' := by
  have loop : ∀ sid at_, i.s ≤ at_ →
      OvlReach i (ovlLoop A i.hay i.s i.e i.valid.1 pre i.anch sid at_) := fun sid at_ hat =>
    Or.inr (Nat.le_trans hat (ovlLoop_at_ge A i.hay i.s i.e i.valid.1 pre i.anch sid at_))
  unfold ovlImp at h
  split at h
  · rename_i hid
    split at h
    · cases h
    · dsimp only at h
      split at h
      · cases h; exact Or.inl hid
      · cases h; exact loop _ _ (Nat.le_refl _)
  · rename_i sid hid
    have hat : i.s ≤ st.at_ := hr.resolve_left (by rw [hid]; exact Option.some_ne_none sid)
    split at h
    · dsimp only at h
      split at h
      · cases h; exact Or.inr hat
      · cases h; exact loop _ _ (Nat.le_succ_of_le hat)
    · cases h; exact loop _ _ hat

theorem OvlReach.step (st st' : OState σ) (hr : OvlReach i st)
    (h : tryFindOverlappingFwd A pre i st = .ok st') : OvlReach i st' := by
  unfold tryFindOverlappingFwd at h
  dsimp only at h
  by_cases hk : (A.kind != .std) = true
  · rw [if_pos hk] at h; cases h
  rw [if_neg hk] at h
  by_cases hd : i.isDone = true
  · rw [if_pos hd] at h
    cases hs : A.start i.anch <;> rw [hs] at h <;> cases h
    exact hr
  rw [if_neg hd] at h
  by_cases ha : i.anch = true
  · rw [if_pos ha] at h; exact ovlImp_reach A _ i _ _ (OvlReach.clearMat hr) h
  · rw [if_neg ha] at h; exact ovlImp_reach A _ i _ _ (OvlReach.clearMat hr) h

theorem ovlCallsScan_forall_le (B : Nat)
    (hcall : ∀ st : OState σ, OvlReach i st → tryOvlScan A pre i st ≤ B) :
    ∀ (n : Nat) (st : OState σ), OvlReach i st → ∀ x ∈ ovlCallsScan A pre i n st, x ≤ B := by
  intro n
  induction n with
  | zero => intro st _ x hx; cases hx
  | succ n ih =>
    intro st hr x hx
    unfold ovlCallsScan at hx
    split at hx
    · cases hx
    · rename_i st' hst
      rcases List.mem_cons.1 hx with rfl | hx
      · exact hcall _ (OvlReach.clearMat hr)
      · exact ih st' (OvlReach.step A pre i st st' hr hst) x hx

end
end ScanP
end AcVerif

namespace AcVerif
namespace ScanP
open AcVerif.EngP
variable {σ τ α : Type}

theorem scanLoop_transfer (A : Aut σ α) (B : Aut τ α) (hl : ∀ pid, A.patLen pid = B.patLen pid)
    (hay : List α) (s e : Nat) (he : e ≤ hay.length) (pre : Option (Prefilter α)) {first : Bool}
    (anch earliest : Bool) (a : σ) (b : τ) (at_ acc : Nat) (hab : ObsEquiv A B first anch a b) :
    scanLoop A hay s e he pre anch earliest a at_ acc =
      scanLoop B hay s e he pre anch earliest b at_ acc := by
  rw [scanLoop_eq_sweep, scanLoop_eq_sweep]
  exact (sweep_transfer hl (fun acc _ at_ => scanUpd e at_ acc) hab rfl rfl).2.2.1

theorem tryOvlScan_transfer (A : Aut σ α) (B : Aut τ α) (pre : Option (Prefilter α)) (i : Input α)
    (hk : A.kind = B.kind) (hl : ∀ pid, A.patLen pid = B.patLen pid)
    (h : StartEquiv A B false i.anch) (x : OState σ) (y : OState τ) (hxy : ORel A B i.anch x y) :
    tryOvlScan A pre i x = tryOvlScan B pre i y := by
  obtain ⟨xm, xi, xa, xn⟩ := x
  obtain ⟨ym, yi, ya, yn⟩ := y
  obtain ⟨h1, h2, h3, h4⟩ := hxy
  simp only at h1 h2 h3 h4
  subst h1 h2 h3
  unfold tryOvlScan
  simp only [hk, ovlScanLoop_eq_scanLoop]
  refine ite_congr rfl (fun _ => rfl) fun _ => ite_congr rfl (fun _ => rfl) fun _ => ?_
  cases xi <;> cases yi <;> simp only at h4
  · dsimp only
    rcases h.cases with ⟨hA, hB⟩ | ⟨a, b, hA, hB, h⟩ <;> rw [hA, hB]
    dsimp only
    rw [h.isMatch, h.mpats]
    exact ite_congr rfl (fun _ => rfl) fun _ => scanLoop_transfer A B hl _ _ _ _ _ _ _ _ _ _ _ h
  · rename_i a b
    dsimp only
    cases xn
    · exact scanLoop_transfer A B hl _ _ _ _ _ _ _ _ _ _ _ h4
    · dsimp only
      rw [h4.mpats, getMatch_transfer hl h4]
      exact ite_congr rfl (fun _ => rfl) fun _ => scanLoop_transfer A B hl _ _ _ _ _ _ _ _ _ _ _ h4

theorem ovlCallsScan_transfer (A : Aut σ α) (B : Aut τ α) (pre : Option (Prefilter α))
    (i : Input α) (hk : A.kind = B.kind) (hl : ∀ pid, A.patLen pid = B.patLen pid)
    (h : StartEquiv A B false i.anch) (n : Nat) :
    ∀ (x : OState σ) (y : OState τ), ORel A B i.anch x y →
      ovlCallsScan A pre i n x = ovlCallsScan B pre i n y := by
  induction n with
  | zero => intro x y _; rfl
  | succ n ih =>
    intro x y hxy
    have hxy' : ORel A B i.anch { x with mat := Option.none } { y with mat := Option.none } :=
      ⟨rfl, hxy.2.1, hxy.2.2.1, hxy.2.2.2⟩
    rcases (tryFindOverlappingFwd_transfer A B pre i hk hl h x y hxy).cases with
      ⟨e, hA, hB⟩ | ⟨x', y', hA, hB, hr⟩ <;> simp only [ovlCallsScan, hA, hB]
    rw [tryOvlScan_transfer A B pre i hk hl h _ _ hxy', ih _ _ hr]

end ScanP
end AcVerif
