import AcVerif.Proofs.StreamResume
/-!
# Stream search: when is the transient fault reached?

Purely structural (no invariant): as long as the failing call index `k` has not
been reached, the faulty run and the fault-free run (`clrIt`: the same state
with `failAt := none`) proceed in lock step; the failing call is made by the
faulty run exactly when the fault-free run makes a call of index `k`.  Hence an
error item is present iff the fault-free run makes more than `k` read calls
(`drainT_err_iff`).
-/
namespace AcVerif.StreamP
open AcVerif
variable {σ α : Type}

/-- number of `read` calls made by a run pulled until `None` -/
def callsT (A : Aut σ α) : Nat → ChunkIter σ α → Nat
  | 0, it => it.rdr.calls
  | n + 1, it =>
    match ChunkIter.nextT A it (nextFuel it) with
    | (.done, it') => it'.rdr.calls
    | (.ioErr, it') => callsT A n it'
    | (.chunk _, it') => callsT A n it'

/-- number of `read` calls of the whole stream search -/
def streamCallsT (A : Aut σ α) (rdr : Reader α) (spare : Option Nat)
    (minFactor : Nat := 8) (defaultCap : Nat := 64 * 1024) : Except MatchErr Nat :=
  match ChunkIter.new A rdr spare minFactor defaultCap with
  | .error e => .error e
  | .ok it => .ok (callsT A (drainFuelT rdr.data) it)

/-- the same reader without the fault -/
abbrev clr (rd : Reader α) : Reader α := { rd with failAt := none }

abbrev clrIt (it : ChunkIter σ α) : ChunkIter σ α := { it with rdr := clr it.rdr }

/-! ## fault-free readers: calls only grow -/

theorem Adv.nf {rd rd' : Reader α} (h : Adv rd rd') (hn : rd.failAt = none) :
    rd'.failAt = none ∧ rd.calls ≤ rd'.calls :=
  ⟨h.1.trans hn, h.2.1⟩

theorem Failed.ne_none {rd rd' : Reader α} (h : Failed rd rd') : rd.failAt ≠ none := by
  obtain ⟨k, ⟨hk, _⟩, _⟩ := h
  rw [hk]
  exact fun e => nomatch e

theorem fillT_nf (fuel : Nat) (b : Buffer α) (rd : Reader α) (ra : Bool) (h : rd.failAt = none) :
    ∃ y, b.fillT rd ra fuel = .ok y ∧ y.2.2.failAt = none ∧ rd.calls ≤ y.2.2.calls := by
  have := fillT_rdr fuel b rd ra
  generalize b.fillT rd ra fuel = res at this
  match res, this with
  | .error _, hf => exact absurd h hf.ne_none
  | .ok y, ha => exact ⟨y, rfl, ha.nf h⟩

theorem nextT_nf (A : Aut σ α) (fuel : Nat) (it : ChunkIter σ α) (h : it.rdr.failAt = none) :
    (ChunkIter.nextT A it fuel).2.rdr.failAt = none ∧
      it.rdr.calls ≤ (ChunkIter.nextT A it fuel).2.rdr.calls := by
  have := nextT_rdr A fuel it
  generalize ChunkIter.nextT A it fuel = res at this
  match res, this with
  | (.ioErr, _), hf => exact absurd h hf.ne_none
  | (.done, _), ha => exact ha.nf h
  | (.chunk _, _), ha => exact ha.nf h

theorem callsT_ge (A : Aut σ α) (n : Nat) (it : ChunkIter σ α) (h : it.rdr.failAt = none) :
    it.rdr.calls ≤ callsT A n it := by
  induction n generalizing it with
  | zero => exact Nat.le_refl _
  | succ n ih =>
    have hn := nextT_nf A (nextFuel it) it h
    rw [callsT]
    generalize ChunkIter.nextT A it (nextFuel it) = res at hn
    match res, hn with
    | (.done, it'), hn => exact hn.2
    | (.ioErr, it'), hn => exact Nat.le_trans hn.2 (ih it' hn.1)
    | (.chunk _, it'), hn => exact Nat.le_trans hn.2 (ih it' hn.1)

/-! ## lock step until the fault -/

theorem readT_sim (k : Nat) (rd : Reader α) (room : Nat) (h : Live k rd) :
    match rd.readT room with
    | .ok (bytes, rd') => (clr rd).readT room = .ok (bytes, clr rd') ∧ Live k rd'
    | .error _ => ∃ x, (clr rd).readT room = .ok x ∧ x.2.failAt = none ∧ k < x.2.calls := by
  have e2 := readT_ok (clr rd) room rfl
  have ha := readT_rdr rd room
  cases hb : (rd.failAt == some rd.calls) with
  | true =>
    have e : rd.failAt = some rd.calls := eq_of_beq hb
    rw [h.1] at e
    cases e
    rw [readT_err rd room hb]
    exact ⟨_, e2, rfl, Nat.lt_succ_self _⟩
  | false =>
    rw [readT_ok rd room hb] at ha ⊢
    exact ⟨e2, ha.live h⟩

theorem fillT_sim (k : Nat) (fuel : Nat) (b : Buffer α) (rd : Reader α) (ra : Bool)
    (h : Live k rd) :
    match b.fillT rd ra fuel with
    | .ok (ra', b', rd') => b.fillT (clr rd) ra fuel = .ok (ra', b', clr rd') ∧ Live k rd'
    | .error _ =>
      ∃ y, b.fillT (clr rd) ra fuel = .ok y ∧ y.2.2.failAt = none ∧ k < y.2.2.calls := by
  induction fuel generalizing b rd ra with
  | zero => exact ⟨rfl, h⟩
  | succ fuel ih =>
    have hs := readT_sim k rd (b.cap - b.buf.length) h
    rw [Buffer.fillT, Buffer.fillT]
    generalize rd.readT (b.cap - b.buf.length) = rres at hs
    match rres, hs with
    | .error rd', hs =>
      obtain ⟨x, hx, h1, h2⟩ := hs
      obtain ⟨bytes, r2⟩ := x
      rw [hx]
      simp only
      split
      · exact ⟨_, rfl, h1, h2⟩
      · split
        · exact ⟨_, rfl, h1, h2⟩
        · obtain ⟨y, hy, g1, g2⟩ := fillT_nf fuel { b with buf := b.buf ++ bytes } r2 true h1
          have h2' : k < r2.calls := h2
          exact ⟨y, hy, g1, by omega⟩
    | .ok (bytes, rd'), hs =>
      obtain ⟨hx, hl⟩ := hs
      rw [hx]
      simp only
      by_cases h0 : bytes.length = 0
      · simp only [if_pos h0]
        exact ⟨trivial, hl⟩
      · simp only [if_neg h0]
        by_cases hge : (b.buf ++ bytes).length ≥ b.min
        · simp only [if_pos hge]
          exact ⟨trivial, hl⟩
        · simp only [if_neg hge]
          exact ih { b with buf := b.buf ++ bytes } rd' true hl

theorem matchStep_clr (A : Aut σ α) (it : ChunkIter σ α) :
    matchStep A (clrIt it) = ((matchStep A it).1, clrIt (matchStep A it).2) := by
  simp only [matchStep]
  split <;> rfl

theorem preRollStep_clr (it : ChunkIter σ α) :
    preRollStep (clrIt it) = ((preRollStep it).1, clrIt (preRollStep it).2) := rfl

theorem rollStep_clr (it : ChunkIter σ α) : rollStep (clrIt it) = clrIt (rollStep it) := by
  simp only [rollStep]
  split <;> rfl

theorem eofStep_upd (it : ChunkIter σ α) (b : Buffer α) (rd : Reader α) :
    eofStep { clrIt it with buf := b, rdr := clr rd } =
      ((eofStep { it with buf := b, rdr := rd }).1,
        clrIt (eofStep { it with buf := b, rdr := rd }).2) := by
  simp only [eofStep]
  split <;> rfl

theorem scanStep_clr (A : Aut σ α) (it : ChunkIter σ α) :
    scanStep A (clrIt it) = clrIt (scanStep A it) := rfl

/-- relation between the result of a faulty `nextT` call (first argument) and
that of the fault-free one from the same state -/
def SimPost (k : Nat) :
    NextResult σ α × ChunkIter σ α → NextResult σ α × ChunkIter σ α → Prop
  | (.ioErr, _), q => q.2.rdr.failAt = none ∧ k < q.2.rdr.calls
  | (.done, it'), q => q = (.done, clrIt it') ∧ Live k it'.rdr
  | (.chunk c, it'), q => q = (.chunk c, clrIt it') ∧ Live k it'.rdr

theorem simPost_of_eq {k : Nat} {p q : NextResult σ α × ChunkIter σ α}
    (hne : ∀ it', p ≠ (.ioErr, it')) (hq : q = (p.1, clrIt p.2)) (hl : Live k p.2.rdr) :
    SimPost k p q := by
  match p, hne, hq, hl with
  | (.done, it'), _, hq, hl => exact ⟨hq, hl⟩
  | (.ioErr, it'), hne, _, _ => exact absurd rfl (hne it')
  | (.chunk c, it'), _, hq, hl => exact ⟨hq, hl⟩

theorem nextT_sim (A : Aut σ α) (k : Nat) (fuel : Nat) (it : ChunkIter σ α)
    (h : Live k it.rdr) :
    SimPost k (ChunkIter.nextT A it fuel) (ChunkIter.nextT A (clrIt it) fuel) := by
  induction fuel generalizing it with
  | zero => exact ⟨rfl, h⟩
  | succ fuel ih =>
    rw [nextT_succ, nextT_succ]
    unfold nextBody
    rw [rollStep_clr]
    dsimp only
    split
    · refine simPost_of_eq (matchStep_ne A it) (matchStep_clr A it) ?_
      rw [matchStep_rdr]; exact h
    · split
      · split
        · exact simPost_of_eq (fun it' h => by cases h) (preRollStep_clr it) h
        · have hs := fillT_sim k ((rollStep it).rdr.data.length - (rollStep it).rdr.pos + 1)
            (rollStep it).buf (rollStep it).rdr false ((rollStep_rdr it).symm ▸ h)
          generalize (rollStep it).buf.fillT (rollStep it).rdr false _ = fres at hs ⊢
          match fres, hs with
          | .error e, ⟨y, hy, g1, g2⟩ =>
            rw [hy]
            match y, g1, g2 with
            | (false, b2, r2), g1, g2 =>
              show (eofStep _).2.rdr.failAt = none ∧ k < (eofStep _).2.rdr.calls
              rw [eofStep_rdr]
              exact ⟨g1, g2⟩
            | (true, b2, r2), g1, g2 =>
              have := nextT_nf A fuel
                (scanStep A { clrIt (rollStep it) with buf := b2, rdr := r2 }) g1
              exact ⟨this.1, Nat.lt_of_lt_of_le g2 this.2⟩
          | .ok (false, b', rd'), ⟨hy, hl⟩ =>
            rw [hy]
            refine simPost_of_eq (eofStep_ne _) (eofStep_upd _ b' rd') ?_
            rw [eofStep_rdr]; exact hl
          | .ok (true, b', rd'), ⟨hy, hl⟩ =>
            rw [hy]
            exact ih (scanStep A { rollStep it with buf := b', rdr := rd' }) hl
      · exact ih (scanStep A it) h

theorem drainT_err_iff (A : Aut σ α) (k : Nat) (n : Nat) (it : ChunkIter σ α)
    (h : Live k it.rdr) :
    1 ≤ ((ChunkIter.drainT A n it).1.filter Option.isNone).length ↔
      k < callsT A n (clrIt it) := by
  induction n generalizing it with
  | zero =>
    have := h.2
    show 1 ≤ 0 ↔ k < it.rdr.calls
    omega
  | succ n ih =>
    have hs := nextT_sim A k (nextFuel it) it h
    rw [ChunkIter.drainT, callsT]
    have hf : nextFuel (clrIt it) = nextFuel it := rfl
    rw [hf]
    generalize ChunkIter.nextT A it (nextFuel it) = p at hs
    generalize ChunkIter.nextT A (clrIt it) (nextFuel it) = q at hs
    match p, hs with
    | (.ioErr, it'), hs =>
      obtain ⟨g1, g2⟩ := hs
      have hl : 1 ≤ ((none :: (ChunkIter.drainT A n it').1).filter Option.isNone).length := by
        rw [List.filter_cons_of_pos rfl, List.length_cons]; omega
      refine ⟨fun _ => ?_, fun _ => hl⟩
      match q, g1, g2 with
      | (.done, it2), g1, g2 => exact g2
      | (.ioErr, it2), g1, g2 => exact Nat.lt_of_lt_of_le g2 (callsT_ge A n it2 g1)
      | (.chunk _, it2), g1, g2 => exact Nat.lt_of_lt_of_le g2 (callsT_ge A n it2 g1)
    | (.done, it'), hs =>
      obtain ⟨hq, hl⟩ := hs
      subst hq
      have := hl.2
      show 1 ≤ 0 ↔ k < it'.rdr.calls
      omega
    | (.chunk c, it'), hs =>
      obtain ⟨hq, hl⟩ := hs
      subst hq
      have := ih it' hl
      show 1 ≤ ((some c :: (ChunkIter.drainT A n it').1).filter Option.isNone).length ↔ _
      rw [List.filter_cons_of_neg (by simp)]
      exact this

end AcVerif.StreamP
