import AcVerif.Proofs.EngSpan
import AcVerif.Proofs.Struct
/-!
# Leftmost semantics: the search loop on the ideal leftmost automaton

`findQ` is `findS` specialised to the ideal leftmost automaton over a kept set `Q`.  Its
loop invariant is `BestIn`: the recorded match is the leftmost-longest kept occurrence in the
text consumed so far.  `findQ_inv` proves it for both anchoring modes from what one step does
(`StepOK`); this file supplies the unanchored steps, `LeftmostAnch` the anchored ones.
-/
namespace AcVerif.LmP
open AcVerif
set_option linter.unusedSectionVars false
variable {α : Type} [DecidableEq α] {Q : PatSet α}

/-- the transition of the ideal leftmost automaton out of the live state `.at u`, for either mode (`ideal_next`) -/
def stepQ (Q : PatSet α) (anch : Bool) (u : List α) (c : α) : St α :=
  if anch then stepAnch Q u c else stepLm Q u c

/-- the match reported on entering the node `u` at position `at_`: its listed pattern, unless
the anchored filter drops it -/
def report (Q : PatSet α) (plen : Nat → Nat) (s : Nat) (anch : Bool) (u : List α) (at_ : Nat) :
    Option Mat :=
  match outLm Q u with
  | [] => none
  | pid :: _ =>
    if !(anch && decide (at_ - plen pid > s)) then some ⟨pid, at_ - plen pid, at_⟩ else none

/-- `findS` on the ideal leftmost automaton, live state `.at u` -/
def findQ (Q : PatSet α) (plen : Nat → Nat) (s : Nat) (anch earliest : Bool) :
    List α → Nat → Option Mat → List α → Option Mat
  | _, _, mat, [] => mat
  | u, at_, mat, c :: rest =>
    match stepQ Q anch u c with
    | .dead => mat
    | .at u' =>
      match report Q plen s anch u' (at_ + 1) with
      | none => findQ Q plen s anch earliest u' (at_ + 1) mat rest
      | some m =>
        if earliest then some m else findQ Q plen s anch earliest u' (at_ + 1) (some m) rest

theorem ideal_next (k : MatchKind) (hk : k = .ll ∨ k = .lf) (P : List (List α)) (sk : StartKind)
    (anch : Bool) (u : List α) (c : α) :
    (ideal k P sk false).next anch (.at u) c = stepQ (patSet k P) anch u c := by
  rcases hk with rfl | rfl <;> rfl

theorem ideal_mpats (k : MatchKind) (hk : k = .ll ∨ k = .lf) (P : List (List α)) (sk : StartKind)
    (u : List α) : (ideal k P sk false).mpats (.at u) = outLm (patSet k P) u := by
  rcases hk with rfl | rfl <;> rfl

theorem ideal_isMatch (k : MatchKind) (hk : k = .ll ∨ k = .lf) (P : List (List α))
    (sk : StartKind) (u : List α) :
    (ideal k P sk false).isMatch (.at u) = !(outLm (patSet k P) u).isEmpty := by
  rcases hk with rfl | rfl <;> rfl

theorem ideal_isSpecial (k : MatchKind) (hk : k = .ll ∨ k = .lf) (P : List (List α))
    (sk : StartKind) (u : List α) :
    (ideal k P sk false).isSpecial (.at u) = !(outLm (patSet k P) u).isEmpty := by
  rcases hk with rfl | rfl <;> exact Bool.or_false _

theorem findS_ideal_eq (k : MatchKind) (hk : k = .ll ∨ k = .lf) (P : List (List α))
    (sk : StartKind) (s : Nat) (anch earliest : Bool) (rest : List α) :
    ∀ (u : List α) (at_ : Nat) (mat : Option Mat),
    findS (ideal k P sk false) s anch earliest (.at u) at_ mat rest =
      findQ (patSet k P) (fun pid => (P.getD pid []).length) s anch earliest u at_ mat rest := by
  induction rest with
  | nil => intros; rfl
  | cons c rest ih =>
    intro u at_ mat
    simp only [findS, findQ, ideal_next k hk]
    cases stepQ (patSet k P) anch u c with
    | dead => rfl
    | «at» u' =>
      have hd : (ideal k P sk false).isDead (.at u') = false := rfl
      have hpl : (ideal k P sk false).patLen = fun pid => (P.getD pid []).length := rfl
      simp only [ideal_isSpecial k hk, ideal_isMatch k hk, hd, getMatch, ideal_mpats k hk, hpl, ih,
        report]
      cases outLm (patSet k P) u' with
      | nil => rfl
      | cons pid t =>
        simp only [List.getD_cons_zero]
        cases (!(anch && decide (at_ + 1 - (P.getD pid []).length > s))) <;> rfl

/-! ## Best occurrence so far -/

/-- occurrence `(q, st)` is at least as good as `(q', st')`: earlier start, then longer pattern, then smaller `q.2` -/
def prefLL (q : List α × Nat) (st : Nat) (q' : List α × Nat) (st' : Nat) : Prop :=
  st < st' ∨ (st = st' ∧ (q'.1.length < q.1.length ∨ (q.1.length = q'.1.length ∧ q.2 ≤ q'.2)))

/-- `mat` is the `prefLL`-best admissible occurrence in `w` (`none` if there is none);
anchored searches only admit offset `0` -/
def BestIn (Q : PatSet α) (s : Nat) (anch : Bool) (w : List α) : Option Mat → Prop
  | none => ∀ q st, (anch = true → st = 0) → ¬ OccIn Q w q st
  | some m => ∃ q st, (anch = true → st = 0) ∧ OccIn Q w q st ∧ m = matOf s q st ∧
      ∀ q' st', (anch = true → st' = 0) → OccIn Q w q' st' → prefLL q st q' st'

/-- the half of `BestIn` that survives extending the text (`OccOrNone.append`): a reported match is an admissible occurrence -/
def OccOrNone (Q : PatSet α) (s : Nat) (anch : Bool) (w : List α) (r : Option Mat) : Prop :=
  ∀ m, r = some m → ∃ q st, (anch = true → st = 0) ∧ OccIn Q w q st ∧ m = matOf s q st

theorem BestIn.occOrNone {s : Nat} {anch : Bool} {w : List α} {r : Option Mat}
    (h : BestIn Q s anch w r) : OccOrNone Q s anch w r := by
  intro m hm
  subst hm
  obtain ⟨q, st, h1, h2, h3, _⟩ := h
  exact ⟨q, st, h1, h2, h3⟩

theorem OccOrNone.append {Q : PatSet α} {s : Nat} {anch : Bool} {w : List α} {r : Option Mat}
    (h : OccOrNone Q s anch w r) (t : List α) : OccOrNone Q s anch (w ++ t) r := by
  intro m hm
  obtain ⟨q, st, h1, h2, h3⟩ := h m hm
  exact ⟨q, st, h1, h2.append t, h3⟩

/-- every occurrence in `w` lies inside the window of the current node `lsp Q w` -/
def Cover (Q : PatSet α) (w : List α) : Prop :=
  ∀ q st, OccIn Q w q st → w.length - (lsp Q w).length ≤ st

theorem cover_nil (Q : PatSet α) : Cover Q [] := by
  intro q st _; simp [lsp]

theorem OccIn.old_or_new {w : List α} {c : α} {q : List α × Nat} {st : Nat}
    (h : OccIn Q (w ++ [c]) q st) : OccIn Q w q st ∨ (w ++ [c]).length ≤ st + q.1.length := by
  by_cases hl : st + q.1.length ≤ w.length
  · exact Or.inl (h.of_append hl)
  · right; simp only [List.length_append, List.length_singleton]; omega

theorem BestIn.mono {s : Nat} {anch : Bool} {w t : List α} {mat : Option Mat}
    (hb : BestIn Q s anch w mat)
    (key : ∀ q st, (anch = true → st = 0) → OccIn Q (w ++ t) q st → OccIn Q w q st ∨
      ∃ q0 st0, (anch = true → st0 = 0) ∧ OccIn Q w q0 st0 ∧ st0 < st) :
    BestIn Q s anch (w ++ t) mat := by
  cases mat with
  | none =>
    intro q st ha ho
    rcases key q st ha ho with h | ⟨q0, st0, ha0, ho0, _⟩
    · exact hb q st ha h
    · exact hb q0 st0 ha0 ho0
  | some m =>
    obtain ⟨q, st, ha, ho, hm, hbest⟩ := hb
    refine ⟨q, st, ha, ho.append t, hm, fun q' st' ha' ho' => ?_⟩
    rcases key q' st' ha' ho' with h | ⟨q0, st0, ha0, ho0, hlt⟩
    · exact hbest q' st' ha' h
    · have hle : st ≤ st0 := (hbest q0 st0 ha0 ho0).elim Nat.le_of_lt fun h => Nat.le_of_eq h.1
      exact Or.inl (Nat.lt_of_le_of_lt hle hlt)

theorem bestIn_of_end {s : Nat} {anch : Bool} {w : List α} {q : List α × Nat}
    {st : Nat} (ha : anch = true → st = 0) (ho : OccIn Q w q st)
    (hend : st + q.1.length = w.length) (hleast : ∀ q' ∈ Q, q'.1 = q.1 → q.2 ≤ q'.2)
    (hfirst : ∀ q' st', (anch = true → st' = 0) → OccIn Q w q' st' → st ≤ st') :
    BestIn Q s anch w (some (matOf s q st)) := by
  refine ⟨q, st, ha, ho, rfl, fun q' st' ha' ho' => ?_⟩
  rcases Nat.lt_or_eq_of_le (hfirst q' st' ha' ho') with hlt | rfl
  · exact Or.inl hlt
  · have hlen' := ho'.len_le
    refine Or.inr ⟨rfl, ?_⟩
    rcases Nat.lt_or_ge q'.1.length q.1.length with hlt2 | hge
    · exact Or.inl hlt2
    · have e1 := ho'.eq_drop (by omega)
      have e2 := ho.eq_drop (Nat.le_of_eq hend.symm)
      exact Or.inr ⟨by omega, hleast q' ho'.1 (e1.trans e2.symm)⟩

/-! ## The unanchored step: the node is `lsp Q w`, every occurrence lies in its window -/

theorem stepLm_cases (Q : PatSet α) (u : List α) (c : α) :
    (stepLm Q u c = .at (lsp Q (u ++ [c])) ∧
        blocked Q u (u.length + 1 - (lsp Q (u ++ [c])).length) = false) ∨
      (stepLm Q u c = .dead ∧
        blocked Q u (u.length + 1 - (lsp Q (u ++ [c])).length) = true) := by
  rw [stepLm_eq]
  cases blocked Q u (u.length + 1 - (lsp Q (u ++ [c])).length)
  · exact Or.inl ⟨rfl, rfl⟩
  · exact Or.inr ⟨rfl, rfl⟩

theorem stepLm_live {w : List α} {c : α} {u' : List α} (hc : Cover Q w)
    (h : stepLm Q (lsp Q w) c = .at u') : u' = lsp Q (w ++ [c]) ∧ Cover Q (w ++ [c]) := by
  rcases stepLm_cases Q (lsp Q w) c with ⟨h', hb⟩ | ⟨h', _⟩
  case inr => rw [h'] at h; cases h
  rw [h', ← lsp_step] at h
  rw [← lsp_step] at hb
  refine ⟨(St.at.inj h).symm, fun q st ho => ?_⟩
  rcases ho.old_or_new with h1 | h1
  · -- an occurrence inside `w` lies in the old window and is not cut off by the new one
    have h2 := hc q st h1
    have h3 := h1.unshift (lsp_suffix Q w) h2
    have := lsp_length_le Q w
    have hlt : ¬ (st - (w.length - (lsp Q w).length) <
        (lsp Q w).length + 1 - (lsp Q (w ++ [c])).length) :=
      fun hlt => blocked_eq_false hb _ hlt q h3.1 h3.2.2
    rw [List.length_append, List.length_singleton]; omega
  · exact ho.ge_of_end h1

theorem stepLm_dead {w : List α} {c : α}
    (h : stepLm Q (lsp Q w) c = .dead) :
    ∃ q0 st0, OccIn Q w q0 st0 ∧ st0 < w.length + 1 - (lsp Q (w ++ [c])).length := by
  rcases stepLm_cases Q (lsp Q w) c with ⟨h', _⟩ | ⟨_, hb⟩
  case inl => rw [h'] at h; cases h
  rw [← lsp_step] at hb
  obtain ⟨st0, hst0, q0, hq0, hp0⟩ := blocked_iff.1 hb
  have hl := lsp_length_le Q w
  have ho : OccIn Q (lsp Q w) q0 st0 := ⟨hq0, by omega, hp0⟩
  exact ⟨q0, _, ho.shift (lsp_suffix Q w), by omega⟩

/-! ## What an unanchored step does to the best occurrence -/

theorem best_dead {s : Nat} {w : List α} {c : α} {rest : List α} {mat : Option Mat}
    (hb : BestIn Q s false w mat)
    (hd : ∃ q0 st0, OccIn Q w q0 st0 ∧ st0 < w.length + 1 - (lsp Q (w ++ [c])).length) :
    BestIn Q s false (w ++ c :: rest) mat := by
  obtain ⟨q0, st0, ho0, hlt0⟩ := hd
  refine hb.mono fun q' st' _ ho' => ?_
  by_cases hl : st' + q'.1.length ≤ w.length
  · exact Or.inl (ho'.of_append hl)
  · -- an occurrence reaching beyond `w` starts inside the window of `lsp Q (w ++ [c])`
    refine Or.inr ⟨q0, st0, (fun h => nomatch h), ho0, ?_⟩
    by_cases hs : st' ≤ (w ++ [c]).length
    · rw [List.append_cons] at ho'
      have := ho'.ge_of_reach hs (by rw [List.length_append, List.length_singleton]; omega)
      rw [List.length_append, List.length_singleton] at this
      omega
    · rw [List.length_append, List.length_singleton] at hs
      omega

theorem no_new_of_outLm_nil {w : List α} (h : outLm Q (lsp Q w) = [])
    {q : List α × Nat} {st : Nat} (ho : OccIn Q w q st) (he : w.length ≤ st + q.1.length) :
    ∃ q0 st0, OccIn Q w q0 st0 ∧ st0 < st ∧ st0 + q0.1.length < w.length := by
  have hge := ho.ge_of_end he
  have hs := lsp_suffix Q w
  have hl := lsp_length_le Q w
  have hu := ho.unshift hs hge
  have hlen := ho.len_le
  have heq := hu.eq_drop (by omega)
  obtain ⟨st0, hst0, q0, hq0, hp0, hlt0⟩ := outLm_nil h _ hu.2.1 q ho.1 heq
  have ho0 : OccIn Q (lsp Q w) q0 st0 := ⟨hq0, by omega, hp0⟩
  exact ⟨q0, _, ho0.shift hs, by omega, by omega⟩

theorem best_keep {s : Nat} {w : List α} {c : α} {mat : Option Mat}
    (hb : BestIn Q s false w mat)
    (hn : ∀ q st, OccIn Q (w ++ [c]) q st → (w ++ [c]).length ≤ st + q.1.length →
      ∃ q0 st0, OccIn Q (w ++ [c]) q0 st0 ∧ st0 < st ∧ st0 + q0.1.length < (w ++ [c]).length) :
    BestIn Q s false (w ++ [c]) mat := by
  refine hb.mono fun q st _ ho => ?_
  rcases ho.old_or_new with h1 | h1
  · exact Or.inl h1
  · obtain ⟨q0, st0, ho0, hlt, hl0⟩ := hn q st ho h1
    rw [List.length_append, List.length_singleton] at hl0
    exact Or.inr ⟨q0, st0, (fun h => nomatch h), ho0.of_append (Nat.le_of_lt_succ hl0), hlt⟩

theorem best_new (hI : IdsInc Q) {s : Nat} {w : List α} (hc : Cover Q w)
    {pid : Nat} {t : List Nat} (h : outLm Q (lsp Q w) = pid :: t) :
    ∃ q ∈ Q, q.2 = pid ∧ q.1.length ≤ w.length ∧
      BestIn Q s false w (some (matOf s q (w.length - q.1.length))) := by
  obtain ⟨k, hk, q, hq, hqk, hqp, hleast, _, hnb⟩ := outLm_cons hI h
  have hs := lsp_suffix Q w
  have hl := lsp_length_le Q w
  have hql : q.1.length = (lsp Q w).length - k := by rw [hqk, List.length_drop]
  have ho : OccIn Q (lsp Q w) q k := ⟨hq, hk, by rw [hqk]; exact List.prefix_refl _⟩
  have ho' := ho.shift hs
  have hst : k + (w.length - (lsp Q w).length) = w.length - q.1.length := by omega
  rw [hst] at ho'
  have hle : q.1.length ≤ w.length := by omega
  refine ⟨q, hq, hqp, hle, bestIn_of_end (fun h => nomatch h) ho' (Nat.sub_add_cancel hle)
    (fun q' hq' he => hqp ▸ hleast q' hq' (he.trans hqk)) fun q' st' _ hoq' => ?_⟩
  -- an occurrence starting earlier would lie in the window of the node and block its output
  have h1 := hc q' st' hoq'
  have h2 := hoq'.unshift hs h1
  have h3 : ¬ (st' - (w.length - (lsp Q w).length) < k) := fun hlt =>
    blocked_eq_false hnb _ hlt q' h2.1 h2.2.2
  omega

/-! ## The loop invariant, for both anchoring modes

The unanchored and the anchored search run the same loop on different nodes (`lsp Q w`, resp.
`w` itself) with different side conditions (`Cover Q w`, resp. none).  `StepOK` says what the
invariant needs of one step; `findQ_inv` is the induction; each mode supplies its steps. -/

/-- the step from the node reached on `w` to `r` on reading `c` keeps `BestIn`: a dead end adds
no better occurrence, a silent or filtered node neither, a reported match is the new best -/
def StepOK (Q : PatSet α) (plen : Nat → Nat) (s : Nat) (anch : Bool) (w : List α) (c : α)
    (r : St α) (node' : List α) (Inv' : Prop) : Prop :=
  match r with
  | .dead => ∀ mat rest, BestIn Q s anch w mat → BestIn Q s anch (w ++ c :: rest) mat
  | .at u' => u' = node' ∧ Inv' ∧
    match report Q plen s anch u' (s + w.length + 1) with
    | none => ∀ mat, BestIn Q s anch w mat → BestIn Q s anch (w ++ [c]) mat
    | some m => BestIn Q s anch (w ++ [c]) (some m)

theorem findQ_inv {plen : Nat → Nat} {s : Nat} {anch : Bool} (node : List α → List α)
    (Inv : List α → Prop)
    (hstep : ∀ w c, Inv w →
      StepOK Q plen s anch w c (stepQ Q anch (node w) c) (node (w ++ [c])) (Inv (w ++ [c])))
    (earliest : Bool) (rest : List α) :
    ∀ (w : List α) (mat : Option Mat), Inv w → BestIn Q s anch w mat →
      OccOrNone Q s anch (w ++ rest)
        (findQ Q plen s anch earliest (node w) (s + w.length) mat rest) ∧
      (earliest = false → BestIn Q s anch (w ++ rest)
        (findQ Q plen s anch earliest (node w) (s + w.length) mat rest)) := by
  induction rest with
  | nil =>
    intro w mat _ hb
    rw [findQ, List.append_nil]
    exact ⟨hb.occOrNone, fun _ => hb⟩
  | cons c rest ih =>
    intro w mat hi hb
    have e1 : s + w.length + 1 = s + (w ++ [c]).length := by rw [List.length_append]; rfl
    have hs := hstep w c hi
    rw [findQ]
    cases hst : stepQ Q anch (node w) c with
    | dead =>
      rw [hst] at hs
      have := hs mat rest hb
      exact ⟨this.occOrNone, fun _ => this⟩
    | «at» u' =>
      rw [hst] at hs
      obtain ⟨rfl, hi', hs⟩ := hs
      have keep : ∀ hb' : BestIn Q s anch (w ++ [c]) mat, _ := fun hb' => ih _ mat hi' hb'
      rw [← e1, ← List.append_cons] at keep
      cases ho : report Q plen s anch (node (w ++ [c])) (s + w.length + 1) with
      | none => simp only [ho] at hs ⊢; exact keep (hs mat hb)
      | some m =>
        simp only [ho] at hs ⊢
        cases earliest with
        | true =>
          rw [if_pos rfl, List.append_cons]
          exact ⟨hs.occOrNone.append _, fun h => nomatch h⟩
        | false =>
          have := ih _ _ hi' hs
          rw [← e1, ← List.append_cons] at this
          exact this

/-! ## the unanchored steps -/

theorem stepOK_unanch (hI : IdsInc Q) {plen : Nat → Nat} (hpl : ∀ q ∈ Q, plen q.2 = q.1.length)
    (s : Nat) (w : List α) (c : α) (hc : Cover Q w) :
    StepOK Q plen s false w c (stepQ Q false (lsp Q w) c) (lsp Q (w ++ [c])) (Cover Q (w ++ [c])) := by
  unfold StepOK
  cases hst : stepQ Q false (lsp Q w) c with
  | dead => exact fun mat rest hb => best_dead hb (stepLm_dead hst)
  | «at» u' =>
    obtain ⟨rfl, hc'⟩ := stepLm_live hc hst
    refine ⟨rfl, hc', ?_⟩
    unfold report
    cases ho : outLm Q (lsp Q (w ++ [c])) with
    | nil =>
      exact fun mat hb => best_keep hb (fun q st hoq he => no_new_of_outLm_nil ho hoq he)
    | cons pid t =>
      obtain ⟨q, hq, hqp, hql, hbn⟩ := best_new (s := s) hI hc' ho
      have hm : (⟨pid, s + w.length + 1 - plen pid, s + w.length + 1⟩ : Mat) =
          matOf s q ((w ++ [c]).length - q.1.length) := by
        have := hpl q hq
        rw [hqp] at this
        simp only [List.length_append, List.length_singleton] at hql
        simp only [matOf, this, hqp, List.length_append, List.length_singleton, Mat.mk.injEq,
          true_and]
        omega
      simp only [Bool.false_and, Bool.not_false, if_true, hm]
      exact hbn

end AcVerif.LmP
