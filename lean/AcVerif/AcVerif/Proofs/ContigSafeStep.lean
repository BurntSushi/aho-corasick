import AcVerif.Proofs.ContigSafeDecode
import AcVerif.Proofs.ContigRun
/-!
# L1eSafe proofs: the checked `next_state` / match reads at the states of a set `V`

For `M = cBuild N dd bc hasPre` and a set `V` with `CLive`: the words of a state `s` of `V` lie
inside `repr` (`CLive.in_range`), so the checked lookups at `cNewId N dd bc s` read in range
(`CLive.found?`, `CLive.fail?`, `CLive.matchList?`); the checked loop `M.nextState?` mirrors
`CNfa.nextState` as long as that has fuel left (`CLive.nextState?`), which with `NLive` it has
(`contig_next?`); every state reached from a start state is such an id, so all of this holds after
any input (`contig_inbounds`).
-/
namespace AcVerif.L1eP
open AcVerif AcVerif.CNfa AcVerif.L1cP AcVerif.L1dP AcVerif.L1dIdsP AcVerif.L1cIdsP

section
variable {N : CNfa} {bc : Bool} {V : Nat → Prop} (hC : CLive N bc V) (dd : Nat) (hasPre : Bool)
include hC

theorem CLive.in_range {s : Nat} (hv : V s) :
    cNewId N dd bc s + (wOf N dd bc s).length ≤ (cRepr N dd bc).size := by
  have hS := hC.shuf
  have hs := hC.lt s hv
  have h1 := hC.ne1 s hv
  have hp1 := posOf_ne_one hS hs h1
  have hsz : (wOf N dd bc s).length = sizeAt N dd bc (posOf N s) := by
    unfold sizeAt wOf
    rw [show (posOf N s == FAIL) = false by simpa [FAIL] using hp1, cW_posOf hS dd bc (fun t => t) hs]
    exact writeState_length_congr _ _ _ _ _ _
  rw [cNewId_eq hS dd bc hs h1, cRepr_size, hsz]
  exact psum_succ_le (sizeAt N dd bc) (hS.pos_lt s hs)

theorem CLive.lt_size {s : Nat} (hv : V s) : cNewId N dd bc s + 1 < (cRepr N dd bc).size :=
  head_written (m := cBuild N dd bc false) (hC.in_range dd hv)

theorem CLive.found? {s : Nat} (hv : V s) (b : UInt8) :
    (cBuild N dd bc hasPre).found? (clsOf N bc b) (cNewId N dd bc s) =
      some (if follow N s b = FAIL then none else some (cNewId N dd bc (follow N s b))) := by
  rw [← hC.found dd hv b]
  exact found?_written (m := cBuild N dd bc hasPre) (classOK_clsOf N bc).lt (ncOf_le N bc)
    (hC.slice dd hv) (hC.in_range dd hv) b

theorem CLive.fail? {s : Nat} (hv : V s) :
    (cBuild N dd bc hasPre).repr[cNewId N dd bc s + 1]? =
      some (cNewId N dd bc (N.getD s {}).fail) := by
  rw [← hC.fail dd hv]
  exact Array.getElem?_eq_some_getD _ 0 (hC.lt_size dd hv)

theorem CLive.matchList? {s : Nat} (hv : V s) (hm : (N.getD s {}).matches_ ≠ []) :
    (cBuild N dd bc hasPre).matchList? (cNewId N dd bc s) =
      some ((cBuild N dd bc hasPre).matchList (cNewId N dd bc s)) :=
  matchList?_written (m := cBuild N dd bc hasPre) hm rfl (hC.slice dd hv) (hC.in_range dd hv)

omit hC in
theorem nextState?_succ (m : ContigM) (anch : Bool) (fuel sid : Nat) (byte : UInt8) :
    m.nextState? anch (fuel + 1) sid byte =
      match m.found? (m.classOf byte) sid with
      | none => none
      | some (some next) => some next
      | some none =>
        if anch then some DEAD
        else
          match m.repr[sid + 1]? with
          | none => none
          | some f => m.nextState? anch fuel f byte := rfl

/-- if the loop of `N` returned before its fuel ran out, the checked loop of `M` returns the new
id of its result: no read along the failure chain is out of range -/
theorem CLive.nextState? (anch : Bool) (b : UInt8)
    (hfail : anch = false → ∀ s, V s → follow N s b = FAIL → V (N.getD s {}).fail) :
    ∀ (fuel s hp : Nat), V s → (CNfa.nextState N anch fuel s b hp).2 < hp + fuel →
      (cBuild N dd bc hasPre).nextState? anch fuel (cNewId N dd bc s) b =
        some (cNewId N dd bc (CNfa.nextState N anch fuel s b hp).1) := by
  intro fuel
  induction fuel with
  | zero => intro s hp _ h; exact absurd h (Nat.lt_irrefl _)
  | succ fuel ih =>
    intro s hp hv hh
    rw [nextState?_succ]
    show (match (cBuild N dd bc hasPre).found? (clsOf N bc b) (cNewId N dd bc s) with
      | none => none
      | some (some next) => some next
      | some none =>
        if anch = true then some DEAD
        else
          match (cBuild N dd bc hasPre).repr[cNewId N dd bc s + 1]? with
          | none => none
          | some f => (cBuild N dd bc hasPre).nextState? anch fuel f b) = _
    rw [hC.found? dd hasPre hv b, hC.fail? dd hasPre hv]
    by_cases hf : follow N s b = FAIL
    · rw [if_pos hf]
      cases anch with
      | true =>
        rw [nextState_anch_fail N fuel s b hp hf]
        show some DEAD = some (cNewId N dd bc DEAD)
        rw [show DEAD = 0 from rfl, cNewId_dead hC.shuf dd bc]
      | false =>
        rw [nextState_go N fuel s b hp hf] at hh ⊢
        exact ih _ (hp + 1) (hfail rfl s hv hf) (by omega)
    · rw [if_neg hf, nextState_stop N anch fuel s b hp hf]

end

theorem contig_next? {N : CNfa} {anch : Bool} {V : Nat → Prop} (hL : NLive N anch V) {bc : Bool}
    (hC : CLive N bc V) (dd : Nat) (hasPre : Bool) {s : Nat} (hv : V s) (b : UInt8) :
    (cBuild N dd bc hasPre).nextState? anch ((cBuild N dd bc hasPre).repr.size + 1)
        (cNewId N dd bc s) b =
      some ((cBuild N dd bc hasPre).nextState anch ((cBuild N dd bc hasPre).repr.size + 1)
        (cNewId N dd bc s) b (0, 0)).1 := by
  have hsz : N.size ≤ (cBuild N dd bc hasPre).repr.size :=
    size_le_repr N dd bc (by have := hC.four; omega)
  have hh := hL.hops s b hv
  have hfuel := nextState_fuel N anch b (N.size + 1) ((cBuild N dd bc hasPre).repr.size + 1) s 0
    (by rw [Nat.zero_add]; exact hh) (by omega)
  rw [hC.nextState dd hasPre anch b (fun ha s hv => hL.failV ha s b hv) _ s 0 0 hv]
  exact hC.nextState? dd hasPre anch b (fun ha s hv => hL.failV ha s b hv) _ s 0 hv
    (by rw [hfuel]; omega)

/-- at the state reached on any input every read is in bounds, and the match list of a match state
is the (non-empty) list of a state of `V`, provided that list is short enough to be length-prefixed -/
theorem contig_inbounds {N : CNfa} {anch : Bool} {V : Nat → Prop} (hL : NLive N anch V) {bc : Bool}
    (hC : CLive N bc V) (dd : Nat) (hasPre : Bool) (k : MatchKind) (P : List (List UInt8)) (s0 : Nat)
    (hs : ((cBuild N dd bc hasPre).toAut k P hasPre).start anch = some s0) (w : List UInt8) :
    let M := cBuild N dd bc hasPre
    let A := M.toAut k P hasPre
    let q := A.runFrom anch s0 w
    (∀ b, M.nextState? anch (M.repr.size + 1) q b = some (A.next anch q b)) ∧
      q + 1 < M.repr.size ∧ q ≠ CNfa.FAIL ∧
      (A.isMatch q = true → M.matchList? q = some (M.matchList q) ∧
        ∃ s, V s ∧ (N.getD s {}).matches_ ≠ [] ∧
          ((N.getD s {}).matches_.length < 2147483648 → M.matchList q = (N.getD s {}).matches_)) := by
  intro M A q
  obtain ⟨s, hv, hq, _⟩ := (contig_renames hL hC dd hasPre k P).reach hL.start
    (congrArg some (contig_start hL hC dd hasPre)) hs w
  have hq : q = cNewId N dd bc s := hq
  rw [hq]
  refine ⟨fun b => contig_next? hL hC dd hasPre hv b, hC.lt_size dd hv,
    cNewId_ne_one hC.shuf dd bc (hC.ne1 s hv), fun hm => ?_⟩
  have hne := hC.mats_ne_nil dd hasPre hL.mm k P hv hm
  exact ⟨hC.matchList? dd hasPre hv hne, s, hv, hne, hC.matchList dd hasPre hv hne⟩

end AcVerif.L1eP
