import AcVerif.Proofs.NfaMemCompileRel
import AcVerif.Proofs.TrieRule
/-!
# The preamble of `compile`, `build_trie` and the two start-state phases on the memory

Each is shown to keep `Rel`: `rel_init`, `sim_buildTrie` (one pattern: `sim_trieStep`, against
`addPatternK`, which keeps the automaton of the moment of a skip as the memory does; that it is
the one before the pattern is the case `none` of `addPatternG_rule`), `rel_setAnchored`,
`rel_addLoop`, `rel_closeLoop`.
-/
-- `(absState m s).trans` is `m.iterTrans s` by unfolding `absState`; unfolding the iterator instead is slow
attribute [local irreducible] AcVerif.MemNfa.iterTrans AcVerif.MemNfa.iterMatches

namespace AcVerif.MemC
open AcVerif AcVerif.CNfa AcVerif.L1cP AcVerif.BuildP AcVerif.MemP

/-! ## the preamble -/

/-- the memory after the preamble of `compile` (lines 972-994) refines `CNfa.init`: in particular
`nfa.sparse` has `1 + 3·256` entries and `nfa.matches` the dummy entry.  `CNfa.init` gives `DEAD`,
`FAIL` and the unanchored start the failure link `SU`; the memory has the crate's `0` there
(`Rel.low`). -/
theorem rel_init : Rel MemNfa.init CNfa.init := by
  have h0 : Rel MemNfa.empty #[] :=
    ⟨memOK_empty, by rw [Tight, absNfa_empty]; exact ⟨rfl, rfl⟩,
      by rw [absNfa_empty]; exact FailEq.refl _, fun _ _ => rfl⟩
  have h1 := (h0.allocState 0 (fail := 0) (fun _ => rfl) (fun h => absurd h (by decide))).1
  have h2 := (h1.allocState 0 (fail := 0) (fun _ => rfl) (fun h => absurd h (by decide))).1
  have h3 := (h2.allocState 0 (fail := 0) (fun _ => rfl) (fun h => absurd h (by decide))).1
  have h4 := (h3.allocState 0 (fail := 2) (fun h => absurd h (by decide)) (fun _ => rfl)).1
  have h5 := h4.initFullState (prev := 2) (by decide) rfl MemNfa.FAIL
  have h6 := h5.initFullState (prev := 3) (by decide) rfl MemNfa.FAIL
  exact h6.initFullState (prev := 0) (by decide) rfl 0

/-! ## `build_trie` -/

/-- lines 1138-1143 on the memory -/
def memAllocChild (fold : Bool) (m : MemNfa) (prev : Nat) (b : UInt8) (depth : Nat) : MemNfa :=
  let m2 := (m.allocState depth 2).1.addTransition prev b m.states.size
  if fold then m2.addTransition prev (oppositeAsciiCase b) m.states.size else m2

theorem memAddPattern_cons (lf fold : Bool) (m : MemNfa) (prev : Nat) (saw : Bool) (depth : Nat)
    (b : UInt8) (rest : List UInt8) :
    MemNfa.addPattern lf fold 2 m prev saw depth (b :: rest) =
      if (lf && (saw || m.isMatch prev)) = true then (m, none)
      else if m.followTransitionSparse prev b ≠ MemNfa.FAIL then
        MemNfa.addPattern lf fold 2 m (m.followTransitionSparse prev b) (saw || m.isMatch prev)
          (depth + 1) rest
      else MemNfa.addPattern lf fold 2 (memAllocChild fold m prev b depth) m.states.size
        (saw || m.isMatch prev) (depth + 1) rest := by
  rw [MemNfa.addPattern]
  simp only [bne_iff_ne, ne_eq, ite_not]
  by_cases h1 : (lf && (saw || m.isMatch prev)) = true
  · rw [if_pos h1, if_pos h1]
  · rw [if_neg h1, if_neg h1]
    by_cases h2 : m.followTransitionSparse prev b = MemNfa.FAIL
    · rw [if_pos h2, if_pos h2]; rfl
    · rw [if_neg h2, if_neg h2]

theorem rel_newChild {m : MemNfa} {n : CNfa} (h : Rel m n) (h3 : 3 ≤ n.size) (fold : Bool)
    {prev : Nat} (hp : prev < n.size) (b : UInt8) (depth : Nat) :
    Rel (memAllocChild fold m prev b depth) (newChild fold n prev b) := by
  obtain ⟨h1, _⟩ := h.allocState depth (fail := 2) (fun h => absurd h3 (Nat.not_le_of_lt h))
    (fun _ => rfl)
  have hp1 : prev < (n.push ({ fail := SU } : CState)).size := by rw [Array.size_push]; omega
  have h2 := h1.addTransition hp1 b n.size
  unfold memAllocChild newChild
  rw [h.size]
  split
  · refine h2.addTransition ?_ (oppositeAsciiCase b) n.size
    unfold CNfa.addTransition
    rw [Array.size_modify]; exact hp1
  · exact h2

/-- `CNfa.addPattern` returning the automaton as it is at a `continue 'PATTERNS`, as the memory
has it: the builder of `TrieRule.lean` carrying nothing -/
abbrev addPatternK (lf fold : Bool) (n : CNfa) (prev : Nat) (saw : Bool) (pat : List UInt8) :=
  addPatternG lf fold (fun (g : Unit) _ => g) n () prev saw pat

theorem sim_addPattern (lf fold : Bool) (pat : List UInt8) :
    ∀ (m : MemNfa) (n : CNfa) (d : Nat → Nat) (prev : Nat) (saw : Bool) (depth : Nat),
      Rel m n → TI fold n d → prev < n.size → (prev = 2 ∨ 4 ≤ prev) →
      Rel (MemNfa.addPattern lf fold 2 m prev saw depth pat).1
        (addPatternK lf fold n prev saw pat).1 ∧
      (MemNfa.addPattern lf fold 2 m prev saw depth pat).2 =
        (addPatternK lf fold n prev saw pat).2.1 := by
  induction pat with
  | nil => intro m n d prev saw depth h _ _ _; exact ⟨h, rfl⟩
  | cons b rest ih =>
    intro m n d prev saw depth h hT hp hp2
    have hF : MemNfa.FAIL = CNfa.FAIL := rfl
    rw [memAddPattern_cons, addPatternK, addPatternG, h.isMatch, h.follow, hF]
    by_cases h1 : (lf && (saw || CNfa.isMatch n prev)) = true
    · rw [if_pos h1, if_pos h1]; exact ⟨h, rfl⟩
    · rw [if_neg h1, if_neg h1]
      by_cases hf : CNfa.follow n prev b ≠ FAIL
      · rw [if_pos hf, if_pos hf]
        exact ih m n d _ _ _ h hT (hT.follow hp2 hf).1 (Or.inr (hT.follow hp2 hf).2)
      · rw [if_neg hf, if_neg hf, h.size]
        exact ih _ _ _ _ _ _ (rel_newChild h (Nat.le_of_succ_le hT.size4) fold hp b depth)
          (hT.alloc hp hp2 b) (by rw [size_newChild]; exact Nat.lt_succ_self _) (Or.inr hT.size4)

/-- the body of the `'PATTERNS` loop on the memory (the function folded by `MemNfa.buildTrie`) -/
def memTrieStep (k : MatchKind) (fold : Bool) (m : MemNfa) (x : List UInt8 × Nat) : MemNfa :=
  match MemNfa.addPattern (k == .lf) fold 2 m 2 false 0 x.1 with
  | (m, none) => m
  | (m, some last) => m.addMatch last x.2

theorem memBuildTrie_eq (k : MatchKind) (fold : Bool) (m : MemNfa) (P : List (List UInt8)) :
    m.buildTrie k fold 2 P = P.zipIdx.foldl (memTrieStep k fold) m := rfl

/-- **one pattern of `build_trie`**: the memory step refines `trieStep` (the step whose sizes
`trieStepChecked` tests) -/
theorem sim_trieStep (k : MatchKind) (fold : Bool) {m : MemNfa} {n : CNfa} {d : Nat → Nat}
    (h : Rel m n) (hT : TI fold n d) (x : List UInt8 × Nat) :
    Rel (memTrieStep k fold m x) (trieStep k fold n x) := by
  have hsu : Node n SU := ⟨by have := hT.size4; simp only [SU]; omega, Or.inl rfl⟩
  obtain ⟨h1, h2⟩ := sim_addPattern (k == .lf) fold x.1 m n d SU false 0 h hT hsu.1 hsu.2
  have h3 := addPatternG_rule (lf := k == .lf) (TrieRule.shape fold) x.1 n d () SU false hT hsu
    trivial
  unfold memTrieStep trieStep
  rw [← addPatternG_fst (k == .lf) fold (fun (g : Unit) _ => g) x.1 n () SU false]
  show Rel (match MemNfa.addPattern (k == .lf) fold 2 m SU false 0 x.1 with
    | (m, none) => m
    | (m, some last) => m.addMatch last x.2) _
  generalize MemNfa.addPattern (k == .lf) fold 2 m SU false 0 x.1 = r at h1 h2
  revert h1 h2 h3
  unfold addPatternK
  rcases addPatternG (k == .lf) fold (fun (g : Unit) _ => g) n () SU false x.1 with
    ⟨n', _ | last, g⟩
  · rintro ⟨rfl, _⟩ h1 h2
    obtain ⟨m', o⟩ := r
    simp only at h1 h2; subst h2; exact h1
  · rintro ⟨_, hl, _⟩ h1 h2
    obtain ⟨m', o⟩ := r
    simp only at h1 h2; subst h2; exact h1.addMatch hl.1 x.2

theorem sim_foldl_trieStep (k : MatchKind) (fold : Bool) (xs : List (List UInt8 × Nat)) :
    ∀ (m : MemNfa) (n : CNfa) (d : Nat → Nat), Rel m n → TI fold n d →
      Rel (xs.foldl (memTrieStep k fold) m) (xs.foldl (trieStep k fold) n) := by
  induction xs with
  | nil => intro m n d h _; exact h
  | cons x xs ih =>
    intro m n d h hT
    obtain ⟨d', hT'⟩ := hT.trieStep k x
    exact ih _ _ d' (sim_trieStep k fold h hT x) hT'

theorem sim_buildTrie (k : MatchKind) (fold : Bool) (P : List (List UInt8)) :
    Rel (MemNfa.init.buildTrie k fold 2 P) (buildTrie k fold P) := by
  rw [memBuildTrie_eq, buildTrie_eq]
  exact sim_foldl_trieStep k fold _ _ _ _ rel_init (TI_init fold)

/-! ## the two start-state phases -/

theorem rel_addLoop {m : MemNfa} {n : CNfa} (h : Rel m n) (h3 : 3 ≤ n.size) :
    Rel (m.addUnanchoredStartStateLoop 2) (addStartLoop n) :=
  h.replaceNext (sid := SU) h3 MemNfa.FAIL SU

theorem rel_closeLoop {m : MemNfa} {n : CNfa} (h : Rel m n) (h3 : 3 ≤ n.size) (k : MatchKind) :
    Rel (m.closeStartStateLoopForLeftmost 2 k.isLeftmost) (closeStartLoop k n) := by
  unfold MemNfa.closeStartStateLoopForLeftmost closeStartLoop
  rw [h.isMatch]
  show Rel (if (k.isLeftmost && CNfa.isMatch n SU) = true then _ else _) _
  by_cases hc : (k.isLeftmost && CNfa.isMatch n SU) = true
  · rw [if_pos hc, if_pos hc]; exact h.replaceNext (sid := SU) h3 SU MemNfa.DEAD
  · rw [if_neg hc, if_neg hc]; exact h

/-- `set_anchored_start_state`: the `unreachable!()` is not reached (both start lists carry all
256 bytes) -/
theorem rel_setAnchored {m : MemNfa} {n : CNfa} {fold : Bool} {d : Nat → Nat} (h : Rel m n)
    (hT : TI fold n d) :
    ∃ r, m.setAnchoredStartState 2 3 = some r ∧ Rel r (setAnchoredStart n) := by
  have hsz : SA < n.size := hT.size4
  have hbytes : (m.iterTrans SA).map Prod.fst = (m.iterTrans SU).map Prod.fst := by
    rw [h.iterTrans, h.iterTrans]
    show List.map (·.1) (n.getD 3 {}).trans = List.map (·.1) (n.getD 2 {}).trans
    rw [hT.keysSU, hT.sa]
    simp [fullTrans]
  obtain ⟨r, hr, hs⟩ := setAnchoredStartState_step h.ok (h.size ▸ hsz) (by decide) hbytes
  refine ⟨r, hr, ?_⟩
  rw [setAnchoredStart_eq]
  exact h.step hsz hs _ ⟨h.iterTrans SU, by
    show m.iterMatches SA ++ m.iterMatches SU = _ ++ _
    rw [h.iterMatches, h.iterMatches], fun _ => rfl⟩ (fun h => absurd h (by decide))

end AcVerif.MemC
