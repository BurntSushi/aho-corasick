import AcVerif.Fold
import AcVerif.CostOverlapIter
import AcVerif.Proofs.CostBounds
/-!
# Totals of the per-call counters of the stepwise overlapping search (C19)

Potential argument over a whole call sequence.  `fed s e st` is the number of leading positions
of the span `[s, e)` whose byte has been fed to the automaton when the overlapping state is `st`
(as an absolute position): `s` before the first loop, `at + 1` when a loop stopped INSIDE the span
(match, dead state, prefilter reporting nothing: the byte at `at` was fed but `at` was not
advanced), `e` at the end.  One call feeds `fed st' - fed st` bytes, plus one redundant
transition when it resumes a loop that stopped inside the span without a match (`slack`): that
call feeds the byte at `at` a second time.  `tryOvlCost_call` is this for one call (`CallInv`),
`ovlIterCost_total` sums it up over the calls of the iterator.
-/
namespace AcVerif
namespace CostP
set_option linter.unusedSectionVars false
variable {α : Type} [DecidableEq α]

def fed (s e : Nat) (st : OState (St α)) : Nat :=
  match st.id with
  | Option.none => s
  | some _ => if st.at_ < e then st.at_ + 1 else e

/-- 1 when the next call re-enters the loop AT `st.at_` (a state is stored and no match list is
being drained), 0 otherwise -/
def slack (st : OState (St α)) : Nat :=
  match st.id, st.nextIdx with
  | some _, Option.none => 1
  | _, _ => 0

theorem fed_le (s e : Nat) (st : OState (St α)) : fed s e st ≤ max e s := by
  unfold fed
  split
  · exact Nat.le_max_right _ _
  · split
    · rename_i h; exact Nat.le_trans h (Nat.le_max_left _ _)
    · exact Nat.le_max_left _ _

theorem slack_le (st : OState (St α)) : slack st ≤ 1 := by
  unfold slack; split <;> omega

theorem slack_of_nextIdx (st : OState (St α)) (h : st.nextIdx.isSome = true) : slack st = 0 := by
  unfold slack
  split
  · rename_i h2; rw [h2] at h; cases h
  · rfl

/-! ## one run of the loop -/

/-- One run of the loop, entered at `at_` with counters `cost`: transitions are paid for by newly
fed positions (a state is stored, so `fed` does not read the span start), and a reported match
comes with a match index.  No assumption on the automaton or on the prefilter is needed: a
prefilter candidate beyond the end of the span just ends the loop. -/
theorem ovlCost_fed {k : MatchKind} {Q : PatSet α} {A : Aut (St α) α} {g : α → α}
    {hay : List α} {s e : Nat} {he : e ≤ hay.length} {pre : Option (Prefilter α)} {anch : Bool}
    {sid : St α} {at_ : Nat} {cost : Cost} (s₀ : Nat) {r : OState (St α) × Cost}
    (hr : ovlCost k Q A g hay s e he pre anch sid at_ cost = r) :
    r.2.transitions + min at_ e ≤ cost.transitions + fed s₀ e r.1 ∧
      (r.1.mat.isSome = true → r.1.nextIdx.isSome = true) := by
  rw [← hr, ovlCost_eq_sweep]
  refine ⟨?_, ovlPost_mat _⟩
  unfold fed
  rw [ovlPost_id]
  dsimp only
  rw [ovlPost_at]
  refine sweep_ind (P := fun _ a c r => r.acc.transitions + min a e ≤
      c.transitions + (if r.at_ < e then r.at_ + 1 else e)) ?_ ?_ ?_ sid at_ cost
  · intro q a c h; dsimp only; rw [if_neg h]; omega
  · intro q a c b mv h _ _ _; dsimp only [costUpd]; rw [if_pos h]; omega
  · intro q a c b mv r h _ _ _ ih
    have := mv.lt_resume a
    dsimp only [costUpd] at ih
    omega

/-! ## one call -/

/-- the three facts the totals need about one successful call -/
def CallInv (s e : Nat) (st st' : OState (St α)) (c : Cost) : Prop :=
  c.transitions + fed s e st ≤ fed s e st' + slack st ∧
  c.fails + odepth st' ≤ odepth st + c.transitions ∧
  (st'.mat.isSome = true → st'.nextIdx.isSome = true)

theorem ideal_comap_start (k : MatchKind) (P : List (List α)) (sk : StartKind) (hasPre : Bool)
    (g : α → α) (anch : Bool) (sid : St α)
    (h : ((ideal k P sk hasPre).comap g).start anch = some sid) : sid = .at [] := by
  cases sk <;> cases anch <;> cases h <;> rfl

/-- a call that only drains a match list (or does nothing) -/
theorem callInv_same (s e : Nat) (st st' : OState (St α)) (hid : st'.id = st.id)
    (hat : st'.at_ = st.at_) (hm : st'.mat.isSome = true → st'.nextIdx.isSome = true) :
    CallInv s e st st' {} := by
  refine ⟨?_, ?_, hm⟩
  · have : fed s e st' = fed s e st := by unfold fed; rw [hid, hat]
    dsimp only
    omega
  · have : odepth st' = odepth st := by unfold odepth; rw [hid]
    dsimp only
    omega

section
variable (k : MatchKind) (P : List (List α)) (sk : StartKind) (hasPre : Bool) (g : α → α)
  (pre : Option (Prefilter α)) (i : Input α)

theorem callInv_of_loop (st : OState (St α)) (sid : St α)
    (a : Nat) (hd : sid.depth = odepth st) (ha : fed i.s i.e st ≤ min a i.e + slack st)
    (st' : OState (St α)) (c : Cost)
    (hr : Except.ok (ε := MatchErr) (ovlCost k (patSet k P) ((ideal k P sk hasPre).comap g) g
      i.hay i.s i.e i.valid.1 pre i.anch sid a {}) = .ok (st', c)) :
    CallInv i.s i.e st st' c := by
  obtain ⟨_, _, hb3⟩ := ovlCost_bounds (fun _ _ _ => rfl) (Except.ok.inj hr)
  obtain ⟨hf1, hf3⟩ := ovlCost_fed i.s (Except.ok.inj hr)
  dsimp only at hb3 hf1
  exact ⟨by omega, by omega, hf3⟩

theorem ovlImpCost_call (hnd : i.s ≤ i.e) (st st' : OState (St α)) (c : Cost)
    (h : ovlImpCost k (patSet k P) ((ideal k P sk hasPre).comap g) g i pre st = .ok (st', c)) :
    CallInv i.s i.e st st' c := by
  obtain ⟨mat, id, at_, nextIdx⟩ := st
  unfold ovlImpCost at h
  cases id with
  | none =>
    simp only [] at h
    split at h
    · cases h
    · rename_i sid hs
      have hsid := ideal_comap_start k P sk hasPre g i.anch sid hs
      split at h
      · cases h
        exact callInv_same _ _ _ _ rfl rfl (fun _ => rfl)
      · refine callInv_of_loop k P sk hasPre g pre i _ sid i.s ?_ ?_ st' c h
        · rw [hsid]; rfl
        · show i.s ≤ min i.s i.e + _
          omega
  | some sid =>
    cases nextIdx with
    | none =>
      simp only [] at h
      refine callInv_of_loop k P sk hasPre g pre i _ sid at_ rfl ?_ st' c h
      show (if at_ < i.e then at_ + 1 else i.e) ≤ min at_ i.e + 1
      split <;> omega
    | some idx =>
      simp only [] at h
      split at h
      · cases h
        exact callInv_same _ _ _ _ rfl rfl (fun _ => rfl)
      · refine callInv_of_loop k P sk hasPre g pre i _ sid (at_ + 1) rfl ?_ st' c h
        show (if at_ < i.e then at_ + 1 else i.e) ≤ min (at_ + 1) i.e + 0
        split <;> omega

/-- one successful call of `try_find_overlapping_fwd` -/
theorem tryOvlCost_call (st st' : OState (St α)) (c : Cost)
    (h : tryOvlCost k (patSet k P) ((ideal k P sk hasPre).comap g) g pre i st = .ok (st', c)) :
    CallInv i.s i.e st st' c := by
  unfold tryOvlCost at h
  dsimp only at h
  by_cases hk : (((ideal k P sk hasPre).comap g).kind != .std) = true
  · rw [if_pos hk] at h; cases h
  rw [if_neg hk] at h
  by_cases hd : i.isDone = true
  · rw [if_pos hd] at h
    cases hs : ((ideal k P sk hasPre).comap g).start i.anch <;> rw [hs] at h <;> cases h
    exact callInv_same _ _ _ _ rfl rfl (fun h => by cases h)
  rw [if_neg hd] at h
  have hnd : i.s ≤ i.e := by
    simp only [Input.isDone, decide_eq_true_eq] at hd; omega
  by_cases ha : i.anch = true
  · rw [if_pos ha] at h
    exact ovlImpCost_call k P sk hasPre g Option.none i hnd _ st' c h
  · rw [if_neg ha] at h
    exact ovlImpCost_call k P sk hasPre g pre i hnd _ st' c h

/-! ## totals -/

theorem totalTransitions_ok (c : Cost) (cs : List (Except MatchErr Cost)) :
    totalTransitions (.ok c :: cs) = c.transitions + totalTransitions cs := rfl

theorem totalFails_ok (c : Cost) (cs : List (Except MatchErr Cost)) :
    totalFails (.ok c :: cs) = c.fails + totalFails cs := rfl

def iterTransitions (cs : List (Option Mat × Cost)) : Nat := (cs.map (·.2.transitions)).sum
def iterFails (cs : List (Option Mat × Cost)) : Nat := (cs.map (·.2.fails)).sum

/-- the iterator, started in any state that does not re-enter the loop at its position -/
theorem ovlIterCost_total :
    ∀ (n : Nat) (st : OState (St α)), slack st = 0 →
      iterTransitions
          (ovlIterCost k (patSet k P) ((ideal k P sk hasPre).comap g) g pre i n st) +
        fed i.s i.e st ≤ max i.e i.s ∧
      iterFails (ovlIterCost k (patSet k P) ((ideal k P sk hasPre).comap g) g pre i n st) ≤
        odepth st +
          iterTransitions
            (ovlIterCost k (patSet k P) ((ideal k P sk hasPre).comap g) g pre i n st)
  | 0, st, _ => by
    have := fed_le i.s i.e st
    refine ⟨?_, Nat.zero_le _⟩
    show 0 + fed i.s i.e st ≤ _
    omega
  | n + 1, st, hs => by
    rw [ovlIterCost]
    split
    · have := fed_le i.s i.e st
      refine ⟨?_, Nat.zero_le _⟩
      show 0 + fed i.s i.e st ≤ _
      omega
    · rename_i st' c hc
      obtain ⟨h1, h2, h3⟩ := tryOvlCost_call k P sk hasPre g pre i st st' c hc
      have := fed_le i.s i.e st'
      split
      · refine ⟨?_, ?_⟩
        · show c.transitions + 0 + fed i.s i.e st ≤ _
          omega
        · show c.fails + 0 ≤ odepth st + (c.transitions + 0)
          omega
      · rename_i m hm
        have hs' : slack st' = 0 := slack_of_nextIdx st' (h3 (by rw [hm]; rfl))
        obtain ⟨ih1, ih2⟩ := ovlIterCost_total n st' hs'
        refine ⟨?_, ?_⟩
        · show c.transitions + iterTransitions _ + fed i.s i.e st ≤ _
          omega
        · show c.fails + iterFails _ ≤ odepth st + (c.transitions + iterTransitions _)
          omega

end

/-- the counters of the iterator are ghost state: its reported matches are `ovlIterAux` -/
theorem ovlIterCost_fst (k : MatchKind) (Q : PatSet α) (A : Aut (St α) α) (g : α → α)
    (pre : Option (Prefilter α)) (i : Input α) :
    ∀ (n : Nat) (st : OState (St α)),
      (ovlIterCost k Q A g pre i n st).filterMap (·.1) = ovlIterAux A pre i n st
  | 0, _ => rfl
  | n + 1, st => by
    rw [ovlIterCost, ovlIterAux, ← tryOvlCost_fst k Q A g pre i st]
    cases tryOvlCost k Q A g pre i st with
    | error e => rfl
    | ok r =>
      obtain ⟨st', c⟩ := r
      simp only [Except.map]
      cases hm : st'.mat with
      | none => rfl
      | some m =>
        simp only [List.filterMap_cons]
        rw [ovlIterCost_fst k Q A g pre i n st']

end CostP
end AcVerif
