import AcVerif.Proofs.DfaRow
/-!
# `finish_build_one_start` (start kinds `Unanchored` and `Anchored`)

DFA ids are NFA ids; the row of a live state holds `next_state`; match lists are copied.  So the
DFA and the NFA visit the *same* ids from the start state, and the flags agree on the live states
of the mode (`SA` is not live in an unanchored run, `SU` not in an anchored one).

`clsOf N bc` / `ncOf N bc` name the class map and the class count that `buildDfa` passes on (the
classes of `trieBytes N` if `bc`, else the identity and 256); `classOK_clsOf` gives `ClassOK` for
them.  For `buildOne N classOf nc anch`: `buildOne_step` (same `next` as `N` at an `LvA` state, by
`row_spec`), `buildOne_obs` (same observation), and from the two `buildOne_obsEquiv`, the
`ObsEquiv` of the start states of the mode.
-/
namespace AcVerif.L1dP
open AcVerif AcVerif.CNfa AcVerif.L1cP AcVerif.L1eP AcVerif.L1dIdsP

/-! ## the class map of `buildDfa` -/

def clsOf (N : CNfa) (bc : Bool) : UInt8 → Nat :=
  if bc then classOfMarks (marksOf (trieBytes N)) else fun b => b.toNat

def ncOf (N : CNfa) (bc : Bool) : Nat := clsOf N bc 255 + 1

theorem clsOf_le (N : CNfa) (bc : Bool) (b : UInt8) : clsOf N bc b ≤ b.toNat := by
  unfold clsOf
  cases bc
  · exact Nat.le_refl _
  · exact AlphaP.classOfMarks_le _ b

theorem ncOf_le (N : CNfa) (bc : Bool) : ncOf N bc ≤ 256 :=
  Nat.succ_le_succ (clsOf_le N bc 255)

theorem classOK_clsOf (N : CNfa) (bc : Bool) : ClassOK N (clsOf N bc) (ncOf N bc) := by
  cases bc
  · exact classOK_id N
  · exact classOK_marks N

theorem buildDfa_both (N : CNfa) (bc : Bool) :
    buildDfa N .both bc = buildBoth N (clsOf N bc) (ncOf N bc) := rfl

/-! ## observations of a DFA state and of an NFA state -/

theorem _root_.AcVerif.DfaM.toAut_next (d : DfaM) (k : MatchKind) (P : List (List UInt8))
    (hasPre a : Bool) (q : Nat) (b : UInt8) :
    (d.toAut k P hasPre).next a q b = (d.rows.getD q #[]).getD (d.classOf b) d.dead := rfl

theorem _root_.AcVerif.DfaM.obs_eq (d : DfaM) (N : CNfa) (k : MatchKind) (P : List (List UInt8)) (hasPre : Bool)
    {q s : Nat} (hd : (q == d.dead) = (s == DEAD))
    (hm : d.matches_.getD q [] = (N.getD s {}).matches_)
    (hs : (some q == d.startU || some q == d.startA) = (s == SU || s == SA)) :
    (d.toAut k P hasPre).obs false q = (N.toAut k P hasPre).obs false s := by
  show Obs.mk _ _ _ _ = Obs.mk _ _ _ _
  simp only [DfaM.toAut, CNfa.toAut, CNfa.isMatch, bne, Bool.false_eq_true, if_false, hd, hm, hs]

/-! ## `buildOne` -/

section
variable {f : UInt8 → UInt8} {k : MatchKind} {Q : PatSet UInt8} {L : List (List UInt8)} {N : CNfa}
variable {classOf : UInt8 → Nat} {nc : Nat}

theorem buildOne_mats (N : CNfa) (classOf : UInt8 → Nat) (nc : Nat) (anch : Bool) (q : Nat) :
    (buildOne N classOf nc anch).matches_.getD q [] = (N.getD q {}).matches_ := by
  show ((Array.range N.size).map fun sid => (N.getD sid {}).matches_).getD q [] = _
  by_cases h : q < N.size
  · rw [Array.getD_map_range _ _ _ _ h]
  · rw [Array.getD_map_range_ge _ _ _ _ (by omega), Array.getD_of_size_le N _ (by omega)]

theorem buildOne_next (N : CNfa) (classOf : UInt8 → Nat) (nc : Nat) (anch : Bool)
    (P : List (List UInt8)) (hasPre a : Bool) {s : Nat} (hs : s < N.size) (b : UInt8) :
    ((buildOne N classOf nc anch).toAut k P hasPre).next a s b =
      (dfaRow N classOf nc anch s).getD (classOf b) 0 := by
  rw [DfaM.toAut_next]
  show (((Array.range N.size).map (dfaRow N classOf nc anch)).getD s #[]).getD (classOf b) 0 = _
  rw [Array.getD_map_range _ _ _ _ hs]

theorem buildOne_step (h : NfaSpec f k Q L N) (hC : ClassOK N classOf nc) (P : List (List UInt8))
    (hasPre : Bool) {anch : Bool} {s : Nat} (hv : LvA L anch s) (b : UInt8) :
    ((buildOne N classOf nc anch).toAut k P hasPre).next anch s b =
      (N.toAut k P hasPre).next anch s b := by
  rw [buildOne_next N classOf nc anch P hasPre anch (h.LvA_lt_size hv) b, h.row_spec hC hv b]
  rfl

/-- the other mode's start state is not live -/
theorem buildOne_obs (h : NfaSpec f k Q L N) (P : List (List UInt8)) (hasPre : Bool) {anch : Bool}
    {s : Nat} (hv : LvA L anch s) :
    ((buildOne N classOf nc anch).toAut k P hasPre).obs false s =
      (N.toAut k P hasPre).obs false s := by
  refine DfaM.obs_eq _ N k P hasPre rfl (buildOne_mats N classOf nc anch s) ?_
  have ho := h.LvA_ne_other_start hv
  cases anch
  · show (some s == some SU || some s == none) = _
    rw [show (s == SA) = false from beq_eq_false_iff_ne.2 ho]; simp
  · show (some s == none || some s == some SA) = _
    rw [show (s == SU) = false from beq_eq_false_iff_ne.2 ho]; simp

theorem buildOne_obsEquiv (h : NfaSpec f k Q L N) (hC : ClassOK N classOf nc)
    (P : List (List UInt8)) (hasPre : Bool) (anch : Bool) :
    ObsEquiv ((buildOne N classOf nc anch).toAut k P hasPre) (N.toAut k P hasPre) false anch
      (if anch then SA else SU) (if anch then SA else SU) :=
  (renames_of_live h P hasPre (g := id) fun _ hv c => buildOne_step h hC P hasPre hv c).obsEquiv
    (fun _ ⟨_, hr⟩ => buildOne_obs h P hasPre (LvA.of_Rel hr)) ⟨.at [], Rel_start L anch⟩

end

end AcVerif.L1dP
