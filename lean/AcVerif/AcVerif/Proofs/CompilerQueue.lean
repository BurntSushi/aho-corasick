import AcVerif.Proofs.CompilerFail
/-!
# The noncontiguous compiler (L1c): the breadth-first queue, combinatorial side

`Us` is the queue (as strings), `pend` the nodes not yet enqueued.  A node is enqueued exactly
when it receives its final failure link, so "finished" is "not in `pend`".  `QI` holds between
two dequeue operations, `QI'` while the children of the dequeued node are processed (`QI.pop`,
`QI'.push`, `QI'.finish`); `QI.below`: every node no deeper than the queue is finished.
-/
namespace AcVerif.L1cP
open AcVerif AcVerif.CNfa

structure QI (L Us pend : List (List UInt8)) : Prop where
  q1 : ∀ x, x ∈ Us → x ∈ L ∧ x ∉ pend
  sorted : Us.Pairwise fun x y => x.length ≤ y.length
  nodup : Us.Nodup
  range : ∀ x, x ∈ Us → ∀ y, y ∈ Us → y.length ≤ x.length + 1
  pnodup : pend.Nodup
  d1 : ∀ b : UInt8, [b] ∈ L → [b] ∉ pend
  step : ∀ (p : List UInt8) (b : UInt8), p ∈ L → p ++ [b] ∈ L →
    (p ++ [b] ∉ pend ↔ p ∉ pend ∧ p ∉ Us)

/-- queue invariant while the children of the dequeued node `u` are processed; `rest` are the
bytes of the children still to come -/
structure QI' (L Us pend : List (List UInt8)) (u : List UInt8) (rest : List UInt8) : Prop where
  q1 : ∀ x, x ∈ Us → x ∈ L ∧ x ∉ pend
  sorted : Us.Pairwise fun x y => x.length ≤ y.length
  nodup : Us.Nodup
  range : ∀ x, x ∈ Us → u.length ≤ x.length ∧ x.length ≤ u.length + 1
  pnodup : pend.Nodup
  d1 : ∀ b : UInt8, [b] ∈ L → [b] ∉ pend
  step : ∀ (p : List UInt8) (b : UInt8), p ∈ L → p ++ [b] ∈ L →
    (p ++ [b] ∉ pend ↔ p ∉ pend ∧ p ∉ Us ∧ ¬ (p = u ∧ b ∈ rest))
  cur : u ∈ L ∧ u ∉ pend ∧ u ∉ Us
  low : ∀ v, v ∈ L → v.length ≤ u.length → v ∉ pend

section
variable {fold : Bool} {Q : PatSet UInt8} {L : List (List UInt8)} {n0 : CNfa}

theorem QI.below (hB : PBg fold Q L n0) {Us pend : List (List UInt8)} (h : QI L Us pend) :
    ∀ v : List UInt8, v ∈ L → (∀ x ∈ Us, v.length ≤ x.length) → v ∉ pend := by
  apply List.reverse_induction
  · exact fun hvL _ => absurd hvL hB.nil_not_mem
  · intro p b ih hvL hle
    rw [List.length_append, List.length_singleton] at hle
    rcases hB.closed hvL with h0 | hp
    · subst h0; exact h.d1 b hvL
    · rw [h.step p b hp hvL]
      exact ⟨ih hp fun x hx => Nat.le_of_succ_le (hle x hx),
        fun hm => Nat.not_succ_le_self _ (hle p hm)⟩

theorem QI.pop (hB : PBg fold Q L n0) {Us pend : List (List UInt8)} {u : List UInt8}
    (h : QI L (u :: Us) pend) (keys : List UInt8) (hkeys : ∀ b, u ++ [b] ∈ L → b ∈ keys) :
    QI' L Us pend u keys := by
  have hsort := List.pairwise_cons.1 h.sorted
  have hnd := List.nodup_cons.1 h.nodup
  have hu := h.q1 u List.mem_cons_self
  refine
    { q1 := fun x hx => h.q1 x (List.mem_cons_of_mem _ hx), sorted := hsort.2, nodup := hnd.2,
      range := ?_, pnodup := h.pnodup, d1 := h.d1, step := ?_, cur := ⟨hu.1, hu.2, hnd.1⟩,
      low := fun v hv hvu => h.below hB v hv fun x hx => (List.mem_cons.1 hx).elim
        (fun e => e ▸ hvu) fun e => Nat.le_trans hvu (hsort.1 x e) }
  · intro x hx
    exact ⟨hsort.1 x hx, h.range u List.mem_cons_self x (List.mem_cons_of_mem _ hx)⟩
  · intro p b hp hpb
    rw [h.step p b hp hpb]
    by_cases e : p = u
    · subst e
      constructor
      · intro hh; exact absurd List.mem_cons_self hh.2
      · intro hh; exact absurd ⟨rfl, hkeys b hpb⟩ hh.2.2
    · constructor
      · rintro ⟨h1, h2⟩
        exact ⟨h1, fun hm => h2 (List.mem_cons_of_mem _ hm), fun hh => e hh.1⟩
      · rintro ⟨h1, h2, _⟩
        refine ⟨h1, fun hm => ?_⟩
        rcases List.mem_cons.1 hm with e' | e'
        · exact e e'
        · exact h2 e'

theorem QI'.pending_iff {Us pend : List (List UInt8)} {u : List UInt8} {b : UInt8}
    {K : List UInt8} (h : QI' L Us pend u K) (hc : u ++ [b] ∈ L) : u ++ [b] ∈ pend ↔ b ∈ K := by
  rw [← Decidable.not_iff_not, h.step u b h.cur.1 hc]
  exact ⟨fun hh hb => hh.2.2 ⟨rfl, hb⟩, fun hn => ⟨h.cur.2.1, h.cur.2.2, fun hh => hn hh.2⟩⟩

theorem QI'.pending {Us pend : List (List UInt8)} {u : List UInt8} {b : UInt8}
    {rest : List UInt8} (h : QI' L Us pend u (b :: rest)) (hc : u ++ [b] ∈ L) :
    u ++ [b] ∈ pend :=
  (h.pending_iff hc).2 List.mem_cons_self

theorem QI'.push {Us pend : List (List UInt8)} {u : List UInt8} {b : UInt8}
    {rest : List UInt8} (h : QI' L Us pend u (b :: rest)) (hb : b ∉ rest) (hc : u ++ [b] ∈ L) :
    QI' L (Us ++ [u ++ [b]]) (pend.erase (u ++ [b])) u rest := by
  have hcp := h.pending hc
  have hcU : u ++ [b] ∉ Us := fun hm => (h.q1 _ hm).2 hcp
  have hcne : u ≠ u ++ [b] := fun e => by
    have := congrArg List.length e; simp at this
  have hmem : ∀ x, x ∈ pend.erase (u ++ [b]) ↔ x ≠ u ++ [b] ∧ x ∈ pend := fun x =>
    h.pnodup.mem_erase_iff
  have hother : ∀ x, x ≠ u ++ [b] → (x ∉ pend.erase (u ++ [b]) ↔ x ∉ pend) := fun x hx => by
    rw [hmem]; exact not_congr (and_iff_right hx)
  refine
    { q1 := ?_, sorted := ?_, nodup := ?_, range := ?_, pnodup := h.pnodup.erase _, d1 := ?_,
      step := ?_, cur := ?_, low := ?_ }
  · -- q1
    intro x hx
    rcases List.mem_append.1 hx with hx | hx
    · exact ⟨(h.q1 x hx).1, fun hm => (h.q1 x hx).2 ((hmem x).1 hm).2⟩
    · rw [List.mem_singleton] at hx
      subst hx
      exact ⟨hc, fun hm => ((hmem _).1 hm).1 rfl⟩
  · -- sorted
    rw [List.pairwise_append]
    refine ⟨h.sorted, List.pairwise_singleton _ _, ?_⟩
    intro x hx y hy
    rw [List.mem_singleton] at hy
    subst hy
    have := (h.range x hx).2
    simp only [List.length_append, List.length_singleton]; omega
  · -- nodup
    rw [List.nodup_append]
    refine ⟨h.nodup, by simp, ?_⟩
    intro x hx y hy
    rw [List.mem_singleton] at hy
    subst hy
    intro e; subst e; exact hcU hx
  · -- range
    intro x hx
    rcases List.mem_append.1 hx with hx | hx
    · exact h.range x hx
    · rw [List.mem_singleton] at hx
      subst hx
      simp only [List.length_append, List.length_singleton]; omega
  · -- d1
    intro c hcL hm
    exact h.d1 c hcL ((hmem _).1 hm).2
  · -- step
    intro p c hp hpc
    by_cases e : p ++ [c] = u ++ [b]
    · obtain ⟨e1, e2⟩ := List.append_inj' e rfl
      have e2 : c = b := by simpa using e2
      subst e1; subst e2
      constructor
      · intro _
        refine ⟨fun hm => h.cur.2.1 ((hmem _).1 hm).2, ?_, fun hh => hb hh.2⟩
        intro hm
        rcases List.mem_append.1 hm with hm | hm
        · exact h.cur.2.2 hm
        · rw [List.mem_singleton] at hm; exact hcne hm
      · intro _ hm
        exact ((hmem _).1 hm).1 rfl
    · rw [hother _ e, h.step p c hp hpc]
      by_cases epc : p = u ++ [b]
      · subst epc
        constructor
        · intro hh; exact absurd hcp hh.1
        · intro hh; exact absurd (List.mem_append.2 (Or.inr (List.mem_singleton.2 rfl))) hh.2.1
      · have hK : (p = u ∧ c ∈ b :: rest) ↔ (p = u ∧ c ∈ rest) := by
          rw [List.mem_cons]
          exact and_congr_right fun hpu => or_iff_right fun hcb => e (by rw [hpu, hcb])
        rw [hother p epc, List.mem_append, List.mem_singleton, or_iff_left epc, hK]
  · -- cur
    refine ⟨h.cur.1, fun hm => h.cur.2.1 ((hmem _).1 hm).2, ?_⟩
    intro hm
    rcases List.mem_append.1 hm with hm | hm
    · exact h.cur.2.2 hm
    · rw [List.mem_singleton] at hm; exact hcne hm
  · -- low
    intro v hv hvl hm
    exact h.low v hv hvl ((hmem _).1 hm).2

/-- `QI'` depends on the list of bytes still to come only through membership -/
theorem QI'.congr {Us pend : List (List UInt8)} {u : List UInt8} {K K' : List UInt8}
    (h : QI' L Us pend u K) (hK : ∀ b, b ∈ K ↔ b ∈ K') : QI' L Us pend u K' :=
  { h with step := fun p b hp hpb => by rw [h.step p b hp hpb, hK] }

theorem QI'.finish {Us pend : List (List UInt8)} {u : List UInt8} (h : QI' L Us pend u []) :
    QI L Us pend := by
  refine
    { q1 := h.q1, sorted := h.sorted, nodup := h.nodup, range := ?_, pnodup := h.pnodup,
      d1 := h.d1, step := ?_ }
  · intro x hx y hy
    have := h.range x hx
    have := h.range y hy
    omega
  · intro p b hp hpb
    rw [h.step p b hp hpb]
    constructor
    · rintro ⟨h1, h2, _⟩; exact ⟨h1, h2⟩
    · rintro ⟨h1, h2⟩; exact ⟨h1, h2, fun hh => by simp at hh⟩

theorem QI.done_all (hB : PBg fold Q L n0) {pend : List (List UInt8)} (h : QI L [] pend)
    (v : List UInt8) (hv : v ∈ L) : v ∉ pend :=
  h.below hB v hv fun _ hx => nomatch hx

end

end AcVerif.L1cP
