import AcVerif.Engine.Stream
import AcVerif.Engine.Iter
import AcVerif.Engine.Replace
import AcVerif.Proofs.ListArray
/-!
# Stream search: list slices and the scan loop

Pure list-level material for the stream theorems (C07, C08, C18):

* `slice data i j = data[i..j)` and its algebra;
* `scanBytes` over an append (`scan_append`);
* `firstMatch`, the in-memory "search from `r`" expressed with the stream's own
  scan loop, and `ScanAt`, the invariant tying a scan state at position `p` to it.

Namespace `StreamP`: the proofs about the stream search of one automaton (`streamFind`,
`streamReplaceWith` of `AcVerif/Engine/Stream.lean`, the resumable `streamFindT` of
`AcVerif/StreamResume.lean`), the `Stream*` files except `StreamTransfer`.
-/
namespace AcVerif.StreamP
open AcVerif
variable {σ α : Type}

/-! ## slices -/

/-- `data[i..j)` -/
def slice (data : List α) (i j : Nat) : List α := (data.take j).drop i

theorem slice_length (data : List α) (i j : Nat) (h : j ≤ data.length) :
    (slice data i j).length = j - i :=
  List.length_drop_take h

theorem slice_self (data : List α) (i : Nat) : slice data i i = [] := by
  simp [slice]

theorem slice_nil_of_le (data : List α) {i j : Nat} (h : j ≤ i) : slice data i j = [] :=
  List.drop_take_nil (Nat.not_lt.2 h)

theorem slice_zero_length (data : List α) : slice data 0 data.length = data := by
  simp [slice]

theorem slice_to_length (data : List α) (i : Nat) : slice data i data.length = data.drop i := by
  simp [slice]

theorem slice_append (data : List α) {i j k : Nat} (h1 : i ≤ j) (h2 : j ≤ k) :
    slice data i j ++ slice data j k = slice data i k := by
  have := List.drop_take_append_drop (data.take k) h1
  rwa [List.take_take, Nat.min_eq_left h2] at this

theorem slice_append_drop (data : List α) {i j : Nat} (h1 : i ≤ j) :
    slice data i j ++ data.drop j = data.drop i :=
  List.drop_take_append_drop data h1

theorem slice_slice (data : List α) (i j a b : Nat) (h : i + b ≤ j) :
    slice (slice data i j) a b = slice data (i + a) (i + b) := by
  unfold slice
  rw [List.take_drop, List.drop_drop, List.take_take]
  congr 2
  omega

theorem drop_slice (data : List α) (i j a : Nat) :
    (slice data i j).drop a = slice data (i + a) j := by
  unfold slice
  rw [List.drop_drop]

theorem take_slice (data : List α) (i j a : Nat) (h : i + a ≤ j) :
    (slice data i j).take a = slice data i (i + a) := by
  unfold slice
  rw [List.take_drop, List.take_take]
  congr 2
  omega

theorem slice_drop (data : List α) (i a b : Nat) :
    slice (data.drop i) a b = slice data (i + a) (i + b) := by
  unfold slice
  rw [List.take_drop, List.drop_drop]

/-! ## the scan loop -/

theorem scan_shift (A : Aut σ α) (q : σ) (k : Nat) (w : List α) :
    scanBytes A q k w = ((scanBytes A q 0 w).1, k + (scanBytes A q 0 w).2) := by
  induction w generalizing q k with
  | nil => rfl
  | cons c w ih =>
    simp only [scanBytes]
    split
    · simp
    · rw [ih _ (k + 1), ih _ (0 + 1)]
      simp only [Prod.mk.injEq, true_and]; omega

theorem scan_le (A : Aut σ α) (q : σ) (w : List α) : (scanBytes A q 0 w).2 ≤ w.length := by
  induction w generalizing q with
  | nil => simp [scanBytes]
  | cons c w ih =>
    simp only [scanBytes]
    split
    · simp
    · rw [scan_shift]
      have := ih (A.next false q c)
      simp only [List.length_cons]; omega

theorem scan_end (A : Aut σ α) (q : σ) (w : List α)
    (h : A.isMatch (scanBytes A q 0 w).1 = false) : (scanBytes A q 0 w).2 = w.length := by
  induction w generalizing q with
  | nil => simp [scanBytes]
  | cons c w ih =>
    simp only [scanBytes] at h ⊢
    split
    · rename_i hm; rw [if_pos hm] at h; simp [hm] at h
    · rename_i hm
      rw [if_neg hm] at h
      rw [scan_shift] at h ⊢
      have := ih _ h
      simp only [List.length_cons]; omega

theorem scan_pos (A : Aut σ α) (q : σ) (w : List α) (hq : A.isMatch q = false)
    (h : A.isMatch (scanBytes A q 0 w).1 = true) : 0 < (scanBytes A q 0 w).2 := by
  cases w with
  | nil => simp [scanBytes, hq] at h
  | cons c w =>
    simp only [scanBytes]
    split
    · simp
    · rw [scan_shift]; simp only; omega

theorem scan_append (A : Aut σ α) (q : σ) (u v : List α) (hq : A.isMatch q = false) :
    scanBytes A q 0 (u ++ v) =
      if A.isMatch (scanBytes A q 0 u).1 then scanBytes A q 0 u
      else ((scanBytes A (scanBytes A q 0 u).1 0 v).1,
        u.length + (scanBytes A (scanBytes A q 0 u).1 0 v).2) := by
  induction u generalizing q with
  | nil => simp [scanBytes, hq]
  | cons c u ih =>
    simp only [scanBytes, List.cons_append]
    split
    · rfl
    · rename_i hm
      rw [scan_shift, ih _ (by simpa using hm), scan_shift A _ (0 + 1) u]
      simp only
      split
      · rfl
      · simp only [List.length_cons, Prod.mk.injEq, true_and]; omega

/-- the in-memory search from `r`, written with the stream's scan loop -/
def firstMatch (A : Aut σ α) (st0 : σ) (data : List α) (r : Nat) : Option Mat :=
  if A.isMatch (scanBytes A st0 0 (data.drop r)).1 then
    some (getMatch A (scanBytes A st0 0 (data.drop r)).1 0 (r + (scanBytes A st0 0 (data.drop r)).2))
  else none

/-- the state invariant of the stream scan: the search restarted at `r` is the search continued
from `sid` at `p` (`firstMatch` with `sid` for the start state), or has just ended there -/
def ScanAt (A : Aut σ α) (st0 : σ) (data : List α) (r p : Nat) (sid : σ) : Prop :=
  r ≤ p ∧ p ≤ data.length ∧
    firstMatch A st0 data r =
      if A.isMatch sid then some (getMatch A sid 0 p) else firstMatch A sid data p

theorem firstMatch_stop_le {A : Aut σ α} {q : σ} {data : List α} {r : Nat} {m : Mat}
    (hr : r ≤ data.length) (hf : firstMatch A q data r = some m) : m.stop ≤ data.length := by
  unfold firstMatch at hf
  split at hf
  · cases hf
    have := scan_le A q (data.drop r)
    simp only [getMatch, List.length_drop] at this ⊢
    omega
  · cases hf

theorem firstMatch_stop_gt {A : Aut σ α} {q : σ} {data : List α} {p : Nat} {m : Mat}
    (hq : A.isMatch q = false) (hf : firstMatch A q data p = some m) : p < m.stop := by
  unfold firstMatch at hf
  split at hf
  · rename_i hq'
    have := scan_pos A q _ hq hq'
    cases hf
    simp only [getMatch]
    omega
  · cases hf

theorem firstMatch_scan (A : Aut σ α) {q : σ} {data : List α} {p n : Nat}
    (hq : A.isMatch q = false) (hp : p ≤ n) (hn : n ≤ data.length) :
    firstMatch A q data p =
      if A.isMatch (scanBytes A q 0 (slice data p n)).1 then
        some (getMatch A (scanBytes A q 0 (slice data p n)).1 0
          (p + (scanBytes A q 0 (slice data p n)).2))
      else firstMatch A (scanBytes A q 0 (slice data p n)).1 data
        (p + (scanBytes A q 0 (slice data p n)).2) := by
  conv => lhs; rw [firstMatch, ← slice_append_drop data hp, scan_append _ _ _ _ hq]
  cases hm : A.isMatch (scanBytes A q 0 (slice data p n)).1 with
  | true => rw [if_pos rfl, if_pos hm, if_pos rfl]
  | false =>
    have hk := scan_end A q _ hm
    rw [if_neg Bool.false_ne_true, if_neg Bool.false_ne_true, hk, firstMatch]
    simp only [slice_length _ _ _ hn, ← Nat.add_assoc, Nat.add_sub_cancel' hp]

theorem ScanAt.init (A : Aut σ α) {st0 : σ} (h0 : A.isMatch st0 = false) (data : List α) {r : Nat}
    (h : r ≤ data.length) : ScanAt A st0 data r r st0 :=
  ⟨Nat.le_refl _, h, by rw [h0, if_neg Bool.false_ne_true]⟩

theorem ScanAt.extend {A : Aut σ α} {st0 : σ} {data : List α} {r p : Nat} {sid : σ}
    (h : ScanAt A st0 data r p sid) (hm : A.isMatch sid = false) {n : Nat} (hn : p ≤ n)
    (hnN : n ≤ data.length) :
    ScanAt A st0 data r (p + (scanBytes A sid 0 (slice data p n)).2)
      (scanBytes A sid 0 (slice data p n)).1 := by
  have hk := scan_le A sid (slice data p n)
  rw [slice_length _ _ _ hnN] at hk
  have := h.1
  refine ⟨by omega, by omega, ?_⟩
  rw [h.2.2, hm, if_neg Bool.false_ne_true]
  exact firstMatch_scan A hm hn hnN

theorem ScanAt.firstMatch_of_match {A : Aut σ α} {st0 : σ} {data : List α} {r p : Nat} {sid : σ}
    (h : ScanAt A st0 data r p sid) (hm : A.isMatch sid = true) :
    firstMatch A st0 data r = some (getMatch A sid 0 p) :=
  h.2.2.trans (if_pos hm)

theorem ScanAt.firstMatch_of_not {A : Aut σ α} {st0 : σ} {data : List α} {r p : Nat} {sid : σ}
    (h : ScanAt A st0 data r p sid) (hm : A.isMatch sid = false) :
    firstMatch A st0 data r = firstMatch A sid data p :=
  h.2.2.trans (by rw [hm, if_neg Bool.false_ne_true])

theorem ScanAt.firstMatch_none {A : Aut σ α} {st0 : σ} {data : List α} {r : Nat} {sid : σ}
    (h : ScanAt A st0 data r data.length sid) (hm : A.isMatch sid = false) :
    firstMatch A st0 data r = none := by
  rw [h.firstMatch_of_not hm, firstMatch, List.drop_length]
  exact if_neg (by rw [show (scanBytes A sid 0 []).1 = sid from rfl, hm]; exact Bool.false_ne_true)

end AcVerif.StreamP
