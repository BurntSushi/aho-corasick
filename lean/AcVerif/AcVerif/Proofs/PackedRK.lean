import AcVerif.Proofs.PackedPatterns
/-!
# Packed searchers: Rabin-Karp (helpers for C06)

* the rolling hash is the direct hash of the current window (`rk_roll`, a ring
  identity in `UInt64`);
* the hash buckets are `order` filtered by bucket index (`rk_buckets`, by the fold fact
  `foldl_modify_getD`);
* at an offset whose window hash is known, scanning the bucket yields `bestAt`
  (`bucket_find`): every pattern occurring there has the window's hash;
* hence `findAt` is a left-to-right scan (`findAt_scan`), and with `isFind_of_scan` its result on
  `hay.take en` from `st` is `IsFind` on the span `st .. en` (`findAt_isFind`).
-/
namespace AcVerif
namespace PackedP

/-! ## the rolling hash -/

theorem shl1 (h : UInt64) : h <<< 1 = h * 2 := by
  apply UInt64.toNat_inj.1
  rw [UInt64.toNat_shiftLeft, UInt64.toNat_mul]
  simp [Nat.shiftLeft_eq]

/-- `2^k` in `UInt64` -/
def p2 : Nat → UInt64
  | 0 => 1
  | k + 1 => p2 k * 2

theorem h2p_eq (k : Nat) (a : UInt64) :
    (List.range k).foldl (fun (h : UInt64) _ => h <<< 1) a = a * p2 k := by
  induction k with
  | zero => simp [p2]
  | succ k ih =>
    rw [List.range_succ, List.foldl_append, ih]
    simp only [List.foldl_cons, List.foldl_nil, shl1, p2]
    grind

theorem rkFold_eq (bs : PBytes) (h0 : UInt64) :
    bs.foldl (fun (h : UInt64) (b : UInt8) => (h <<< 1) + b.toUInt64) h0 =
      h0 * p2 bs.length + bs.foldl (fun (h : UInt64) (b : UInt8) => (h <<< 1) + b.toUInt64) 0 := by
  induction bs generalizing h0 with
  | nil => simp [p2]
  | cons b bs ih =>
    simp only [List.foldl_cons, List.length_cons, p2]
    rw [ih, ih ((0 : UInt64) <<< 1 + b.toUInt64)]
    simp only [shl1]
    grind

theorem rk_roll (x y : UInt8) (w : PBytes) :
    rkUpdate (p2 w.length) (rkHash (x :: w)) x y = rkHash (w ++ [y]) := by
  unfold rkUpdate rkHash
  rw [List.foldl_append, List.foldl_cons, rkFold_eq]
  simp only [List.foldl_cons, List.foldl_nil, shl1]
  grind

/-! ## bucket tables built by `modify … (· ++ [x])` -/

theorem foldl_modify_length {ι β : Type} (g : ι → Nat) (e : ι → β) (l : List ι)
    (bs0 : List (List β)) :
    (l.foldl (fun bs x => bs.modify (g x) (· ++ [e x])) bs0).length = bs0.length := by
  induction l generalizing bs0 with
  | nil => rfl
  | cons y ys ih => rw [List.foldl_cons, ih, List.length_modify]

theorem foldl_modify_getD {ι β : Type} (g : ι → Nat) (e : ι → β) (l : List ι)
    (bs0 : List (List β)) (b : Nat) (hb : b < bs0.length) :
    (l.foldl (fun bs x => bs.modify (g x) (· ++ [e x])) bs0).getD b [] =
      bs0.getD b [] ++ (l.filter (fun x => g x == b)).map e := by
  induction l generalizing bs0 with
  | nil => simp
  | cons y ys ih =>
    rw [List.foldl_cons, ih _ (by rw [List.length_modify]; exact hb), List.getD_modify,
      List.filter_cons]
    by_cases hy : g y = b
    · simp [hy, hb]
    · simp [hy]

/-! ## the searcher -/

/-- the hash of pattern `id` as stored in the table -/
def hOf (p : PPatterns) (id : Nat) : UInt64 := rkHash ((p.get id).take p.minLen)

variable (kind : PKind) (pats : List PBytes)

theorem rk_pats : (RabinKarp.new (PPatterns.new kind pats)).pats = PPatterns.new kind pats := rfl

theorem rk_hash2pow (p : PPatterns) : (RabinKarp.new p).hash2pow = p2 (p.minLen - 1) := by
  show (List.range (p.minLen - 1)).foldl (fun (h : UInt64) _ => h <<< 1) 1 = _
  rw [h2p_eq]; grind

theorem rk_buckets (p : PPatterns) (b : Nat) (hb : b < 64) :
    (RabinKarp.new p).buckets.getD b [] =
      (p.order.filter (fun id => (hOf p id % 64).toNat == b)).map (fun id => (hOf p id, id)) := by
  show (p.order.foldl (fun bs id =>
      bs.modify (hOf p id % 64).toNat (· ++ [(hOf p id, id)])) (List.replicate 64 [])).getD b [] = _
  rw [foldl_modify_getD (fun id => (hOf p id % 64).toNat) (fun id => (hOf p id, id)) _ _ b
    (by rw [List.length_replicate]; exact hb), List.getD_replicate _ _ _ _ hb]
  rfl

theorem mod64_lt (h : UInt64) : (h % 64).toNat < 64 :=
  UInt64.toNat_mod_lt h (by decide)

theorem bucket_find (p : PPatterns) (hmin : ∀ id ∈ p.order, p.minLen ≤ (p.get id).length)
    (hay : PBytes) (at_ : Nat) (hash : UInt64)
    (hh : hash = rkHash ((hay.drop at_).take p.minLen)) :
    ((RabinKarp.new p).buckets.getD (hash % 64).toNat []).findSome?
      (fun (ph, pid) =>
        if ph == hash && isPrefixAt ((RabinKarp.new p).pats.get pid) hay at_ then
          some ({ pid := pid, start := at_,
                  stop := at_ + ((RabinKarp.new p).pats.get pid).length } : Mat)
        else none) = bestAt p hay at_ := by
  rw [rk_buckets p _ (mod64_lt hash), List.findSome?_map, List.findSome?_filter]
  apply List.findSome?_congr
  intro id hid
  show (if (hOf p id % 64).toNat == (hash % 64).toNat then
      if hOf p id == hash && isPrefixAt (p.get id) hay at_ then _ else none else none) = vf p hay at_ id
  unfold vf
  by_cases hpre : isPrefixAt (p.get id) hay at_ = true
  · have hEq : hOf p id = hash := by
      unfold hOf
      rw [hh, (List.isPrefixOf_iff_prefix.1 hpre).take_eq (hmin id hid)]
    rw [hEq, hpre, beq_self_eq_true, beq_self_eq_true, if_pos rfl, if_pos rfl]
    rfl
  · rw [if_neg hpre, Bool.eq_false_iff.2 hpre, Bool.and_false, if_neg Bool.false_ne_true]
    split <;> rfl

theorem loop_succ (rk : RabinKarp) (hay : PBytes) (fuel at_ : Nat) (hash : UInt64) :
    rk.loop hay (fuel + 1) at_ hash =
      match (rk.buckets.getD (hash % 64).toNat []).findSome? fun (ph, pid) =>
        if ph == hash && isPrefixAt (rk.pats.get pid) hay at_ then
          some ({ pid := pid, start := at_, stop := at_ + (rk.pats.get pid).length } : Mat)
        else none with
      | some m => some m
      | none =>
        if at_ + rk.hashLen ≥ hay.length then none
        else rk.loop hay fuel (at_ + 1)
          (rkUpdate rk.hash2pow hash (hay.getD at_ 0) (hay.getD (at_ + rk.hashLen) 0)) := rfl

theorem window_cons (hay : PBytes) (at_ k : Nat) (h : at_ + (k + 1) ≤ hay.length) :
    (hay.drop at_).take (k + 1) = hay.getD at_ 0 :: (hay.drop (at_ + 1)).take k := by
  have hlt : at_ < hay.length := by omega
  rw [List.drop_eq_getElem_cons hlt, List.take_succ_cons, List.getD_eq_getElem?_getD,
    List.getElem?_eq_getElem hlt]
  rfl

theorem window_snoc (hay : PBytes) (at_ k : Nat) (h : at_ + k < hay.length) :
    (hay.drop at_).take (k + 1) = (hay.drop at_).take k ++ [hay.getD (at_ + k) 0] := by
  rw [List.take_add_one, List.getElem?_drop, List.getD_eq_getElem?_getD, List.getElem?_eq_getElem h]
  rfl

theorem loop_scan (p : PPatterns) (hmin : ∀ id ∈ p.order, p.minLen ≤ (p.get id).length)
    (hpos : 0 < p.minLen) (hay : PBytes) (fuel at_ : Nat) (hash : UInt64)
    (hh : hash = rkHash ((hay.drop at_).take p.minLen)) (hfit : at_ + p.minLen ≤ hay.length)
    (hfuel : hay.length + 1 ≤ fuel + at_) :
    Scan p hay at_ (hay.length + 1 - p.minLen) ((RabinKarp.new p).loop hay fuel at_ hash) := by
  induction fuel generalizing at_ hash with
  | zero => omega
  | succ fuel ih =>
    have hone := scan_one p hay at_
    rw [loop_succ, bucket_find p hmin hay at_ hash hh]
    generalize bestAt p hay at_ = r at hone ⊢
    cases r with
    | some m => exact hone
    | none =>
      show Scan _ _ _ _ (if at_ + p.minLen ≥ hay.length then none else _)
      split
      · exact scan_none_mono (by omega) hone
      · obtain ⟨k, hk⟩ : ∃ k, p.minLen = k + 1 := ⟨p.minLen - 1, by omega⟩
        have hroll : rkUpdate (RabinKarp.new p).hash2pow hash (hay.getD at_ 0)
            (hay.getD (at_ + p.minLen) 0) = rkHash ((hay.drop (at_ + 1)).take p.minLen) := by
          rw [rk_hash2pow, hh, hk, window_cons hay at_ k (by omega),
            window_snoc hay (at_ + 1) k (by omega), ← rk_roll]
          have hl : ((hay.drop (at_ + 1)).take k).length = k := by
            rw [List.length_take, List.length_drop]; omega
          rw [hl, show at_ + 1 + k = at_ + (k + 1) by omega]
          rfl
        exact scan_append (Nat.le_succ _) hone (ih (at_ + 1) _ hroll (by omega) (by omega))

theorem findAt_scan (p : PPatterns) (hmin : ∀ id ∈ p.order, p.minLen ≤ (p.get id).length)
    (hpos : 0 < p.minLen) (hay : PBytes) (st : Nat) :
    Scan p hay st (hay.length + 1 - p.minLen) ((RabinKarp.new p).findAt hay st) := by
  show Scan _ _ _ _ (if st + p.minLen > hay.length then none else _)
  split
  · intro pos h1 h2; omega
  · exact loop_scan p hmin hpos hay _ st _ rfl (by omega) (by omega)

theorem findAt_isFind (hnz : ∀ p ∈ pats, p ≠ []) (hay : PBytes) (st en : Nat)
    (hen : en ≤ hay.length) :
    IsFind kind.toMatchKind pats hay st en false
      ((RabinKarp.new (PPatterns.new kind pats)).findAt (hay.take en) st) := by
  have h := findAt_scan _ (new_minLen_le kind pats) (minLen_pos kind pats hnz) (hay.take en) st
  rw [List.length_take, Nat.min_eq_left hen] at h
  exact isFind_of_scan kind pats hnz hay st en _ (Nat.le_refl _) _ h

end PackedP
end AcVerif
