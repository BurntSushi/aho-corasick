import AcVerif.Proofs.TopLevel2Stream
/-!
# Capstone proofs: exactly which requests are rejected, and with which error (C13)

* `*_err`: the only `MatchError`s the engines can return – the unsupported anchoring mode of
  `start_state`, the match-kind tests, the empty-pattern test – as equations for `matchErrOf`;
* `gate_*`: the verdict function `gate` of `Engine/Gates.lean`, written out per entry point;
* `gated`: every public method is the anchoring gate in front of a call on the automaton;
  `Good.startErr_none`, `Good.chunkIterNew_err`: behind the gate, on a searcher returned by the
  builder, `start_state` succeeds and `StreamChunkIter::new` tests the match kind and the empty
  pattern only.  `TopP.Good.reject` (`Theorems/TopLevel2.lean`) assembles them: the error of each
  public method is `gate` of the configuration.
-/
namespace AcVerif.TopP
open AcVerif AcVerif.MiscP AcVerif.BuildP AcVerif.StreamX
variable {σ α : Type}

/-! ## the engines -/

/-- what `start_state(anchored)?` contributes -/
def startErr (A : Aut σ α) (a : Bool) : Option MatchErr :=
  match A.start a with
  | none => some (anchErr a)
  | some _ => none

theorem startErr_some {A : Aut σ α} {a : Bool} {q : σ} (h : A.start a = some q) :
    startErr A a = none := by
  unfold startErr; rw [h]

theorem findImp_err (A : Aut σ α) (i : Input α) (pre : Option (Prefilter α)) (anch ea : Bool) :
    matchErrOf (findImp A i pre anch ea) = startErr A i.anch := by
  unfold findImp startErr
  cases A.start i.anch with
  | none => rfl
  | some sid =>
    simp only
    split
    · rfl
    · cases pre with
      | none => rfl
      | some p =>
        simp only
        cases p i.hay i.s i.e <;> rfl

theorem tryFindFwd_err (A : Aut σ α) (pre : Option (Prefilter α)) (i : Input α) :
    matchErrOf (tryFindFwd A pre i) = startErr A i.anch := by
  unfold tryFindFwd
  split
  · unfold startErr
    cases A.start i.anch <;> rfl
  · simp only
    split <;> exact findImp_err _ _ _ _ _

theorem findIter_err (A : Aut σ α) (pre : Option (Prefilter α)) (i : Input α) :
    matchErrOf (findIter A pre i) = startErr A i.anch := by
  unfold findIter startErr
  cases A.start i.anch <;> rfl

theorem ovlImp_err (A : Aut σ α) (i : Input α) (pre : Option (Prefilter α)) (st : OState σ)
    {q : σ} (hq : A.start i.anch = some q) : matchErrOf (ovlImp A i pre st) = none := by
  unfold ovlImp
  cases st.id with
  | none =>
    simp only [hq]
    split <;> rfl
  | some sid =>
    simp only
    cases st.nextIdx with
    | none => rfl
    | some idx =>
      simp only
      split <;> rfl

theorem tryFindOverlappingFwd_err (A : Aut σ α) (pre : Option (Prefilter α)) (i : Input α)
    (st : OState σ) {q : σ} (hq : A.start i.anch = some q) :
    matchErrOf (tryFindOverlappingFwd A pre i st) =
      if A.kind != .std then some .unsupportedOverlapping else none := by
  unfold tryFindOverlappingFwd
  simp only
  split
  · rfl
  · split
    · rw [hq]; rfl
    · split <;> exact ovlImp_err _ _ _ _ hq

theorem chunkIterNew_err (A : Aut σ α) (rdr : Reader α) (spare : Option Nat)
    (minFactor defaultCap : Nat) :
    matchErrOf (ChunkIter.new A rdr spare minFactor defaultCap) =
      if A.kind != .std then some .unsupportedStream
      else if A.minLen == 0 then some .unsupportedEmpty
      else startErr A false := by
  unfold ChunkIter.new startErr
  split
  · rfl
  · split
    · rfl
    · cases A.start false <;> rfl

theorem streamFind_err (A : Aut σ α) (rdr : Reader α) (spare : Option Nat)
    (minFactor defaultCap : Nat) :
    matchErrOf (streamFind A rdr spare minFactor defaultCap) =
      matchErrOf (ChunkIter.new A rdr spare minFactor defaultCap) := by
  unfold streamFind
  cases ChunkIter.new A rdr spare minFactor defaultCap with
  | error e => rfl
  | ok it => rfl

theorem streamReplaceWith_err (A : Aut σ α) (rdr : Reader α) (spare : Option Nat)
    (w : Writer α) (repl : Mat → List α) (minFactor defaultCap : Nat) :
    matchErrOf (streamReplaceWith A rdr spare w repl minFactor defaultCap) =
      matchErrOf (ChunkIter.new A rdr spare minFactor defaultCap) := by
  unfold streamReplaceWith
  cases ChunkIter.new A rdr spare minFactor defaultCap with
  | error e => rfl
  | ok it => rfl

/-! ## `gate`, per entry point -/

/-- the shape of `gate`: once `enforce_anchored_consistency` has passed, the same test at the end
of `gateAut` passes too -/
theorem gate_tail (x : Option MatchErr) (f : Option MatchErr → Option MatchErr) :
    (match x with | some e => some e | none => f x) =
      match x with | some e => some e | none => f none := by
  cases x <;> rfl

theorem gate_plain (mk : MatchKind) (sk : StartKind) (a he : Bool) :
    gate .find mk sk a he = anchoredGate sk a ∧
    gate .isMatch mk sk a he = anchoredGate sk a ∧
    gate .findIter mk sk a he = anchoredGate sk a ∧
    gate .replaceAllBytes mk sk a he = anchoredGate sk false ∧
    gate .replaceAllWithBytes mk sk a he = anchoredGate sk false := by
  have key : ∀ x : Option MatchErr, (match x with | some e => some e | none => x) = x := by
    intro x; cases x <;> rfl
  exact ⟨key _, key _, key _, key _, key _⟩

theorem gate_overlapping (mk : MatchKind) (sk : StartKind) (a he : Bool) :
    gate .findOverlapping mk sk a he =
      match anchoredGate sk a with
      | some e => some e
      | none => if mk != .std then some .unsupportedOverlapping else none :=
  gate_tail (anchoredGate sk a) fun g => if mk != .std then some .unsupportedOverlapping else g

theorem gate_overlapping_iter (mk : MatchKind) (sk : StartKind) (a he : Bool) :
    gate .findOverlappingIter mk sk a he =
      match anchoredGate sk a with
      | some e => some e
      | none =>
        if mk != .std then some .unsupportedOverlapping
        else if a then some .invalidInputAnchored else none :=
  gate_tail (anchoredGate sk a) fun g =>
    if mk != .std then some .unsupportedOverlapping
    else if a then some .invalidInputAnchored else g

theorem gate_stream (api : Api) (hapi : api.isStream = true) (mk : MatchKind) (sk : StartKind)
    (a he : Bool) :
    gate api mk sk a he =
      match anchoredGate sk false with
      | some e => some e
      | none =>
        if mk != .std then some .unsupportedStream
        else if he then some .unsupportedEmpty else none := by
  cases api <;> first
    | exact absurd hapi (by decide)
    | exact gate_tail (anchoredGate sk false) fun g =>
        if mk != .std then some .unsupportedStream else if he then some .unsupportedEmpty else g

theorem topOverlapping_err_iff (s : Searcher) (i : Input UInt8) (n : Nat) (e : MatchErr) :
    topOverlapping s i (n + 1) = [.error e] ↔ matchErrOf (topOvlCall s i OState.start) = some e := by
  unfold topOverlapping
  simp only [topOvlCalls]
  cases topOvlCall s i OState.start <;> simp [matchErrOf]

theorem gated {β : Type} (sk : StartKind) (a : Bool) (body : Except MatchErr β)
    (t : Option MatchErr) (hb : supportsAnch sk a → matchErrOf body = t) :
    matchErrOf (match anchoredGate sk a with | some e => .error e | none => body) =
      match anchoredGate sk a with | some e => some e | none => t := by
  by_cases h : supportsAnch sk a
  · rw [gate_none h]; exact hb h
  · rw [gate_err h]; rfl

/-! ## behind the gate, on a searcher returned by the builder -/

section good
variable {s : Searcher} {kd : AcKind} (hg : Good s kd)
include hg

theorem Good.startErr_none {a : Bool} (h : supportsAnch s.cfg.startKind a) :
    startErr s.aut a = none := by
  obtain ⟨q, hq⟩ := hg.start_isSome h
  exact startErr_some hq

theorem Good.chunkIterNew_err (rdr : Reader UInt8) (spare : Option Nat)
    (minFactor defaultCap : Nat) (h : supportsAnch s.cfg.startKind false) :
    matchErrOf (ChunkIter.new s.aut rdr spare minFactor defaultCap) =
      if s.cfg.matchKind != .std then some .unsupportedStream
      else if hasEmptyPat s.pats then some .unsupportedEmpty else none := by
  rw [TopP.chunkIterNew_err, aut_kind', hg.startErr_none h, aut_minLen_eq_zero]

end good

end AcVerif.TopP
