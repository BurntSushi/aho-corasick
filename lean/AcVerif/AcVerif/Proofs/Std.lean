import AcVerif.Proofs.StdIdeal
import AcVerif.Proofs.EngSpan
import AcVerif.Proofs.Common
/-!
# Standard semantics: the ideal automaton's searches meet the specification

`allMatches` of the ideal standard automaton is *the* overlapping enumeration
(`isOverlapList_allMatches`); the non-overlapping search returns its head,
which is the `IsFind .std` answer (`isFind_head`, `find_std`).  The step between the two
views is `mem_repAt_run`: what is reported at the position reached after consuming `w` are the
admissible occurrences in `w` that end at its end; it rests on `repAt_eq_filter` (the match
lists are sorted by `outOrd`, along which the anchored filter is monotone, so the `takeWhile`
of `repAt` loses nothing).
-/
namespace AcVerif.StdP
open AcVerif

theorem isFind_head {α : Type} [DecidableEq α] {P : List (List α)} {hay : List α} {s e : Nat}
    {anch : Bool} {l : List Mat} (h : IsOverlapList P hay s e anch l) :
    IsFind .std P hay s e anch l.head? :=
  isFind_iff_best.2 (IsEnum.head EngP.betterStd_of_ovlBefore EngP.betterStd_refl h)

theorem stop_of_mem_repAt {σ α : Type} {A : Aut σ α} {s : Nat} {anch : Bool} {q : σ} {at_ : Nat}
    {m : Mat} (h : m ∈ repAt A s anch q at_) : m.stop = at_ := by
  simp only [repAt, List.mem_map] at h
  obtain ⟨pid, _, rfl⟩ := h
  rfl

section Ideal
variable {α : Type} [DecidableEq α] (P : List (List α)) (sk : StartKind)

omit [DecidableEq α] in
theorem not_occ_of_done (i : Input α) (hd : i.isDone = true) (m : Mat) :
    ¬ IsOccA P i.hay i.s i.e i.anch m :=
  fun h => EngP.not_occ_of_lt (of_decide_eq_true hd) m h.1

omit [DecidableEq α] in
theorem isOverlapList_nil_of_done (i : Input α) (hd : i.isDone = true) :
    IsOverlapList P i.hay i.s i.e i.anch [] :=
  ⟨List.Pairwise.nil, fun m => ⟨fun h => by simp at h, fun h => (not_occ_of_done P i hd m h).elim⟩⟩

theorem okPid_mono (s : Nat) (anch : Bool) (at_ : Nat)
    (a b : Nat) (hab : outOrd P a b)
    (hb : okPid (ideal .std P sk false) s anch at_ b = true) :
    okPid (ideal .std P sk false) s anch at_ a = true := by
  have h1 : (ideal .std P sk false).patLen a = lenOf P a := rfl
  have h2 : (ideal .std P sk false).patLen b = lenOf P b := rfl
  have hle : lenOf P b ≤ lenOf P a := by
    rcases hab with h | ⟨h, _⟩
    · exact Nat.le_of_lt h
    · exact Nat.le_of_eq h.symm
  cases anch with
  | false => rfl
  | true =>
    simp only [okPid, mk, h1, h2, Bool.true_and, Bool.not_eq_true', decide_eq_false_iff_not,
      Nat.not_lt] at hb ⊢
    exact Nat.le_trans (Nat.sub_le_sub_left hle _) hb

theorem repAt_eq_filter (s : Nat) (anch : Bool)
    (q : St α) (at_ : Nat) :
    repAt (ideal .std P sk false) s anch q at_ =
      (((ideal .std P sk false).mpats q).filter
        (okPid (ideal .std P sk false) s anch at_)).map (mk (ideal .std P sk false) at_) := by
  unfold repAt
  congr 1
  exact (pairwise_out P q).takeWhile_eq_filter (okPid_mono P sk s anch at_)

theorem mk_suffix (s : Nat) {pid : Nat} {p : List α}
    (hp : P[pid]? = some p) (u : List α) :
    mk (ideal .std P sk false) (s + (u ++ p).length) pid = LmP.matOf s (p, pid) u.length := by
  have hl : (ideal .std P sk false).patLen pid = p.length := lenOf_eq hp
  simp only [mk, hl, LmP.matOf, List.length_append, Mat.mk.injEq, true_and]
  omega

theorem okPid_suffix (s : Nat) (anch : Bool) {pid : Nat}
    {p : List α} (hp : P[pid]? = some p) (u : List α) :
    okPid (ideal .std P sk false) s anch (s + (u ++ p).length) pid = true ↔
      (anch = true → u.length = 0) := by
  rw [okPid, mk_suffix P sk s hp]
  cases anch with
  | false => exact iff_of_true rfl (fun h => nomatch h)
  | true =>
    simp only [LmP.matOf, Bool.true_and, Bool.not_eq_true', decide_eq_false_iff_not, gt_iff_lt,
      Nat.lt_add_right_iff_pos, Nat.not_lt, Nat.le_zero_eq, forall_const]

theorem mem_repAt_run (s : Nat) (anch : Bool)
    (w : List α) {t : Nat} (ht : w.length = t) (m : Mat) :
    m ∈ repAt (ideal .std P sk false) s anch
        ((ideal .std P sk false).runFrom anch (.at []) w) (s + t) ↔
      ∃ q st, LmP.OccIn (enumPats P) w q st ∧ st + q.1.length = t ∧
        (anch = true → st = 0) ∧ m = LmP.matOf s q st := by
  subst ht
  rw [repAt_eq_filter]
  simp only [List.mem_map, List.mem_filter]
  constructor
  · rintro ⟨pid, ⟨hmem, hok⟩, rfl⟩
    obtain ⟨p, hp, u, rfl⟩ := mem_mpats_run hmem
    refine ⟨(p, pid), u.length, ⟨LmP.mem_enumPats.2 hp, ?_, ?_⟩, (List.length_append ..).symm,
      (okPid_suffix P sk s anch hp u).1 hok, mk_suffix P sk s hp u⟩
    · rw [List.length_append]; exact Nat.le_add_right _ _
    · rw [List.drop_left]; exact List.prefix_rfl
  · rintro ⟨q, st, ho, hend, ha, rfl⟩
    have hp : P[q.2]? = some q.1 := LmP.mem_enumPats.1 ho.1
    obtain ⟨u, rfl, rfl⟩ : ∃ u, w = u ++ q.1 ∧ st = u.length :=
      ⟨w.take st, by rw [ho.eq_drop (Nat.le_of_eq hend.symm), List.take_append_drop],
        (List.length_take_of_le ho.2.1).symm⟩
    refine ⟨q.2, ⟨?_, (okPid_suffix P sk s anch hp u).2 ha⟩, mk_suffix P sk s hp u⟩
    cases anch with
    | false => exact mem_mpats_run_unanch hp (List.suffix_append u q.1)
    | true =>
      rw [List.eq_nil_of_length_eq_zero (ha rfl), List.nil_append]
      exact mem_mpats_run_anch hp

theorem pairwise_repAt_run (s : Nat) (anch : Bool)
    (w : List α) :
    (repAt (ideal .std P sk false) s anch
        ((ideal .std P sk false).runFrom anch (.at []) w) (s + w.length)).Pairwise ovlBefore := by
  unfold repAt
  rw [List.pairwise_map]
  have hsub := List.takeWhile_sublist (l := (ideal .std P sk false).mpats
    ((ideal .std P sk false).runFrom anch (.at []) w))
    (okPid (ideal .std P sk false) s anch (s + w.length))
  refine ((pairwise_out P _).sublist hsub).imp_of_mem ?_
  intro a b ha hb hab
  obtain ⟨pa, hpa, hsa⟩ := mem_mpats_run (hsub.subset ha)
  obtain ⟨pb, hpb, _⟩ := mem_mpats_run (hsub.subset hb)
  have hla : (ideal .std P sk false).patLen a = pa.length := lenOf_eq hpa
  have hlb : (ideal .std P sk false).patLen b = pb.length := lenOf_eq hpb
  unfold outOrd at hab
  rw [lenOf_eq hpa, lenOf_eq hpb] at hab
  refine Or.inr ⟨rfl, ?_⟩
  simp only [mk, hla, hlb]
  rcases hab with h | ⟨h, h'⟩
  · -- the longer pattern starts earlier
    exact Or.inl (Nat.sub_lt_sub_left
      (Nat.lt_of_lt_of_le h (Nat.le_trans hsa.length_le (Nat.le_add_left _ _))) h)
  · exact Or.inr ⟨by rw [h], h'⟩

theorem occIn_iff_take {Q : PatSet α} {T : List α} {q : List α × Nat} {st : Nat} :
    LmP.OccIn Q T q st ↔
      ∃ t, t ≤ T.length ∧ LmP.OccIn Q (T.take t) q st ∧ st + q.1.length = t := by
  constructor
  · intro ho
    have hl := ho.len_le
    exact ⟨_, hl, LmP.OccIn.of_append (r := T.drop (st + q.1.length))
      (by rwa [List.take_append_drop]) (Nat.le_of_eq (List.length_take_of_le hl).symm), rfl⟩
  · rintro ⟨t, _, ho, _⟩
    have := ho.append (T.drop t)
    rwa [List.take_append_drop] at this

theorem isOverlapList_allMatches (i : Input α)
    (hd : i.isDone = false) :
    IsOverlapList P i.hay i.s i.e i.anch
      (allMatches (ideal .std P sk false) i.s i.anch (.at []) ((i.hay.take i.e).drop i.s)) := by
  have hse : i.s ≤ i.e := Nat.le_of_not_lt (of_decide_eq_false hd)
  rw [allMatches_eq_flatMap]
  constructor
  · rw [List.pairwise_flatMap]
    constructor
    · intro t ht
      have hlen := List.length_take_of_le (Nat.le_of_lt_succ (List.mem_range.1 ht))
      have := pairwise_repAt_run P sk i.s i.anch (((i.hay.take i.e).drop i.s).take t)
      rwa [hlen] at this
    · refine List.pairwise_lt_range.imp ?_
      intro t1 t2 hlt x hx y hy
      left
      rw [stop_of_mem_repAt hx, stop_of_mem_repAt hy]
      exact Nat.add_lt_add_left hlt _
  · intro m
    rw [← LmP.admQ_enum_iff, LmP.admQ_iff i.valid.1 hse]
    simp only [List.mem_flatMap, List.mem_range, Nat.lt_succ_iff]
    constructor
    · rintro ⟨t, ht, hm⟩
      obtain ⟨q, st, ho, hend, ha, hm⟩ :=
        (mem_repAt_run P sk i.s i.anch _ (List.length_take_of_le ht) m).1 hm
      exact ⟨q, st, occIn_iff_take.2 ⟨t, ht, ho, hend⟩, ha, hm⟩
    · rintro ⟨q, st, ho, ha, hm⟩
      obtain ⟨t, ht, ho', hend⟩ := occIn_iff_take.1 ho
      exact ⟨t, ht, (mem_repAt_run P sk i.s i.anch _ (List.length_take_of_le ht) m).2
        ⟨q, st, ho', hend, ha, hm⟩⟩

theorem find_std (i : Input α)
    (h : supportsAnch sk i.anch) (hd : i.isDone = false) :
    ∃ r, tryFindFwd (ideal .std P sk false) none i = .ok r ∧
      IsFind .std P i.hay i.s i.e i.anch r :=
  ⟨_, tryFindFwd_eq (stdLike_ideal P sk) i (LmP.start_root .std P false h) hd,
    isFind_head (isOverlapList_allMatches P sk i hd)⟩

end Ideal

end AcVerif.StdP
