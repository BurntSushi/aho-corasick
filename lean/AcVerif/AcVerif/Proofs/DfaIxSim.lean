import AcVerif.Proofs.DfaOne
/-!
# The simulation at the level of row indices

Both representations of the DFA keep one row per DFA state and find the row of a state by an index.
`IxSim … W rows ms iU iA ix g`: `ix s` is the index of the row (and of the match list) of the live
NFA state `s`, the id of that DFA state is `g s = ix s * W`, and the entry of the row for the class
of `b` is the id of the state `next_state` leads to; `iU`, `iA` are the indices of the start
states.  With `W = 1` ids are indices: that is the DFA of `DfaModel.lean`, whose flags are read off
the match lists (`IxSim.obsEquiv_M`).  With `W = 2 ^ stride2` it is the stored DFA
(`IxSim.toSim` in `DfaIdsSim`).
-/
namespace AcVerif.L1dP
open AcVerif AcVerif.CNfa AcVerif.L1cP AcVerif.L1eP AcVerif.L1dIdsP

structure IxSim (N : CNfa) (L : List (List UInt8)) (anch : Bool) (cls : UInt8 → Nat) (W : Nat)
    (rows : Array (Array Nat)) (ms : Array (List Nat)) (iU iA : Nat) (ix g : Nat → Nat) : Prop where
  id : ∀ s, LvA L anch s → g s = ix s * W
  step : ∀ s, LvA L anch s → ∀ b,
    (rows.getD (ix s) #[]).getD (cls b) 0 = g (nextState N anch (N.size + 1) s b 0).1
  mats : ∀ s, LvA L anch s → ms.getD (ix s) [] = (N.getD s {}).matches_
  dead : ∀ s, LvA L anch s → (ix s = 0 ↔ s = 0)
  start : (if anch then iA else iU) = ix (startOf anch)
  isStart : ∀ s, LvA L anch s → s ≠ 0 → ((ix s = iU ∨ ix s = iA) ↔ s = startOf anch)

section
variable {f : UInt8 → UInt8} {k : MatchKind} {Q : PatSet UInt8} {L : List (List UInt8)} {N : CNfa}

theorem IxSim.obsEquiv_M {d : DfaM} {anch : Bool} {iU iA : Nat} {ix g : Nat → Nat}
    (hI : IxSim N L anch d.classOf 1 d.rows d.matches_ iU iA ix g) (h : NfaSpec f k Q L N)
    (hU : d.startU = some iU) (hA : d.startA = some iA) (hU0 : iU ≠ 0) (hA0 : iA ≠ 0)
    (hd : d.dead = 0) (P : List (List UInt8)) (hasPre : Bool) :
    ObsEquiv (d.toAut k P hasPre) (N.toAut k P hasPre) false anch (g (startOf anch))
      (startOf anch) := by
  have hg : ∀ s, LvA L anch s → g s = ix s := fun s hv => (hI.id s hv).trans (Nat.mul_one _)
  refine (renames_of_live h P hasPre (g := g) fun s hv c => ?_).obsEquiv
    (fun s ⟨_, hr⟩ => ?_) ⟨_, Rel_start L anch⟩
  · rw [DfaM.toAut_next, hd, hg s hv]
    exact hI.step s hv c
  · have hv := LvA.of_Rel hr
    rw [hg s hv]
    refine DfaM.obs_eq d N k P hasPre ?_ (hI.mats s hv) ?_
    · rw [hd, Bool.eq_iff_iff, beq_iff_eq, beq_iff_eq]; exact hI.dead s hv
    · rw [hU, hA, LvA.ne_other h hv, Bool.eq_iff_iff]
      simp only [Bool.or_eq_true, beq_iff_eq, Option.some.injEq]
      by_cases e : s = 0
      · have := (hI.dead s hv).2 e
        constructor
        · rintro (e' | e') <;> omega
        · intro e'; rw [e'] at e; cases anch <;> cases e
      · exact hI.isStart s hv e

end

end AcVerif.L1dP
