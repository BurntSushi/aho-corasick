import AcVerif.Proofs.ContigLayout
import AcVerif.Proofs.ShuffleFlags
/-!
# L1e proofs: the new ids

`cNewId n dd bc s` is the offset of the shuffled position `posOf n s` of `s` (`cNewId_eq`); `FAIL`
keeps its number (the sentinel of dense rows, `cNewId_fail`), no other state gets the number 1
(`cNewId_ne_one`), the dead state gets 0 (`cNewId_dead`); the words of `cRepr` at `cNewId n dd bc s`
are `wOf n dd bc s`, `State::write` of `s` (`slice_state`); the new ids are ordered as the positions (`cNewId_le_iff`),
so different states have different ids (`cNewId_inj`).
-/
namespace AcVerif.L1eP
open AcVerif AcVerif.CNfa AcVerif.L1cP AcVerif.L1dP

section
variable {n : CNfa} (hS : ShufOK n) (dd : Nat) (bc : Bool)

def wOf (n : CNfa) (dd : Nat) (bc : Bool) (s : Nat) : List Nat :=
  writeState (clsOf n bc) (ncOf n bc) (n.getD s {}) (cNewId n dd bc)
    (decide ((storedDepths n).getD s 0 < dd))

include hS

theorem cNewId_eq {s : Nat} (hs : s < n.size) (h1 : s ≠ 1) :
    cNewId n dd bc s = offAt n dd bc (posOf n s) := by
  have := posOf_ne_one hS hs h1
  unfold cNewId
  unfold posOf at this ⊢
  rw [cOffsets_getD n dd bc (hS.pos_lt s hs), if_neg this]

theorem cNewId_fail : cNewId n dd bc 1 = 1 := by
  have h4 := hS.na_ge
  have h5 := hS.na_le
  unfold cNewId
  rw [hS.pos1, cOffsets_getD n dd bc (by omega), if_pos rfl]

theorem cNewId_dead : cNewId n dd bc 0 = 0 := by
  have h4 := hS.na_ge
  have h5 := hS.na_le
  rw [cNewId_eq hS dd bc (by omega) (by omega)]
  unfold posOf
  rw [hS.pos0]; rfl

theorem cNewId_big {s : Nat} (hs : n.size ≤ s) : cNewId n dd bc s = 0 := by
  have h4 := hS.na_ge
  have h5 := hS.na_le
  unfold cNewId
  have : (cPos n).getD s 0 = 0 := Array.getD_of_size_le _ _ (by rw [hS.size_pos]; exact hs)
  rw [this, cOffsets_getD n dd bc (by omega), if_neg (by omega)]
  rfl

theorem cNewId_zero_iff {s : Nat} (hs : s < n.size) (h1 : s ≠ 1) :
    cNewId n dd bc s = 0 ↔ s = 0 := by
  constructor
  · intro e
    rw [cNewId_eq hS dd bc hs h1] at e
    by_cases e0 : posOf n s = 0
    · have h4 := hS.na_ge
      have h5 := hS.na_le
      apply posOf_inj hS hs (by omega)
      rw [e0]; unfold posOf; rw [hS.pos0]
    · have := offAt_lt n dd bc (show 0 < posOf n s by omega) (by omega)
      omega
  · intro e; subst e; exact cNewId_dead hS dd bc

theorem cNewId_ne_one {s : Nat} (h1 : s ≠ 1) : cNewId n dd bc s ≠ 1 := by
  by_cases hs : s < n.size
  · rw [cNewId_eq hS dd bc hs h1]
    by_cases e0 : posOf n s = 0
    · rw [e0]; show (0 : Nat) ≠ 1; omega
    · have := offAt_lt n dd bc (show 0 < posOf n s by omega) (by omega)
      omega
  · rw [cNewId_big hS dd bc (by omega)]; omega

theorem cW_posOf (f : Nat → Nat) {s : Nat} (hs : s < n.size) :
    cW n dd bc f (posOf n s) =
      writeState (clsOf n bc) (ncOf n bc) (n.getD s {}) f (decide ((storedDepths n).getD s 0 < dd)) := by
  unfold cW posOf
  rw [hS.order_pos s hs]

theorem slice_state {s : Nat} (hs : s < n.size) (h1 : s ≠ 1) :
    Stored (fun i => (cRepr n dd bc).getD i 0) (cNewId n dd bc s) (wOf n dd bc s) := by
  rw [cNewId_eq hS dd bc hs h1]
  have := cRepr_slice n dd bc (i := posOf n s) (hS.pos_lt s hs) (posOf_ne_one hS hs h1)
  rwa [cW_posOf hS dd bc (cNewId n dd bc) hs] at this

theorem cNewId_le_iff {s t : Nat} (hs : s < n.size) (h1 : s ≠ 1) (ht : t < n.size) (h1' : t ≠ 1) :
    cNewId n dd bc s ≤ cNewId n dd bc t ↔ posOf n s ≤ posOf n t := by
  rw [cNewId_eq hS dd bc hs h1, cNewId_eq hS dd bc ht h1']
  exact offAt_le_iff n dd bc (posOf_ne_one hS ht h1')

theorem cNewId_inj {s t : Nat} (hs : s < n.size) (h1 : s ≠ 1) (ht : t < n.size) (h1' : t ≠ 1)
    (e : cNewId n dd bc s = cNewId n dd bc t) : s = t :=
  posOf_inj hS hs ht (Nat.le_antisymm
    ((cNewId_le_iff hS dd bc hs h1 ht h1').1 (Nat.le_of_eq e))
    ((cNewId_le_iff hS dd bc ht h1' hs h1).1 (Nat.le_of_eq e.symm)))

end

end AcVerif.L1eP
