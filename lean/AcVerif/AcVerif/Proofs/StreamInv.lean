import AcVerif.Proofs.StreamSpec
import AcVerif.StreamResume
/-!
# Stream search: reader, buffer and the loop body of `StreamChunkIter::next`

Generic in the automaton: all that is used is that the start state is not a
match state and that every answer of the in-memory search (`firstMatch`, the
scan loop run on the whole stream) is a non-empty match no longer than the
buffer's `min` (`Hyp`).

`read` / `fill` / `next` and the resumable `readT` / `fillT` / `nextT` are
treated together: `read` and `fill` are `readT` and `fillT` with what an error
carries dropped, and `next` / `nextT` are one loop body (`nextBody`) around the
two `fill`s.
-/
namespace AcVerif.StreamP
open AcVerif
variable {σ α : Type}

/-- The standing assumptions: the start state is not a match state, every answer of `firstMatch`
is a non-empty match of length at most `Lm` (the buffer's `min`), `Lm` is below the capacity `C`,
and the reader's schedule never asks for a read of 0 bytes. -/
structure Hyp (A : Aut σ α) (st0 : σ) (data : List α) (sched : List Nat) (Lm C : Nat) : Prop where
  m0 : A.isMatch st0 = false
  fok : ∀ r m, r ≤ data.length → firstMatch A st0 data r = some m →
    r ≤ m.start ∧ m.start < m.stop ∧ m.stop ≤ m.start + Lm
  lm1 : 1 ≤ Lm
  lmC : Lm < C
  sch : ∀ x ∈ sched, 1 ≤ x

theorem Hyp.FOK {A : Aut σ α} {st0 : σ} {data : List α} {sched : List Nat} {Lm C : Nat}
    (H : Hyp A st0 data sched Lm C) : FOK (firstMatch A st0 data) data.length := by
  intro r m hr hf
  have := H.fok r m hr hf
  exact ⟨this.1, this.2.1, firstMatch_stop_le hr hf⟩

/-! ## the reader -/

def RInv (data : List α) (sched : List Nat) (fa : Option Nat) (rd : Reader α) : Prop :=
  rd.data = data ∧ rd.sched = sched ∧ rd.failAt = fa ∧ rd.emptyReads = 0 ∧ rd.pos ≤ data.length

theorem read_eq_readT (rd : Reader α) (room : Nat) :
    rd.read room = match rd.readT room with | .error _ => .error () | .ok x => .ok x := by
  unfold Reader.read Reader.readT
  split <;> rfl

/-- the number of bytes a successful call delivers -/
def readN (rd : Reader α) (room : Nat) : Nat :=
  min (min (match rd.sched[rd.calls]? with | some w => w | none => room) room)
    (rd.data.length - rd.pos)

theorem readT_ok (rd : Reader α) (room : Nat) (h : (rd.failAt == some rd.calls) = false) :
    rd.readT room =
      .ok ((rd.data.drop rd.pos).take (readN rd room),
        { rd with pos := rd.pos + readN rd room, calls := rd.calls + 1,
                  emptyReads := rd.emptyReads + (if room = 0 then 1 else 0) }) := by
  simp only [Reader.readT, h, Bool.false_eq_true, if_false]
  rfl

theorem readT_err (rd : Reader α) (room : Nat) (h : (rd.failAt == some rd.calls) = true) :
    rd.readT room =
      .error { rd with calls := rd.calls + 1,
                       emptyReads := rd.emptyReads + (if room = 0 then 1 else 0) } := by
  simp only [Reader.readT, h, if_true]

theorem readN_pos (rd : Reader α) {room : Nat} (hs : ∀ x ∈ rd.sched, 1 ≤ x) (hroom : 1 ≤ room)
    (h : rd.pos < rd.data.length) : 1 ≤ readN rd room := by
  unfold readN
  split
  · rename_i w hw
    have := hs w (List.mem_of_getElem? hw)
    omega
  · omega

def ReadPost (data : List α) (sched : List Nat) (fa : Option Nat) (rd : Reader α) :
    Except (Reader α) (List α × Reader α) → Prop
  | .error rd' => RInv data sched fa rd' ∧ rd'.pos = rd.pos ∧ fa ≠ none
  | .ok (bytes, rd') =>
    RInv data sched fa rd' ∧ rd'.pos = rd.pos + bytes.length ∧
      bytes = slice data rd.pos rd'.pos ∧ (bytes.length = 0 → rd.pos = data.length)

theorem readT_spec {data : List α} {sched : List Nat} {fa : Option Nat}
    (hs : ∀ x ∈ sched, 1 ≤ x) {rd : Reader α} (h : RInv data sched fa rd) {room : Nat}
    (hroom : 1 ≤ room) : ReadPost data sched fa rd (rd.readT room) := by
  obtain ⟨h1, h2, h3, h4, h5⟩ := h
  have hr0 : rd.emptyReads + (if room = 0 then 1 else 0) = 0 := by
    rw [if_neg (by omega)]; exact h4
  cases hc : (rd.failAt == some rd.calls) with
  | true =>
    rw [readT_err rd room hc]
    refine ⟨⟨h1, h2, h3, hr0, h5⟩, rfl, ?_⟩
    rw [← h3]
    intro hn
    rw [hn] at hc
    cases hc
  | false =>
    rw [readT_ok rd room hc]
    have hle : readN rd room ≤ data.length - rd.pos := h1 ▸ Nat.min_le_right _ _
    have hpos := readN_pos rd (room := room) (h2 ▸ hs) hroom
    rw [h1] at hpos
    have hlen : ((rd.data.drop rd.pos).take (readN rd room)).length = readN rd room := by
      simp only [List.length_take, List.length_drop, h1]; omega
    refine ⟨⟨h1, h2, h3, hr0, ?_⟩, ?_, ?_, ?_⟩
    · show rd.pos + readN rd room ≤ data.length
      omega
    · show rd.pos + readN rd room = rd.pos + _
      rw [hlen]
    · show (rd.data.drop rd.pos).take _ = slice data rd.pos (rd.pos + _)
      rw [h1, slice, List.drop_take]
      congr 1; omega
    · rw [hlen]; omega

/-! ## the buffer -/

/-- buffer invariant: the buffer holds the last bytes read, the reader standing at `pos` -/
def BInv (data : List α) (Lm C : Nat) (b : Buffer α) (pos : Nat) : Prop :=
  b.min = Lm ∧ b.cap = C ∧ b.buf.length ≤ pos ∧ b.buf = slice data (pos - b.buf.length) pos

section
variable {data : List α} {Lm C : Nat} {b : Buffer α} {pos : Nat}

theorem BInv.slice_eq (h : BInv data Lm C b pos) (y x : Nat) (hx : x ≤ b.buf.length) :
    slice b.buf y x = slice data (pos - b.buf.length + y) (pos - b.buf.length + x) := by
  obtain ⟨_, _, h3, h4⟩ := h
  conv => lhs; rw [h4]
  exact slice_slice _ _ _ _ _ (by omega)

theorem BInv.drop_eq (h : BInv data Lm C b pos) (y : Nat) :
    b.buf.drop y = slice data (pos - b.buf.length + y) pos := by
  obtain ⟨_, _, h3, h4⟩ := h
  conv => lhs; rw [h4]
  exact drop_slice _ _ _ _

theorem BInv.roll (h : BInv data Lm C b pos) (hge : b.min ≤ b.buf.length) :
    BInv data Lm C b.roll pos ∧ b.roll.buf.length = b.min := by
  have h3 := h.2.2.1
  have hl : b.roll.buf.length = b.min := by
    show (b.buf.drop (b.buf.length - b.min)).length = b.min
    simp only [List.length_drop]; omega
  refine ⟨⟨h.1, h.2.1, by omega, ?_⟩, hl⟩
  show b.buf.drop (b.buf.length - b.min) = slice data (pos - b.roll.buf.length) pos
  rw [hl, h.drop_eq]
  congr 1; omega

end

/-- `(b', rd')` comes from `(b, rd)` by reading on and appending what was read -/
def Grown (data : List α) (sched : List Nat) (fa : Option Nat) (Lm C : Nat) (b : Buffer α)
    (rd : Reader α) (b' : Buffer α) (rd' : Reader α) : Prop :=
  RInv data sched fa rd' ∧ BInv data Lm C b' rd'.pos ∧
    rd'.pos - b'.buf.length = rd.pos - b.buf.length ∧ rd.pos ≤ rd'.pos

section
variable {data : List α} {sched : List Nat} {fa : Option Nat} {Lm C : Nat}

theorem Grown.trans {b b₁ b₂ : Buffer α} {rd rd₁ rd₂ : Reader α}
    (h : Grown data sched fa Lm C b rd b₁ rd₁) (h' : Grown data sched fa Lm C b₁ rd₁ b₂ rd₂) :
    Grown data sched fa Lm C b rd b₂ rd₂ :=
  ⟨h'.1, h'.2.1, h'.2.2.1.trans h.2.2.1, Nat.le_trans h.2.2.2 h'.2.2.2⟩

theorem Grown.append {b : Buffer α} {rd rd' : Reader α} {bytes : List α}
    (hb : BInv data Lm C b rd.pos) (hr' : RInv data sched fa rd')
    (hp : rd'.pos = rd.pos + bytes.length) (hby : bytes = slice data rd.pos rd'.pos) :
    Grown data sched fa Lm C b rd { b with buf := b.buf ++ bytes } rd' := by
  obtain ⟨hb1, hb2, hb3, hb4⟩ := hb
  have hN := hr'.2.2.2.2
  have hl : (b.buf ++ bytes).length = b.buf.length + bytes.length := List.length_append
  have e : rd'.pos - (b.buf ++ bytes).length = rd.pos - b.buf.length := by omega
  refine ⟨hr', ⟨hb1, hb2, ?_, ?_⟩, e, by omega⟩
  · show (b.buf ++ bytes).length ≤ rd'.pos
    omega
  · show b.buf ++ bytes = slice data (rd'.pos - (b.buf ++ bytes).length) rd'.pos
    rw [e]
    conv => lhs; rw [hb4, hby]
    exact slice_append _ (Nat.sub_le _ _) (by omega)

theorem fill_eq_fillT (b : Buffer α) (rd : Reader α) (ra : Bool) (fuel : Nat) :
    b.fill rd ra fuel =
      match b.fillT rd ra fuel with | .error _ => .error () | .ok x => .ok x := by
  induction fuel generalizing b rd ra with
  | zero => rfl
  | succ fuel ih =>
    rw [Buffer.fill, Buffer.fillT, read_eq_readT]
    cases rd.readT (b.cap - b.buf.length) with
    | error _ => rfl
    | ok x =>
      simp only
      split
      · rfl
      · split
        · rfl
        · exact ih _ _ _

/-- what `fillT` returns: on an error the buffer still holds the last bytes delivered,
including those of the earlier iterations of this call -/
def FillPost (data : List α) (sched : List Nat) (fa : Option Nat) (Lm C : Nat) (b : Buffer α)
    (rd : Reader α) (ra : Bool) :
    Except (Buffer α × Reader α) (Bool × Buffer α × Reader α) → Prop
  | .error (b', rd') => Grown data sched fa Lm C b rd b' rd' ∧ fa ≠ none
  | .ok (ra', b', rd') =>
    Grown data sched fa Lm C b rd b' rd' ∧
      (ra' = false → ra = false ∧ b' = b ∧ rd'.pos = data.length) ∧
      (ra' = true → ra = true ∨ rd.pos < rd'.pos)

theorem fillT_spec (hs : ∀ x ∈ sched, 1 ≤ x) (hC : Lm < C) (fuel : Nat) (b : Buffer α)
    (rd : Reader α) (ra : Bool) (hr : RInv data sched fa rd) (hb : BInv data Lm C b rd.pos)
    (hl : b.buf.length ≤ Lm) (hf : data.length - rd.pos + 1 ≤ fuel) :
    FillPost data sched fa Lm C b rd ra (b.fillT rd ra fuel) := by
  induction fuel generalizing b rd ra with
  | zero => omega
  | succ fuel ih =>
    have hmin := hb.1
    have hrs := readT_spec hs hr (room := b.cap - b.buf.length) (by rw [hb.2.1]; omega)
    rw [Buffer.fillT]
    generalize rd.readT (b.cap - b.buf.length) = rres at hrs
    match rres, hrs with
    | .error rd', ⟨hr', hp, hfa⟩ =>
      exact ⟨⟨hr', hp ▸ hb, by rw [hp], by omega⟩, hfa⟩
    | .ok (bytes, rd'), ⟨hr', hp, hby, hz⟩ =>
      simp only
      have hN := hr'.2.2.2.2
      by_cases h0 : bytes.length = 0
      · rw [if_pos h0]
        have e : rd'.pos = rd.pos := by omega
        exact ⟨⟨hr', e ▸ hb, by rw [e], by omega⟩, fun h => ⟨h, rfl, e.trans (hz h0)⟩, Or.inl⟩
      · rw [if_neg h0]
        have hg := Grown.append hb hr' hp hby
        have hl' : (b.buf ++ bytes).length = b.buf.length + bytes.length := List.length_append
        by_cases hge : (b.buf ++ bytes).length ≥ b.min
        · rw [if_pos hge]
          exact ⟨hg, (fun h => nomatch h), fun _ => Or.inr (by omega)⟩
        · rw [if_neg hge]
          have := ih { b with buf := b.buf ++ bytes } rd' true hr' hg.2.1
            (by show (b.buf ++ bytes).length ≤ Lm; omega) (by omega)
          generalize Buffer.fillT { b with buf := b.buf ++ bytes } rd' true fuel = fres at this
          match fres, this with
          | .error (b'', rd''), ⟨g, hfa⟩ => exact ⟨hg.trans g, hfa⟩
          | .ok (ra'', b'', rd''), ⟨g, g5, _⟩ =>
            have := g.2.2.2
            exact ⟨hg.trans g, (fun h => nomatch (g5 h).1), fun _ => Or.inr (by omega)⟩

end

/-! ## the pieces of `StreamChunkIter::next` -/

/-- the match-state branch: `get_non_match_chunk` / the match chunk -/
def matchStep (A : Aut σ α) (it : ChunkIter σ α) : NextResult σ α × ChunkIter σ α :=
  let mat := getMatch A it.sid 0 it.absPos
  let len := mat.stop - mat.start
  let bufMatStart := it.bufPos - len
  if bufMatStart > it.reported then
    let bytes := (it.buf.buf.take bufMatStart).drop it.reported
    (.chunk (.nonMatch bytes), { it with reported := it.reported + (bufMatStart - it.reported) })
  else
    let bytes := (it.buf.buf.take it.bufPos).drop bufMatStart
    (.chunk (.mtch bytes mat),
      { it with sid := it.start, reported := it.reported + (it.bufPos - bufMatStart) })

/-- `get_pre_roll_non_match_chunk` -/
def preRollStep (it : ChunkIter σ α) : NextResult σ α × ChunkIter σ α :=
  let preEnd := it.buf.buf.length - it.buf.min
  let bytes := (it.buf.buf.take preEnd).drop it.reported
  (.chunk (.nonMatch bytes), { it with reported := it.reported + (preEnd - it.reported) })

def rollStep (it : ChunkIter σ α) : ChunkIter σ α :=
  if it.buf.buf.length ≥ it.buf.min then
    { it with bufPos := it.buf.min,
              reported := it.reported - (it.buf.buf.length - it.buf.min),
              buf := it.buf.roll }
  else it

/-- end of stream: the final non-match chunk, or done -/
def eofStep (it : ChunkIter σ α) : NextResult σ α × ChunkIter σ α :=
  if it.reported < it.buf.buf.length then
    (.chunk (.nonMatch (it.buf.buf.drop it.reported)), { it with reported := it.buf.buf.length })
  else (.done, it)

/-- scan the unread part of the buffer -/
def scanStep (A : Aut σ α) (it : ChunkIter σ α) : ChunkIter σ α :=
  { it with sid := (scanBytes A it.sid 0 (it.buf.buf.drop it.bufPos)).1,
            absPos := it.absPos + (scanBytes A it.sid 0 (it.buf.buf.drop it.bufPos)).2,
            bufPos := it.bufPos + (scanBytes A it.sid 0 (it.buf.buf.drop it.bufPos)).2 }

/-- one round of the loop of `StreamChunkIter::next`.  Left open: the `fill` called after the
roll (`fl`), the buffer and reader the iterator keeps when it fails (`err`), and the rest of the
loop (`k`). -/
def nextBody {ε : Type} (A : Aut σ α)
    (fl : Buffer α → Reader α → Nat → Except ε (Bool × Buffer α × Reader α))
    (err : Buffer α → Reader α → ε → Buffer α × Reader α)
    (k : ChunkIter σ α → NextResult σ α × ChunkIter σ α) (it : ChunkIter σ α) :
    NextResult σ α × ChunkIter σ α :=
  if A.isMatch it.sid then matchStep A it
  else if it.bufPos ≥ it.buf.buf.length then
    if it.reported < it.buf.buf.length - it.buf.min then preRollStep it
    else
      match fl (rollStep it).buf (rollStep it).rdr
          ((rollStep it).rdr.data.length - (rollStep it).rdr.pos + 1) with
      | .error e =>
        (.ioErr, { rollStep it with buf := (err (rollStep it).buf (rollStep it).rdr e).1,
                                    rdr := (err (rollStep it).buf (rollStep it).rdr e).2 })
      | .ok (false, b, r) => eofStep { rollStep it with buf := b, rdr := r }
      | .ok (true, b, r) => k (scanStep A { rollStep it with buf := b, rdr := r })
  else k (scanStep A it)

theorem next_succ (A : Aut σ α) (it : ChunkIter σ α) (fuel : Nat) :
    ChunkIter.next A it (fuel + 1) =
      nextBody A (fun b rd n => b.fill rd false n) (fun b rd _ => (b, rd))
        (fun it => ChunkIter.next A it fuel) it := by
  -- `rfl` does not compare two differently compiled `match`es: both are unfolded to `casesOn`
  unfold nextBody nextBody.match_1
  rw [ChunkIter.next]
  unfold ChunkIter.next.match_3
  rfl

theorem nextT_succ (A : Aut σ α) (it : ChunkIter σ α) (fuel : Nat) :
    ChunkIter.nextT A it (fuel + 1) =
      nextBody A (fun b rd n => b.fillT rd false n) (fun _ _ e => e)
        (fun it => ChunkIter.nextT A it fuel) it := by
  unfold nextBody nextBody.match_1
  rw [ChunkIter.nextT]
  unfold ChunkIter.nextT.match_3
  rfl

end AcVerif.StreamP
