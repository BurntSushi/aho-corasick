import AcVerif.DfaIds
import AcVerif.Proofs.ShuffleDefs
/-!
# The flags as range tests of the shuffled position

The shuffle puts the states in the order `DEAD, FAIL, MATCH…, START-U, START-A, NON-MATCH…`
(`pos_cases`), so that `is_match` / `is_special` are comparisons of the position with `nfaMaxMatch` /
`nfaMaxSpecial` (`pos_le_maxMatch_iff`, `pos_le_maxSpecial_iff`) and the start states are known by
their positions (`posOf_start_iff`).  `RangeId` states what an id map must satisfy for the same
comparisons to hold of ids, and gives the three flags as Boolean equations (`RangeId.isDead`,
`.isMatch`, `.isSpecial`); `rangeId_posOf`: the positions themselves, the ids of the stored
noncontiguous NFA.
-/
namespace AcVerif.L1eP
open AcVerif AcVerif.CNfa

section
variable {n : CNfa} (hS : ShufOK n)
include hS

theorem posOf_ne_one {s : Nat} (hs : s < n.size) (h1 : s ≠ 1) : posOf n s ≠ 1 := by
  intro e
  have h4 := hS.na_ge
  have h5 := hS.na_le
  have a := hS.order_pos s hs
  have b := hS.order_pos 1 (by omega)
  rw [hS.pos1] at b
  unfold posOf at e
  rw [e, b] at a
  exact h1 a.symm

theorem posOf_inj {s t : Nat} (hs : s < n.size) (ht : t < n.size) (e : posOf n s = posOf n t) :
    s = t := by
  have a := hS.order_pos s hs
  have b := hS.order_pos t ht
  unfold posOf at e
  rw [e, b] at a
  exact a.symm

theorem posOf_eq_zero_iff {s : Nat} (hs : s < n.size) : posOf n s = 0 ↔ s = 0 := by
  have h4 := hS.na_ge
  have h5 := hS.na_le
  refine ⟨fun e => posOf_inj hS hs (by omega) (e.trans hS.pos0.symm), ?_⟩
  rintro rfl
  exact hS.pos0

theorem pos_cases {s : Nat} (hs : s < n.size) (h1 : s ≠ 1) :
    (s = 0 ∧ posOf n s = 0) ∨ (s = 2 ∧ posOf n s = cNa n - 2) ∨ (s = 3 ∧ posOf n s = cNa n - 1) ∨
      (4 ≤ s ∧ CNfa.isMatch n s = true ∧ 2 ≤ posOf n s ∧ posOf n s + 3 ≤ cNa n) ∨
      (4 ≤ s ∧ CNfa.isMatch n s = false ∧ cNa n ≤ posOf n s) := by
  by_cases e0 : s = 0
  · subst e0; exact Or.inl ⟨rfl, hS.pos0⟩
  by_cases e2 : s = 2
  · subst e2; exact Or.inr (Or.inl ⟨rfl, hS.posSU⟩)
  by_cases e3 : s = 3
  · subst e3; exact Or.inr (Or.inr (Or.inl ⟨rfl, hS.posSA⟩))
  have h4 : 4 ≤ s := by omega
  cases hm : CNfa.isMatch n s
  · exact Or.inr (Or.inr (Or.inr (Or.inr ⟨h4, rfl, hS.pos_nomatch s h4 hs hm⟩)))
  · exact Or.inr (Or.inr (Or.inr (Or.inl ⟨h4, rfl, hS.pos_match s h4 hs hm⟩)))

theorem pos_le_maxMatch_iff (hm : CNfa.isMatch n SU = CNfa.isMatch n SA) {s : Nat}
    (hs : s < n.size) (h1 : s ≠ 1) :
    (posOf n s ≠ 0 ∧ posOf n s ≤ nfaMaxMatch n (cNa n)) ↔ (s ≠ 0 ∧ CNfa.isMatch n s = true) := by
  have h4 := hS.na_ge
  have hm : CNfa.isMatch n 2 = CNfa.isMatch n 3 := hm
  unfold nfaMaxMatch
  rw [show SA = 3 from rfl]
  rcases pos_cases hS hs h1 with ⟨rfl, hp⟩ | ⟨rfl, hp⟩ | ⟨rfl, hp⟩ | ⟨h4s, hms, hp⟩ | ⟨h4s, hms, hp⟩
  · exact ⟨fun h => absurd hp h.1, fun h => absurd rfl h.1⟩
  · rw [hm, hp]
    cases CNfa.isMatch n 3
    · exact ⟨fun h => by simp only [Bool.false_eq_true, if_false] at h; omega, fun h => by cases h.2⟩
    · exact ⟨fun _ => ⟨by omega, rfl⟩, fun _ => ⟨by omega, by simp only [if_true]; omega⟩⟩
  · rw [hp]
    cases CNfa.isMatch n 3
    · exact ⟨fun h => by simp only [Bool.false_eq_true, if_false] at h; omega, fun h => by cases h.2⟩
    · exact ⟨fun _ => ⟨by omega, rfl⟩, fun _ => ⟨by omega, by simp only [if_true]; omega⟩⟩
  · rw [hms]
    exact ⟨fun _ => ⟨by omega, rfl⟩, fun _ => ⟨by omega, by split <;> omega⟩⟩
  · rw [hms]
    exact ⟨fun h => by have := h.2; split at this <;> omega, fun h => by cases h.2⟩

theorem pos_le_maxSpecial_iff (hasPre : Bool) (hm : CNfa.isMatch n SU = CNfa.isMatch n SA)
    {s : Nat} (hs : s < n.size) (h1 : s ≠ 1) :
    posOf n s ≤ nfaMaxSpecial n (cNa n) hasPre ↔
      (s = 0 ∨ CNfa.isMatch n s = true ∨ (hasPre = true ∧ (s = 2 ∨ s = 3))) := by
  have h4 := hS.na_ge
  unfold nfaMaxSpecial
  cases hasPre
  · -- without a prefilter: the match states and the dead state
    have hfm := pos_le_maxMatch_iff hS hm hs h1
    simp only [Bool.false_eq_true, if_false, false_and, or_false]
    by_cases e0 : s = 0
    · subst e0
      rw [show posOf n 0 = 0 from hS.pos0]
      exact ⟨fun _ => Or.inl rfl, fun _ => Nat.zero_le _⟩
    · have hp0 : posOf n s ≠ 0 := by
        rcases pos_cases hS hs h1 with ⟨e, _⟩ | ⟨_, hp⟩ | ⟨_, hp⟩ | ⟨_, _, hp⟩ | ⟨_, _, hp⟩
        · exact absurd e e0
        all_goals omega
      exact ⟨fun h => Or.inr (hfm.1 ⟨hp0, h⟩).2,
        fun h => (hfm.2 ⟨e0, h.resolve_left e0⟩).2⟩
  · -- with a prefilter: everything up to the anchored start state
    simp only [if_true, true_and]
    rcases pos_cases hS hs h1 with ⟨e, hp⟩ | ⟨e, hp⟩ | ⟨e, hp⟩ | ⟨h4s, hms, hp⟩ | ⟨h4s, hms, hp⟩
    · exact ⟨fun _ => Or.inl e, fun _ => by omega⟩
    · exact ⟨fun _ => Or.inr (Or.inr (Or.inl e)), fun _ => by omega⟩
    · exact ⟨fun _ => Or.inr (Or.inr (Or.inr e)), fun _ => by omega⟩
    · exact ⟨fun _ => Or.inr (Or.inl hms), fun _ => by omega⟩
    · refine ⟨fun h => by omega, ?_⟩
      rintro (e | e | e | e)
      · omega
      · rw [hms] at e; cases e
      · omega
      · omega

theorem nfaMaxSpecial_lt_size (hasPre : Bool) : nfaMaxSpecial n (cNa n) hasPre < n.size := by
  have h4 := hS.na_ge
  have h5 := hS.na_le
  unfold nfaMaxSpecial nfaMaxMatch
  split
  · omega
  · split <;> omega

end

/-! ## the flags of any id map that is monotone in the position -/

/-- the new id `q` of the state `s` compares with the id `H p` given to a position as the position
of `s` compares with `p`; only the dead state gets the id 0 -/
structure RangeId (N : CNfa) (H : Nat → Nat) (s q : Nat) : Prop where
  lt : s < N.size
  ne1 : s ≠ 1
  le_iff : ∀ p, p < N.size → (q ≤ H p ↔ posOf N s ≤ p)
  zero_iff : q = 0 ↔ s = 0

section
variable {N : CNfa} {H : Nat → Nat} {s q : Nat} (hS : ShufOK N) (h : RangeId N H s q)
include h

theorem RangeId.isDead : (q == 0) = (s == DEAD) := by
  rw [Bool.eq_iff_iff, beq_iff_eq, beq_iff_eq]; exact h.zero_iff

include hS

/-- `is_match` by id range (`m`: the `max_match_id` of the representation) -/
theorem RangeId.isMatch (hmm : CNfa.isMatch N SU = CNfa.isMatch N SA) {m : Nat}
    (hm : m = H (nfaMaxMatch N (cNa N))) :
    (q != 0 && decide (q ≤ m)) = (s != DEAD && CNfa.isMatch N s) := by
  subst hm
  rw [Bool.eq_iff_iff]
  simp only [Bool.and_eq_true, bne_iff_ne, ne_eq, decide_eq_true_eq]
  have hlt : nfaMaxMatch N (cNa N) < N.size := nfaMaxSpecial_lt_size hS false
  rw [h.le_iff _ hlt, h.zero_iff]
  exact (and_congr_left' (not_congr (posOf_eq_zero_iff hS h.lt))).symm.trans
    (pos_le_maxMatch_iff hS hmm h.lt h.ne1)

/-- `is_special` by id range (`m`: the `max_special_id` of the representation) -/
theorem RangeId.isSpecial (hmm : CNfa.isMatch N SU = CNfa.isMatch N SA) {hasPre : Bool} {m : Nat}
    (hm : m = H (nfaMaxSpecial N (cNa N) hasPre)) :
    decide (q ≤ m) = (s == DEAD || CNfa.isMatch N s || (hasPre && (s == SU || s == SA))) := by
  subst hm
  rw [Bool.eq_iff_iff]
  simp only [decide_eq_true_eq, Bool.or_eq_true, Bool.and_eq_true, beq_iff_eq]
  rw [h.le_iff _ (nfaMaxSpecial_lt_size hS hasPre), pos_le_maxSpecial_iff hS hasPre hmm h.lt h.ne1,
    or_assoc]
  rfl

end

theorem rangeId_posOf {N : CNfa} (hS : ShufOK N) {s : Nat} (hs : s < N.size) (h1 : s ≠ 1) :
    RangeId N id s (posOf N s) :=
  ⟨hs, h1, fun _ _ => Iff.rfl, posOf_eq_zero_iff hS hs⟩

end AcVerif.L1eP

namespace AcVerif.L1dIdsP
open AcVerif AcVerif.CNfa AcVerif.L1eP

/-! ## bounds on `max_match_id`, `max_special_id` as positions -/

/-- `max_match_id` is the position of the anchored start state if the start states match, else the
position before the unanchored start state -/
theorem nfaMaxMatch_cases (n : CNfa) (na : Nat) :
    nfaMaxMatch n na = na - 1 ∨ nfaMaxMatch n na = na - 3 := by
  unfold nfaMaxMatch
  split
  · exact Or.inl rfl
  · exact Or.inr rfl

theorem nfaMaxSpecial_cases (n : CNfa) (na : Nat) (hasPre : Bool) :
    nfaMaxSpecial n na hasPre = na - 1 ∨ nfaMaxSpecial n na hasPre = na - 3 := by
  unfold nfaMaxSpecial
  split
  · exact Or.inl rfl
  · exact nfaMaxMatch_cases n na

section
variable {n : CNfa} (hS : ShufOK n)
include hS

theorem posOf_start_iff {s : Nat} (hs : s < n.size) (h1 : s ≠ 1) :
    (posOf n s + 2 = cNa n ↔ s = 2) ∧ (posOf n s + 1 = cNa n ↔ s = 3) := by
  have h4 := hS.na_ge
  rcases pos_cases hS hs h1 with ⟨e, p⟩ | ⟨e, p⟩ | ⟨e, p⟩ | ⟨e, _, p⟩ | ⟨e, _, p⟩ <;> omega

theorem nfaMaxMatch_ge_one : 1 ≤ nfaMaxMatch n (cNa n) := by
  have h4 := hS.na_ge
  have := nfaMaxMatch_cases n (cNa n)
  omega

end

end AcVerif.L1dIdsP
