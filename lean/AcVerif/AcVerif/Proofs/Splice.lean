import AcVerif.Engine.Replace
import AcVerif.Proofs.ListArray
/-!
# The splice loop of `try_replace_all*` against its specification

`spliceSpec` is the specification of the output; `spliceLoop_eq` (and its instances
`replaceBytes_eq`, `replaceStr_eq`) computes the loop's output and closure log as the splice of
the matches it processes (`cut`: the closure may stop the loop).  `spliceSpec_identity`: replacing
every match by the bytes it matched gives back the haystack.  `SlicesOK` collects the no-panic
conditions of the `str` slicings; `slicesOK_filter`, `slicesOK_take` establish it for the matches
`replaceStr` processes.
-/
namespace AcVerif
variable {α : Type}

def spliceSpec (hay : List α) (repl : Mat → List α) : Nat → List Mat → List α
  | last, [] => hay.drop last
  | last, m :: ms => (hay.take m.start).drop last ++ repl m ++ spliceSpec hay repl m.stop ms

/-- `&hay[a..b]` on a `str` does not panic: ordered, in range, both character boundaries -/
def SliceOK (hay : List UInt8) (a b : Nat) : Prop :=
  isCharBoundary hay a = true ∧ isCharBoundary hay b = true ∧ a ≤ b ∧ b ≤ hay.length

/-- every slice taken while splicing the matches `ms` from `last_match = last` is fine:
`&hay[last..m.start]`, the closure argument `&hay[m.start..m.stop]`, and the final `&hay[last..]` -/
def SlicesOK (hay : List UInt8) : Nat → List Mat → Prop
  | last, [] => SliceOK hay last hay.length
  | last, m :: ms => SliceOK hay last m.start ∧ SliceOK hay m.start m.stop ∧ SlicesOK hay m.stop ms

namespace MiscP

/-- the matches the loop actually processes when the closure returns `false`
at call number `K` (calls are numbered from `k`) -/
def cut : Option Nat → Nat → List Mat → List Mat
  | none, _, l => l
  | some K, k, l => l.take (K + 1 - k)

theorem spliceLoop_eq (hay : List α) (repl : Mat → List α) (stop : Option Nat)
    (keep : Mat → Bool) (ms : List Mat) :
    ∀ (k last : Nat) (dst : List α) (log : List (Mat × List α)),
      (∀ K, stop = some K → k ≤ K) →
      spliceLoop hay repl stop keep k last ms dst log =
        (dst ++ spliceSpec hay repl last (cut stop k (ms.filter keep)),
         log.reverse ++ (cut stop k (ms.filter keep)).map
           fun m => (m, (hay.take m.stop).drop m.start)) := by
  induction ms with
  | nil =>
    intro k last dst log _
    cases stop <;> simp [spliceLoop, cut, spliceSpec]
  | cons m ms ih =>
    intro k last dst log hk
    rw [spliceLoop]
    cases hkeep : keep m with
    | false =>
      rw [List.filter_cons_of_neg (by simp [hkeep])]
      exact ih k last dst log hk
    | true =>
      rw [List.filter_cons_of_pos hkeep]
      simp only [Bool.not_true, Bool.false_eq_true, if_false]
      cases stop with
      | none =>
        rw [if_neg (by simp), ih (k + 1) m.stop _ _ (fun K h => nomatch h)]
        simp [cut, spliceSpec, List.append_assoc]
      | some K =>
        by_cases hK : K = k
        · subst hK
          rw [if_pos (by simp)]
          simp [cut, spliceSpec, List.append_assoc]
        · have hkK := hk K rfl
          rw [if_neg (by simpa using hK), ih (k + 1) m.stop _ _ (by intro K' h; cases h; omega)]
          have : K + 1 - k = (K + 1 - (k + 1)) + 1 := by omega
          simp only [cut]
          rw [this, List.take_succ_cons]
          simp [spliceSpec, List.append_assoc]

theorem filter_const_true (l : List Mat) : l.filter (fun _ => true) = l :=
  List.filter_eq_self.mpr (fun _ _ => rfl)

theorem replaceBytes_eq (hay : List α) (ms : List Mat) (repl : Mat → List α) (stop : Option Nat) :
    replaceBytes hay ms repl stop =
      (spliceSpec hay repl 0 (cut stop 0 ms),
       (cut stop 0 ms).map fun m => (m, (hay.take m.stop).drop m.start)) := by
  have h := spliceLoop_eq hay repl stop (fun _ => true) ms 0 0 [] [] (fun _ _ => Nat.zero_le _)
  rwa [filter_const_true, List.nil_append, List.reverse_nil, List.nil_append] at h

theorem replaceStr_eq (hay : List UInt8) (ms : List Mat) (repl : Mat → List UInt8)
    (stop : Option Nat) :
    replaceStr hay ms repl stop =
      (spliceSpec hay repl 0 (cut stop 0
        (ms.filter fun m => isCharBoundary hay m.start && isCharBoundary hay m.stop)),
       (cut stop 0 (ms.filter fun m => isCharBoundary hay m.start && isCharBoundary hay m.stop)).map
         fun m => (m, (hay.take m.stop).drop m.start)) := by
  have h := spliceLoop_eq hay repl stop
    (fun m => isCharBoundary hay m.start && isCharBoundary hay m.stop) ms 0 0 [] []
    (fun _ _ => Nat.zero_le _)
  rwa [List.nil_append, List.reverse_nil, List.nil_append] at h

theorem spliceSpec_identity (hay : List α) (ms : List Mat) :
    ∀ last, ms.Pairwise (fun a b => a.stop ≤ b.start) → (∀ m ∈ ms, m.start ≤ m.stop) →
      (∀ m ∈ ms, last ≤ m.start) →
      spliceSpec hay (fun m => (hay.take m.stop).drop m.start) last ms = hay.drop last := by
  induction ms with
  | nil => intro last _ _ _; rfl
  | cons m ms ih =>
    intro last hs hin hl
    rw [List.pairwise_cons] at hs
    simp only [spliceSpec]
    rw [ih m.stop hs.2 (fun x hx => hin x (List.mem_cons_of_mem _ hx)) hs.1,
      List.append_assoc, List.drop_take_append_drop hay (hin m List.mem_cons_self),
      List.drop_take_append_drop hay (hl m List.mem_cons_self)]

/-! ## character boundaries -/

theorem isCharBoundary_zero (hay : List UInt8) : isCharBoundary hay 0 = true := by
  simp [isCharBoundary]

theorem isCharBoundary_length (hay : List UInt8) : isCharBoundary hay hay.length = true := by
  unfold isCharBoundary
  split
  · rfl
  · simp

theorem isCharBoundary_le {hay : List UInt8} {i : Nat} (h : isCharBoundary hay i = true) :
    i ≤ hay.length := by
  unfold isCharBoundary at h
  split at h
  · omega
  · rcases Nat.lt_or_ge i hay.length with hi | hi
    · omega
    · rw [List.getElem?_eq_none hi] at h
      simp at h
      omega

theorem slicesOK_filter (hay : List UInt8) (ms : List Mat) :
    ∀ last, ms.Pairwise (fun a b => a.stop ≤ b.start) → (∀ m ∈ ms, m.start ≤ m.stop) →
      (∀ m ∈ ms, last ≤ m.start) → isCharBoundary hay last = true →
      SlicesOK hay last
        (ms.filter fun m => isCharBoundary hay m.start && isCharBoundary hay m.stop) := by
  induction ms with
  | nil =>
    intro last _ _ _ hb
    exact ⟨hb, isCharBoundary_length hay, isCharBoundary_le hb, Nat.le_refl _⟩
  | cons m ms ih =>
    intro last hs hin hl hb
    rw [List.pairwise_cons] at hs
    have hin' : ∀ x ∈ ms, x.start ≤ x.stop := fun x hx => hin x (List.mem_cons_of_mem _ hx)
    have hm := hin m List.mem_cons_self
    cases hk : (isCharBoundary hay m.start && isCharBoundary hay m.stop) with
    | false =>
      rw [List.filter_cons, if_neg (by simp [hk])]
      refine ih last hs.2 hin' (fun x hx => hl x (List.mem_cons_of_mem _ hx)) hb
    | true =>
      rw [List.filter_cons, if_pos (by simp [hk])]
      rw [Bool.and_eq_true] at hk
      exact ⟨⟨hb, hk.1, hl m List.mem_cons_self, isCharBoundary_le hk.1⟩,
        ⟨hk.1, hk.2, hm, isCharBoundary_le hk.2⟩,
        ih m.stop hs.2 hin' hs.1 hk.2⟩

/-- After an early stop the final slice `&hay[last..]` starts at the end of the last processed
match, a boundary because the next slice would have started there. -/
theorem slicesOK_take (hay : List UInt8) (l : List Mat) :
    ∀ last n, SlicesOK hay last l → SlicesOK hay last (l.take n) := by
  induction l with
  | nil => intro last n h; simpa using h
  | cons m l ih =>
    intro last n h
    cases n with
    | zero =>
      exact ⟨h.1.1, isCharBoundary_length hay, isCharBoundary_le h.1.1, Nat.le_refl _⟩
    | succ n => exact ⟨h.1, h.2.1, ih m.stop n h.2.2⟩

end MiscP
end AcVerif
