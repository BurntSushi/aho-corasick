import AcVerif.Theorems.C04
import AcVerif.Fold
import AcVerif.Ideal
/-!
# Automata that give the same result in every search

`SearchEquiv A B` collects what the engine-level transfer theorems of C04 ask of two automaton
records; a layer proves it once and gets the equality of every search result.
`SearchEquiv.of_ideal_comap` is the form the layer theorems use: against the ideal automaton of the
folded patterns read through the fold `g`, only the start states are left to compare.
-/
namespace AcVerif
variable {σ τ α : Type}

theorem StartEquiv.of_obsEquiv {A : Aut σ α} {B : Aut τ α} {first anch : Bool} {a : σ} {b : τ}
    (hA : A.start anch = some a) (hB : B.start anch = some b) (h : ObsEquiv A B first anch a b) :
    StartEquiv A B first anch := by
  unfold StartEquiv
  rw [hA, hB]
  exact h

/-- `start` asks for the equivalence on whole match lists (`false`), which the overlapping search
needs; the one on first patterns that `find` and `iter` need follows from it
(`C04_StartEquiv_false_true`). -/
structure SearchEquiv (A : Aut σ α) (B : Aut τ α) : Prop where
  kind : A.kind = B.kind
  patLen : ∀ pid, A.patLen pid = B.patLen pid
  start : ∀ anch, StartEquiv A B false anch

namespace SearchEquiv
variable {A : Aut σ α} {B : Aut τ α} (h : SearchEquiv A B) (pre : Option (Prefilter α))
  (i : Input α)
include h

theorem find : tryFindFwd A pre i = tryFindFwd B pre i :=
  C04_find_transfer A B pre i h.kind h.patLen (C04_StartEquiv_false_true _ _ _ (h.start i.anch))

theorem iter : findIter A pre i = findIter B pre i :=
  C04_iter_transfer A B pre i h.kind h.patLen (C04_StartEquiv_false_true _ _ _ (h.start i.anch))

theorem overlap (n : Nat) :
    ovlCalls A pre i n OState.start = ovlCalls B pre i n OState.start :=
  C04_overlap_transfer A B pre i h.kind h.patLen (h.start i.anch) n

theorem overlap_iter (fuel : Nat) :
    ovlIterAux A pre i fuel OState.start = ovlIterAux B pre i fuel OState.start :=
  C04_overlap_iter_transfer A B pre i h.kind h.patLen (h.start i.anch) fuel

end SearchEquiv

theorem SearchEquiv.of_ideal_comap {A : Aut σ UInt8} {k : MatchKind} {P : List (List UInt8)}
    {sk : StartKind} {hasPre : Bool} {g : UInt8 → UInt8} (hk : A.kind = k)
    (hl : ∀ pid, A.patLen pid = (P.getD pid []).length)
    (hs : ∀ anch, StartEquiv A ((ideal k (P.map (List.map g)) sk hasPre).comap g) false anch) :
    SearchEquiv A ((ideal k (P.map (List.map g)) sk hasPre).comap g) :=
  ⟨hk, fun pid => (hl pid).trans (List.length_getD_map_map g P pid).symm, hs⟩

end AcVerif
