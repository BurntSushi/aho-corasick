import AcVerif.Proofs.StreamResumeCalls
import AcVerif.Proofs.StreamRef
/-!
# Stream search: draining the resumable chunk iterator

From a state satisfying the invariant, `ChunkIter.drainT` (the caller pulls on
after an error item) yields an item list whose chunks – the error items
removed – meet the chunk-sequence specification `Spec … false` (a COMPLETE
run: nothing lost, nothing invented, in order), with at most one error item
(none if the fault is already behind us), and `emptyReads = 0`
(`drainT_spec`; `StreamRef.runT`, `StreamRef.resume` for a whole search).
`StreamRef.resume_err_iff`: the error item is there iff the failing call index is below the
number of `read` calls of the fault-free run (`streamCallsT`).
-/
namespace AcVerif.StreamP
open AcVerif
variable {σ α : Type}

def errItems (items : List (Option (Chunk α))) : Nat := (items.filter Option.isNone).length

@[simp] theorem errItems_nil : errItems ([] : List (Option (Chunk α))) = 0 := rfl
@[simp] theorem errItems_none (items : List (Option (Chunk α))) :
    errItems (none :: items) = errItems items + 1 := rfl
@[simp] theorem errItems_some (c : Chunk α) (items : List (Option (Chunk α))) :
    errItems (some c :: items) = errItems items := rfl

section
variable {A : Aut σ α} {st0 : σ} {data : List α} {sched : List Nat} {fa : Option Nat}
  {Lm C : Nat}

theorem drainT_spec (H : Hyp A st0 data sched Lm C) (n : Nat) (it : ChunkIter σ α) (r : Nat)
    (h : Inv A st0 data sched fa Lm C r it) (hn : data.length - off it + 1 ≤ n)
    (hn' : ¬ Spent it.rdr → data.length - off it + 2 ≤ n) :
    ∃ items, ChunkIter.drainT A n it = (items, 0) ∧
      Spec (firstMatch A st0 data) data false (off it) r (items.filterMap id) ∧
      errItems items ≤ 1 ∧ (Spent it.rdr → errItems items = 0) := by
  induction n generalizing it r with
  | zero => omega
  | succ n ih =>
    rw [ChunkIter.drainT]
    have hp := nextT_post H (nextFuel it) it r h (need_le_nextFuel h)
    have hr := nextT_rdr A (nextFuel it) it
    generalize ChunkIter.nextT A it (nextFuel it) = res at hp hr
    match res, hp, hr with
    | (.done, it'), ⟨h1, _, h2, h3⟩, _ =>
      exact ⟨[], by simp only [h1], Or.inr ⟨h2, h3⟩, Nat.zero_le _, fun _ => rfl⟩
    | (.ioErr, it'), ⟨h1, h2, _⟩, hr =>
      obtain ⟨h3, h4⟩ := Failed.spent hr
      have := hn' h3
      obtain ⟨items, hd, hs, _, he⟩ := ih it' r h1 (by omega) (fun hns => absurd h4 hns)
      refine ⟨none :: items, by simp only [hd], ?_, ?_, fun hsp => absurd hsp h3⟩
      · rw [List.filterMap_cons_none (f := id) rfl, ← h2]; exact hs
      · rw [errItems_none, he h4]; exact Nat.le_refl _
    | (.chunk (.nonMatch b), it'), ⟨h1, h2, h3⟩, hr =>
      have h4 : Spent it.rdr → Spent it'.rdr := Adv.spent hr
      have hle := h1.off_le
      obtain ⟨items, hd, hs, he1, he⟩ := ih it' r h1 (by omega)
        (fun hns => by have := hn' (fun hsp => hns (h4 hsp)); omega)
      refine ⟨some (.nonMatch b) :: items, by simp only [hd], ?_, he1, fun hsp => he (h4 hsp)⟩
      rw [List.filterMap_cons_some (f := id) rfl]
      exact ⟨off it', h2, hle, h3, hs⟩
    | (.chunk (.mtch b m), it'), ⟨h1, h2, h3, h4, h5⟩, hr =>
      have h6 : Spent it.rdr → Spent it'.rdr := Adv.spent hr
      have hm := H.fok r m h.r_le h2
      have hle := h4 ▸ h1.off_le
      obtain ⟨items, hd, hs, he1, he⟩ := ih it' m.stop h1 (by omega)
        (fun hns => by have := hn' (fun hsp => hns (h6 hsp)); omega)
      refine ⟨some (.mtch b m) :: items, by simp only [hd], ?_, he1, fun hsp => he (h6 hsp)⟩
      rw [List.filterMap_cons_some (f := id) rfl]
      exact ⟨h2, h3, h5, h4 ▸ hs⟩

end

/-! ## from chunk-level items to `StreamFindIter` items -/

theorem findItem_mats (items : List (Option (Chunk α))) :
    (items.filterMap findItem).filterMap id = chunkMats (items.filterMap id) := by
  induction items with
  | nil => rfl
  | cons x items ih =>
    match x with
    | none =>
      rw [List.filterMap_cons_some (f := findItem) rfl, List.filterMap_cons_none (f := id) rfl,
        List.filterMap_cons_none (f := id) rfl]
      exact ih
    | some (.nonMatch b) =>
      rw [List.filterMap_cons_none (f := findItem) rfl, List.filterMap_cons_some (f := id) rfl,
        chunkMats_nonMatch]
      exact ih
    | some (.mtch b m) =>
      rw [List.filterMap_cons_some (f := findItem) (b := some m) rfl,
        List.filterMap_cons_some (f := id) rfl, List.filterMap_cons_some (f := id) rfl,
        chunkMats_mtch, ih]

theorem findItem_errs (items : List (Option (Chunk α))) :
    ((items.filterMap findItem).filter (· == none)).length = errItems items := by
  induction items with
  | nil => rfl
  | cons x items ih =>
    match x with
    | none =>
      rw [List.filterMap_cons_some (f := findItem) (b := none) rfl,
        List.filter_cons_of_pos (by rfl), List.length_cons, ih, errItems_none]
    | some (.nonMatch b) =>
      rw [List.filterMap_cons_none (f := findItem) rfl, ih, errItems_some]
    | some (.mtch b m) =>
      rw [List.filterMap_cons_some (f := findItem) (b := some m) rfl,
        List.filter_cons_of_neg (by simp), ih, errItems_some]

theorem items_of_no_err (items : List (Option Mat))
    (h : (items.filter (· == none)).length = 0) : items = (items.filterMap id).map some := by
  induction items with
  | nil => rfl
  | cons x items ih =>
    match x with
    | none => simp at h
    | some m =>
      rw [List.filter_cons_of_neg (by simp)] at h
      rw [List.filterMap_cons_some (f := id) (b := m) rfl, List.map_cons, ← ih h]

theorem StreamRef.runT {σ : Type} {A : Aut σ α} {st0 : σ} {data : List α} {spare : Option Nat}
    {minFactor defaultCap : Nat} (h : StreamRef A st0 data spare minFactor defaultCap)
    {sched : List Nat} (hs : ∀ x ∈ sched, 1 ≤ x) (fa : Option Nat) :
    ∃ it items,
      ChunkIter.new A { data := data, sched := sched, failAt := fa } spare minFactor
        defaultCap = .ok it ∧
      ChunkIter.drainT A (drainFuelT data) it = (items, 0) ∧
      Spec (firstMatch A st0 data) data false 0 0 (items.filterMap id) ∧
      errItems items ≤ 1 ∧ (fa = none → errItems items = 0) := by
  have hI := inv_init A (h.hyp sched hs).m0 data sched fa
    (Buffer.new A.maxLen spare minFactor defaultCap) rfl
  obtain ⟨items, hd, hsp, he1, he⟩ := drainT_spec (h.hyp sched hs) (drainFuelT data) _ 0 hI
    (by show data.length - (0 - 0 + 0) + 1 ≤ drainFuelT data; unfold drainFuelT; omega)
    (fun _ => by show data.length - (0 - 0 + 0) + 2 ≤ drainFuelT data; unfold drainFuelT; omega)
  exact ⟨_, items, h.new _, hd, hsp, he1, fun hfa => he (spent_of_none hfa)⟩

/-- a whole resumed search against the fault-free one: `ms` is the in-memory iterator's list and
the fault-free stream result for EVERY schedule -/
theorem StreamRef.resume {σ : Type} {A : Aut σ α} {st0 : σ} {data : List α} {spare : Option Nat}
    {minFactor defaultCap : Nat} (h : StreamRef A st0 data spare minFactor defaultCap)
    {sched : List Nat} (hs : ∀ x ∈ sched, 1 ≤ x) (fa : Option Nat) :
    ∃ ms items,
      findIter A none (whole data) = .ok ms ∧
      (∀ sched' : List Nat, (∀ x ∈ sched', 1 ≤ x) →
        streamFind A { data := data, sched := sched' } spare minFactor defaultCap =
          .ok (ms, false, 0)) ∧
      streamFindT A { data := data, sched := sched, failAt := fa } spare minFactor defaultCap =
        .ok (items, 0) ∧
      items.filterMap id = ms ∧ (items.filter (· == none)).length ≤ 1 ∧
      (fa = none → (items.filter (· == none)).length = 0) ∧
      ((items.filter (· == none)).length = 0 → items = ms.map some) := by
  obtain ⟨itT, items, hnewT, hdT, hspT, he1, he0⟩ := h.runT hs fa
  have hmT := (spec_mats (h.hyp sched hs).FOK hspT (Nat.zero_le _) (data.length + 2 - 0) none
    (by omega)).2 rfl
  have hms : (items.filterMap findItem).filterMap id = iterSpec (firstMatch A st0 data) 0
      data.length := (findItem_mats items).trans hmT
  refine ⟨_, items.filterMap findItem, h.iter, fun sched' hs' => ?_, ?_, hms, ?_, ?_,
    fun h0 => hms ▸ items_of_no_err _ h0⟩
  · obtain ⟨ms', h1, h2⟩ := h.eq_iter hs'
    cases h.iter.symm.trans h1
    exact h2
  · simp only [streamFindT, hnewT, hdT]
  · rw [findItem_errs]; exact he1
  · rw [findItem_errs]; exact he0

theorem StreamRef.resume_err_iff {σ : Type} {A : Aut σ α} {st0 : σ} {data : List α}
    {spare : Option Nat} {minFactor defaultCap : Nat}
    (h : StreamRef A st0 data spare minFactor defaultCap) {sched : List Nat}
    (hs : ∀ x ∈ sched, 1 ≤ x) (k : Nat) :
    ∃ items c,
      streamFindT A { data := data, sched := sched, failAt := some k } spare minFactor
        defaultCap = .ok (items, 0) ∧
      streamCallsT A { data := data, sched := sched } spare minFactor defaultCap = .ok c ∧
      ((items.filter (· == none)).length = 1 ↔ k < c) ∧
      ((items.filter (· == none)).length = 0 ↔ c ≤ k) := by
  obtain ⟨itT, items, hnewT, hdT, _, he1, _⟩ := h.runT hs (some k)
  have e : _ = itT := Except.ok.inj ((h.new _).symm.trans hnewT)
  have hiff := drainT_err_iff A k (drainFuelT data) itT (e ▸ ⟨rfl, Nat.zero_le _⟩)
  rw [hdT] at hiff
  have hiff' : 1 ≤ errItems items ↔ k < callsT A (drainFuelT data) (clrIt itT) := hiff
  refine ⟨items.filterMap findItem, callsT A (drainFuelT data) (clrIt itT),
    by simp only [streamFindT, hnewT, hdT], by rw [← e]; simp only [streamCallsT, h.new], ?_, ?_⟩ <;>
    rw [findItem_errs] <;> omega

end AcVerif.StreamP
