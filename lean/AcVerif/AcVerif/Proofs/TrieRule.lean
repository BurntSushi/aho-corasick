import AcVerif.Proofs.NfaMemCompileAbs
/-!
# `build_trie` once: the builder carrying a value, and one rule for its invariants

`addPatternG` / `trieStepG` / `buildTrieG` are `CNfa.addPattern` / `trieStep` / `CNfa.buildTrie`
carrying a value `g : γ`: `mark` is applied at every pattern byte that is walked (after the
leftmost-first test, before the edge is followed or created) and `fin` when a pattern id is
recorded.  What they build does not depend on what they carry (`addPatternG_fst`, `buildTrieG_fst`),
so `γ := Unit` is the plain builder and `γ := ByteClassSet` the one of `AcVerif/Alphabet.lean`.
`addPatternG` also returns the automaton as it is at a `continue 'PATTERNS`.

`TrieRule`: what has to be shown of a property `At n g p` (automaton, carried value, current node)
for it to hold throughout `build_trie` – the two things a byte can do, follow an edge or allocate
a child.  `addPatternG_rule`, `trieStepG_rule`, `buildTrieG_rule` keep the trie shape `MemC.TI` and
the position of the loop (`Node`) themselves and hand them to `At`.  A pattern that is skipped has
left the automaton as it was (case `none` of `TrieRule.Post`): the crate keeps the automaton of
that moment, `CNfa.buildTrie` falls back to the one before the pattern; once a node is allocated
the walk stands at a fresh node and cannot be skipped (`addPatternG_fresh`).
-/
namespace AcVerif.L1cP
open AcVerif AcVerif.CNfa AcVerif.MemC

variable {γ : Type}

def addPatternG (lf fold : Bool) (mark : γ → UInt8 → γ) :
    CNfa → γ → Nat → Bool → List UInt8 → CNfa × Option Nat × γ
  | n, g, prev, _, [] => (n, some prev, g)
  | n, g, prev, saw, b :: rest =>
    if (lf && (saw || isMatch n prev)) = true then (n, none, g)
    else if follow n prev b ≠ FAIL then
      addPatternG lf fold mark n (mark g b) (follow n prev b) (saw || isMatch n prev) rest
    else
      addPatternG lf fold mark (newChild fold n prev b) (mark g b) n.size (saw || isMatch n prev)
        rest

/-- what `addPattern` returns -/
def addResult : CNfa × Option Nat × γ → Option (CNfa × Nat)
  | (n, some last, _) => some (n, last)
  | (_, none, _) => none

def trieStepG (k : MatchKind) (fold : Bool) (mark : γ → UInt8 → γ) (fin : γ → Nat → γ)
    (acc : CNfa × γ) (x : List UInt8 × Nat) : CNfa × γ :=
  match addPatternG (k == .lf) fold mark acc.1 acc.2 SU false x.1 with
  | (_, none, g) => (acc.1, g)
  | (n, some last, g) =>
    (n.modify last fun st => { st with matches_ := st.matches_ ++ [x.2] }, fin g x.2)

def buildTrieG (k : MatchKind) (fold : Bool) (mark : γ → UInt8 → γ) (fin : γ → Nat → γ) (g0 : γ)
    (P : List (List UInt8)) : CNfa × γ :=
  P.zipIdx.foldl (trieStepG k fold mark fin) (init, g0)

/-! ## the automaton does not depend on what is carried -/

theorem addPatternG_fst (lf fold : Bool) (mark : γ → UInt8 → γ) :
    ∀ (pat : List UInt8) (n : CNfa) (g : γ) (prev : Nat) (saw : Bool),
      addResult (addPatternG lf fold mark n g prev saw pat) = addPattern lf fold n prev saw pat
  | [], n, g, prev, saw => by rw [addPatternG, addPattern]; rfl
  | b :: rest, n, g, prev, saw => by
    rw [addPatternG, addPattern_cons]
    split
    · rfl
    · split <;> exact addPatternG_fst lf fold mark rest _ _ _ _

theorem trieStepG_fst (k : MatchKind) (fold : Bool) (mark : γ → UInt8 → γ) (fin : γ → Nat → γ)
    (acc : CNfa × γ) (x : List UInt8 × Nat) :
    (trieStepG k fold mark fin acc x).1 = trieStep k fold acc.1 x := by
  unfold trieStepG trieStep
  rw [← addPatternG_fst (k == .lf) fold mark x.1 acc.1 acc.2 SU false]
  rcases addPatternG (k == .lf) fold mark acc.1 acc.2 SU false x.1 with ⟨n', _ | l, g⟩ <;> rfl

theorem buildTrieG_fst (k : MatchKind) (fold : Bool) (mark : γ → UInt8 → γ) (fin : γ → Nat → γ)
    (g0 : γ) (P : List (List UInt8)) :
    (buildTrieG k fold mark fin g0 P).1 = buildTrie k fold P :=
  List.foldl_rel (r := fun (a : CNfa × γ) (c : CNfa) => a.1 = c) rfl
    fun x _ a c h => by rw [trieStepG_fst, h]; rfl

theorem addPatternG_fresh (lf fold : Bool) (mark : γ → UInt8 → γ) :
    ∀ (pat : List UInt8) (n : CNfa) (g : γ) (prev : Nat) (saw : Bool), prev < n.size →
      Fresh n prev → (lf && saw) = false → (addPatternG lf fold mark n g prev saw pat).2.1 ≠ none
  | [], n, g, prev, saw, _, _, _ => by simp [addPatternG]
  | b :: rest, n, g, prev, saw, hlt, hf, hs => by
    have him : isMatch n prev = false := by unfold isMatch; rw [hf.2]; rfl
    have hfo : follow n prev b = FAIL := by rw [follow_eq, hf.1]; rfl
    rw [addPatternG, him, Bool.or_false, if_neg (by rw [hs]; simp), if_neg (fun hh => hh hfo)]
    exact addPatternG_fresh lf fold mark rest _ _ _ _ (by rw [size_newChild]; omega)
      (fresh_newChild fold n prev b hlt) hs

/-! ## the rule -/

/-- the current node of the pattern loop: the unanchored start state or a trie node -/
def Node (n : CNfa) (p : Nat) : Prop := p < n.size ∧ (p = 2 ∨ 4 ≤ p)

/-- what one byte of a pattern may do to the automaton, the carried value and the current node;
the trie shape and the position come with it -/
structure TrieRule (fold : Bool) (mark : γ → UInt8 → γ) (At : CNfa → γ → Nat → Prop) : Prop where
  walk : ∀ {n d g p} (b : UInt8), TI fold n d → Node n p → At n g p → follow n p b ≠ FAIL →
    At n (mark g b) (follow n p b)
  child : ∀ {n d g p} (b : UInt8), TI fold n d → Node n p → At n g p → follow n p b = FAIL →
    At (newChild fold n p b) (mark g b) n.size

/-- after a pattern: shape and `At` at its last node; a skipped pattern has left `n` as it was -/
def TrieRule.Post (fold : Bool) (At : CNfa → γ → Nat → Prop) (n : CNfa) :
    CNfa × Option Nat × γ → Prop
  | (n', some last, g') => (∃ d', TI fold n' d') ∧ Node n' last ∧ At n' g' last
  | (n', none, g') => n' = n ∧ ∃ p, Node n p ∧ At n g' p

theorem addPatternG_rule {lf fold : Bool} {mark : γ → UInt8 → γ} {At : CNfa → γ → Nat → Prop}
    (R : TrieRule fold mark At) :
    ∀ (pat : List UInt8) (n : CNfa) (d : Nat → Nat) (g : γ) (p : Nat) (saw : Bool), TI fold n d →
      Node n p → At n g p → TrieRule.Post fold At n (addPatternG lf fold mark n g p saw pat)
  | [], n, d, g, p, saw, hT, hp, h => by rw [addPatternG]; exact ⟨⟨d, hT⟩, hp, h⟩
  | b :: rest, n, d, g, p, saw, hT, hp, h => by
    rw [addPatternG]
    split
    · exact ⟨rfl, p, hp, h⟩
    · rename_i hskip
      split
      · rename_i hne
        exact addPatternG_rule (lf := lf) R rest n d (mark g b) _ (saw || isMatch n p) hT
          ⟨(hT.follow hp.2 hne).1, Or.inr (hT.follow hp.2 hne).2⟩ (R.walk b hT hp h hne)
      · rename_i hne
        have hlt : n.size < (newChild fold n p b).size := by rw [size_newChild]; omega
        have ih := addPatternG_rule (lf := lf) R rest _ _ (mark g b) n.size (saw || isMatch n p)
          (hT.alloc hp.1 hp.2 b) ⟨hlt, Or.inr hT.size4⟩
          (R.child b hT hp h (Decidable.not_not.1 hne))
        have hnn := addPatternG_fresh lf fold mark rest (newChild fold n p b) (mark g b) n.size
          (saw || isMatch n p) hlt (fresh_newChild fold n p b hp.1) (by simpa using hskip)
        revert ih hnn
        rcases addPatternG lf fold mark (newChild fold n p b) (mark g b) n.size
          (saw || isMatch n p) rest with ⟨n', _ | l, g'⟩
        · exact fun _ hnn => absurd rfl hnn
        · exact fun ih _ => ih

/-- one round of the loop over the patterns: `I` between patterns, `At` inside one -/
theorem trieStepG_rule {k : MatchKind} {fold : Bool} {mark : γ → UInt8 → γ} {fin : γ → Nat → γ}
    {At : CNfa → γ → Nat → Prop} {I : CNfa → γ → Prop} (R : TrieRule fold mark At)
    (root : ∀ {n d g}, TI fold n d → I n g → At n g SU)
    (skip : ∀ {n d g p}, TI fold n d → At n g p → I n g)
    (finish : ∀ {n d g last} (pid : Nat), TI fold n d → Node n last → At n g last →
      I (n.modify last fun st => { st with matches_ := st.matches_ ++ [pid] }) (fin g pid))
    {acc : CNfa × γ} {d : Nat → Nat} (hT : TI fold acc.1 d) (h : I acc.1 acc.2)
    (x : List UInt8 × Nat) :
    (∃ d, TI fold (trieStepG k fold mark fin acc x).1 d) ∧
      I (trieStepG k fold mark fin acc x).1 (trieStepG k fold mark fin acc x).2 := by
  have hp := addPatternG_rule (lf := k == .lf) R x.1 acc.1 d acc.2 SU false hT
    ⟨by have := hT.size4; simp only [SU]; omega, Or.inl rfl⟩ (root hT h)
  unfold trieStepG
  revert hp
  rcases addPatternG (k == .lf) fold mark acc.1 acc.2 SU false x.1 with ⟨n', _ | last, g'⟩
  · exact fun ⟨_, _, _, hp⟩ => ⟨⟨d, hT⟩, skip hT hp⟩
  · rintro ⟨⟨d', hT'⟩, hl, hp⟩
    refine ⟨⟨d', hT'.congr (Array.size_modify ..) fun s => ?_⟩, finish x.2 hT' hl hp⟩
    rw [Array.getD_modify]; split <;> exact ⟨rfl, rfl⟩

theorem buildTrieG_rule {k : MatchKind} {fold : Bool} {mark : γ → UInt8 → γ} {fin : γ → Nat → γ}
    {At : CNfa → γ → Nat → Prop} {I : CNfa → γ → Prop} (R : TrieRule fold mark At)
    (root : ∀ {n d g}, TI fold n d → I n g → At n g SU)
    (skip : ∀ {n d g p}, TI fold n d → At n g p → I n g)
    (finish : ∀ {n d g last} (pid : Nat), TI fold n d → Node n last → At n g last →
      I (n.modify last fun st => { st with matches_ := st.matches_ ++ [pid] }) (fin g pid))
    {g0 : γ} (h0 : I init g0) (P : List (List UInt8)) :
    (∃ d, TI fold (buildTrieG k fold mark fin g0 P).1 d) ∧
      I (buildTrieG k fold mark fin g0 P).1 (buildTrieG k fold mark fin g0 P).2 :=
  List.foldlRecOn (motive := fun a : CNfa × γ => (∃ d, TI fold a.1 d) ∧ I a.1 a.2) _ _
    ⟨⟨_, TI_init fold⟩, h0⟩ fun _ ⟨⟨_, hT⟩, h⟩ x _ => trieStepG_rule R root skip finish hT h x

end AcVerif.L1cP

namespace AcVerif.MemC
open AcVerif AcVerif.CNfa AcVerif.L1cP

/-- the shape alone -/
theorem TrieRule.shape (fold : Bool) :
    TrieRule fold (fun (g : Unit) _ => g) (fun _ _ _ => True) where
  walk _ _ _ _ _ := trivial
  child _ _ _ _ _ := trivial

theorem TI.trieStep {fold : Bool} {n : CNfa} {d : Nat → Nat} (h : TI fold n d) (k : MatchKind)
    (x : List UInt8 × Nat) : ∃ d', TI fold (trieStep k fold n x) d' := by
  rw [← trieStepG_fst k fold (fun (g : Unit) _ => g) (fun g _ => g) (n, ()) x]
  exact (trieStepG_rule (I := fun _ _ => True) (TrieRule.shape fold) (fun _ _ => trivial)
    (fun _ _ => trivial) (fun _ _ _ _ => trivial) (acc := (n, ())) h trivial x).1

theorem TI_buildTrie (k : MatchKind) (fold : Bool) (P : List (List UInt8)) :
    ∃ d, TI fold (buildTrie k fold P) d := by
  rw [← buildTrieG_fst k fold (fun g _ => g) (fun g _ => g) () P]
  exact (buildTrieG_rule (I := fun _ _ => True) (TrieRule.shape fold) (fun _ _ => trivial)
    (fun _ _ => trivial) (fun _ _ _ _ => trivial) trivial P).1

end AcVerif.MemC
