import AcVerif.Compiler
import AcVerif.Proofs.ListArray
/-!
# L1e proofs: generic fold lemmas (prefix sums, offsets table, concatenation)

`psum g k = g 0 + … + g (k - 1)` with its monotonicity facts (`psum_mono`, `psum_succ_le`,
`psum_lt`; `psum_ge`: at least `2 * (k - 1)` when every summand except the one of index 1, the
skipped `FAIL`, is `≥ 2`).  `offs_fold`: the offsets fold of `buildContig` (the shape of `cOffsets`)
is the table of `psum`s with `FAIL` at index `FAIL`; `repr_fold`: the `repr` fold (the shape of
`cRepr`) is a `flatMap`; `flat_length` / `flat_getD` read a `flatMap` at `psum … i + j`.
-/
namespace AcVerif.L1eP
open AcVerif AcVerif.CNfa

def psum (g : Nat → Nat) : Nat → Nat
  | 0 => 0
  | k + 1 => psum g k + g k

theorem psum_mono (g : Nat → Nat) {i k : Nat} (h : i ≤ k) : psum g i ≤ psum g k := by
  induction k with
  | zero =>
    have : i = 0 := by omega
    subst this; exact Nat.le_refl _
  | succ k ih =>
    by_cases e : i = k + 1
    · subst e; exact Nat.le_refl _
    · have := ih (by omega)
      simp only [psum]; omega

theorem psum_succ_le (g : Nat → Nat) {i k : Nat} (h : i < k) : psum g i + g i ≤ psum g k :=
  psum_mono g (show i + 1 ≤ k from h)

theorem psum_congr (g g' : Nat → Nat) (k : Nat) (h : ∀ i, i < k → g i = g' i) :
    psum g k = psum g' k := by
  induction k with
  | zero => rfl
  | succ k ih =>
    simp only [psum]
    rw [ih (fun i hi => h i (by omega)), h k (by omega)]

theorem psum_lt (g : Nat → Nat) {i k : Nat} (h : i < k) (hpos : 0 < g i) : psum g i < psum g k := by
  have := psum_succ_le g h
  omega

theorem psum_ge (g : Nat → Nat) (k : Nat) (hpos : ∀ i, i < k → i ≠ 1 → 2 ≤ g i) :
    2 * k ≤ psum g k + 2 := by
  induction k with
  | zero => omega
  | succ k ih =>
    have := ih (fun i hi h1 => hpos i (by omega) h1)
    simp only [psum]
    by_cases e : k = 1
    · subst e
      have := hpos 0 (by omega) (by omega)
      simp only [psum] at *
      omega
    · have := hpos k (by omega) e
      omega

theorem offs_fold (g : Nat → Nat) (k : Nat) :
    ((List.range k).foldl (fun (acc : Array Nat × Nat) i =>
      if i == FAIL then (acc.1.push FAIL, acc.2) else (acc.1.push acc.2, acc.2 + g i)) (#[], 0)) =
    (((List.range k).map fun i => if i == FAIL then FAIL else psum (fun i => if i == FAIL then 0 else g i) i).toArray,
      psum (fun i => if i == FAIL then 0 else g i) k) := by
  induction k with
  | zero => rfl
  | succ k ih =>
    rw [List.range_succ, List.foldl_append, ih]
    simp only [List.foldl_cons, List.foldl_nil, List.map_append, List.map_cons, List.map_nil, psum]
    by_cases e : (k == FAIL) = true
    · simp only [e, if_true, Nat.add_zero]
      rw [← List.push_toArray]
    · simp only [e, Bool.false_eq_true, if_false]
      rw [← List.push_toArray]

/-! ## the concatenation -/

theorem repr_fold (F : Nat → List Nat) (k : Nat) :
    (List.range k).foldl (fun (r : Array Nat) i => if i == FAIL then r else r ++ (F i).toArray) #[] =
      ((List.range k).flatMap fun i => if i == FAIL then [] else F i).toArray := by
  induction k with
  | zero => rfl
  | succ k ih =>
    rw [List.range_succ, List.foldl_append, ih]
    simp only [List.foldl_cons, List.foldl_nil, List.flatMap_append, List.flatMap_cons,
      List.flatMap_nil, List.append_nil]
    by_cases e : (k == FAIL) = true
    · simp only [e, if_true, List.append_nil]
    · simp only [e, Bool.false_eq_true, if_false]
      simp

theorem flat_length (F : Nat → List Nat) (k : Nat) :
    ((List.range k).flatMap F).length = psum (fun i => (F i).length) k := by
  induction k with
  | zero => rfl
  | succ k ih =>
    rw [List.range_succ, List.flatMap_append, List.length_append, ih]
    simp [psum]

theorem flat_getD (F : Nat → List Nat) (k : Nat) (d : Nat) :
    ∀ i j, i < k → j < (F i).length →
      ((List.range k).flatMap F).getD (psum (fun i => (F i).length) i + j) d = (F i).getD j d := by
  induction k with
  | zero => intro i j hi; omega
  | succ k ih =>
    intro i j hi hj
    rw [List.range_succ, List.flatMap_append]
    simp only [List.flatMap_cons, List.flatMap_nil, List.append_nil]
    by_cases e : i = k
    · subst e
      rw [← flat_length, List.getD_append_right]
    · have hik : i < k := by omega
      have := psum_succ_le (fun i => (F i).length) hik
      rw [List.getD_append_left _ _ _ (by rw [flat_length]; omega)]
      exact ih i j hik hj

end AcVerif.L1eP
