import AcVerif.Proofs.CompilerStart
/-!
# The noncontiguous compiler (L1c): the failure phase, data side

`finalFail` is the failure link of a node as a model state; the model's transition on a byte
without goto is the transition of that link (`CostP.next_link`).  `FI` says which trie nodes
already carry their final failure link and match list (`pend` lists the strings of the nodes not
yet reached by the breadth-first traversal); `FI.erase` finishes one node.  `ChainSpec.walk` is
the one induction along a failure chain, for `next_state` at run time and for the failure chase at
compile time (which reads links of finished nodes only: `ChaseOK`), over what the chain reads of
the automaton (`ChainSpec`; `FI.chain` during the failure phase, `NfaSpec.chain` afterwards).
-/
namespace AcVerif.L1cP
open AcVerif AcVerif.CNfa AcVerif.LmP

def finalFail (k : MatchKind) (Q : PatSet UInt8) (u : List UInt8) : St UInt8 :=
  if (k != .std && blocked Q u (u.length - (failStd Q u).length)) = true then .dead
  else .at (failStd Q u)

/-! ## model-side unfolding of `Ideal.next` along a failure link -/

theorem next_lm {k : MatchKind} (hk : k ≠ .std) (Q : PatSet UInt8) (v : List UInt8) (b : UInt8) :
    Ideal.next k Q false (.at v) b = stepLm Q v b := by
  cases k with
  | std => exact absurd rfl hk
  | lf => rfl
  | ll => rfl

theorem out_lm {k : MatchKind} (hk : k ≠ .std) (Q : PatSet UInt8) (v : List UInt8) :
    Ideal.out k Q (.at v) = outLm Q v := by
  cases k with
  | std => exact absurd rfl hk
  | lf => rfl
  | ll => rfl

theorem next_root (k : MatchKind) (Q : PatSet UInt8) (b : UInt8) (hp : ¬ isPref Q [b] = true)
    (hk : k = .std ∨ idsOf Q [] = []) : Ideal.next k Q false (.at []) b = .at [] := by
  by_cases hstd : k = .std
  · have hl : lsp Q ([] ++ [b]) = [] := by
      show lsp Q [b] = []
      simp only [lsp, if_neg hp]
    simp only [hstd, Ideal.next, Bool.false_eq_true, if_false, stepStd, hl]
  · rw [next_lm hstd, stepLm_root, if_neg hp, hk.resolve_left hstd]; rfl

theorem next_root_dead (k : MatchKind) (Q : PatSet UInt8) (b : UInt8)
    (hp : ¬ isPref Q [b] = true) (hk : k ≠ .std) (h0 : idsOf Q [] ≠ []) :
    Ideal.next k Q false (.at []) b = .dead := by
  rw [next_lm hk, stepLm_root, if_neg hp, if_neg (by simpa using h0)]

theorem finalFail_cons (k : MatchKind) (Q : PatSet UInt8) (a : UInt8) (t : List UInt8) :
    finalFail k Q (a :: t) =
      if (k != .std && blocked Q (a :: t) ((a :: t).length - (lsp Q t).length)) = true then .dead
      else .at (lsp Q t) := rfl

theorem finalFail_len (k : MatchKind) (Q : PatSet UInt8) (a : UInt8) (t : List UInt8) :
    finalFail k Q (a :: t) = .dead ∨ finalFail k Q (a :: t) = .at (lsp Q t) := by
  rw [finalFail_cons]
  split
  · exact Or.inl rfl
  · exact Or.inr rfl

/-! ## the data invariant -/

/-- `n0` is the automaton when the failure phase starts, `n` the current one: only `fail` and `matches_` of nodes `≥ 4` differ -/
structure FI (k : MatchKind) (Q : PatSet UInt8) (L : List (List UInt8)) (n0 n : CNfa)
    (pend : List (List UInt8)) : Prop where
  size : n.size = n0.size
  trans : ∀ sid, (n.getD sid {}).trans = (n0.getD sid {}).trans
  keep : ∀ sid, sid < 4 → n.getD sid {} = n0.getD sid {}
  todo : ∀ u, u ∈ L → u ∈ pend →
    (n.getD (nu L u) {}).fail = SU ∧ (n.getD (nu L u) {}).matches_ = idsOf Q u
  done : ∀ u, u ∈ L → u ∉ pend →
    (n.getD (nu L u) {}).fail = sidOf L (finalFail k Q u) ∧
      (n.getD (nu L u) {}).matches_ = Ideal.out k Q (.at u)

theorem out_nil (k : MatchKind) (Q : PatSet UInt8) : Ideal.out k Q (.at []) = idsOf Q [] := by
  by_cases hstd : k = .std
  · rw [hstd]; exact outStd_nil Q
  · rw [out_lm hstd]; exact outLm_nil_eq Q

namespace FI
variable {fold : Bool} {k : MatchKind} {Q : PatSet UInt8} {L : List (List UInt8)} {n0 n : CNfa}
  {pend : List (List UInt8)}

theorem follow_eq0 (h : FI k Q L n0 n pend) (sid : Nat) (b : UInt8) :
    follow n sid b = follow n0 sid b := by
  rw [follow_eq, follow_eq, h.trans]

theorem init (hB : PBg fold Q L n0) : FI k Q L n0 n0 L :=
  { size := rfl, trans := fun _ => rfl, keep := fun _ _ => rfl,
    todo := fun u hu _ => ⟨hB.fail u hu, hB.mats u (Or.inr hu)⟩,
    done := fun _ hu hn => absurd hu hn }

theorem mats_su (hB : PBg fold Q L n0) (h : FI k Q L n0 n pend) :
    (n.getD SU {}).matches_ = idsOf Q [] := by
  rw [h.keep SU (by simp [SU])]; exact hB.mats_su

theorem mats_dead (hB : PBg fold Q L n0) (h : FI k Q L n0 n pend) :
    (n.getD DEAD {}).matches_ = [] := by
  rw [h.keep DEAD (by simp [DEAD])]; exact hB.mats_dead

theorem mats_sidOf (hB : PBg fold Q L n0) (h : FI k Q L n0 n pend) (q : St UInt8)
    (hq : match q with | .dead => True | .at v => v = [] ∨ (v ∈ L ∧ v ∉ pend)) :
    (n.getD (sidOf L q) {}).matches_ = Ideal.out k Q q := by
  cases q with
  | dead => exact h.mats_dead hB
  | «at» v =>
    rcases hq with h0 | ⟨hv, hvp⟩
    · rw [h0, out_nil]; exact h.mats_su hB
    · exact (h.done v hv hvp).2

theorem erase (hB : PBg fold Q L n0) (h : FI k Q L n0 n pend) (hnd : pend.Nodup) {c : List UInt8}
    (hc : c ∈ L) {n' : CNfa} (hsz : n'.size = n.size)
    (hoth : ∀ sid, sid ≠ nu L c → n'.getD sid {} = n.getD sid {})
    (htr : (n'.getD (nu L c) {}).trans = (n.getD (nu L c) {}).trans)
    (hf : (n'.getD (nu L c) {}).fail = sidOf L (finalFail k Q c))
    (hm : (n'.getD (nu L c) {}).matches_ = Ideal.out k Q (.at c)) :
    FI k Q L n0 n' (pend.erase c) := by
  have hc4 : 4 ≤ nu L c := nu_ge (hB.ne_nil hc)
  have hne : ∀ u, u ∈ L → u ≠ c → nu L u ≠ nu L c := fun u hu huc e =>
    huc (nu_inj (Or.inr hu) (Or.inr hc) e)
  refine { size := hsz.trans h.size, trans := ?_, keep := ?_, todo := ?_, done := ?_ }
  · intro sid
    by_cases e : sid = nu L c
    · rw [e, htr, h.trans]
    · rw [hoth sid e, h.trans]
  · intro sid hs
    rw [hoth sid (by omega)]; exact h.keep sid hs
  · intro u hu hup
    have huc : u ≠ c := fun e => by
      rw [e] at hup; exact absurd hup (by rw [hnd.mem_erase_iff]; simp)
    rw [hoth _ (hne u hu huc)]
    exact h.todo u hu ((List.mem_erase_of_ne huc).1 hup)
  · intro u hu hup
    by_cases huc : u = c
    · subst huc; exact ⟨hf, hm⟩
    · rw [hoth _ (hne u hu huc)]
      exact h.done u hu (fun hp => hup ((List.mem_erase_of_ne huc).2 hp))

theorem update (hB : PB Q L n0) (h : FI k Q L n0 n pend) (hnd : pend.Nodup) {c : List UInt8}
    (hc : c ∈ L) {n' : CNfa} (hsz : n'.size = n.size)
    (hoth : ∀ sid, sid ≠ nu L c → n'.getD sid {} = n.getD sid {})
    (htr : (n'.getD (nu L c) {}).trans = (n.getD (nu L c) {}).trans)
    (hf : (n'.getD (nu L c) {}).fail = sidOf L (finalFail k Q c))
    (hm : (n'.getD (nu L c) {}).matches_ = Ideal.out k Q (.at c)) :
    FI k Q L n0 n' (pend.erase c) :=
  h.erase hB.toG hnd hc hsz hoth htr hf hm

end FI

/-! ## `chaseFail` -/

theorem sidOf_ne_fail (L : List (List UInt8)) (q : St UInt8) : sidOf L q ≠ FAIL := by
  cases q with
  | dead => simp [sidOf, DEAD, FAIL]
  | «at» u => exact nu_ne_fail L u

theorem chaseFail_stop (n : CNfa) (b : UInt8) (fuel s : Nat) (h : follow n s b ≠ FAIL) :
    chaseFail n b fuel s = s := by
  cases fuel with
  | zero => rfl
  | succ fuel =>
    rw [chaseFail]
    have : ¬ (follow n s b == FAIL) = true := by simpa using h
    rw [if_neg this]

theorem chaseFail_go (n : CNfa) (b : UInt8) (fuel s : Nat) (h : follow n s b = FAIL) :
    chaseFail n b (fuel + 1) s = chaseFail n b fuel (n.getD s {}).fail := by
  rw [chaseFail]
  have : (follow n s b == FAIL) = true := by simpa using h
  rw [if_pos this]

/-- the failure chase from `g` follows failure links of states `3 ≤ g < n.size` only: what a
representation needs that stores other links for `DEAD`, `FAIL` and the unanchored start -/
def ChaseOK (n : CNfa) (b : UInt8) : Nat → Nat → Prop
  | 0, _ => True
  | fuel + 1, g => follow n g b = FAIL → 3 ≤ g ∧ g < n.size ∧ ChaseOK n b fuel (n.getD g {}).fail

theorem ChaseOK.of_stop {n : CNfa} {b : UInt8} {g : Nat} (h : follow n g b ≠ FAIL) :
    ∀ fuel, ChaseOK n b fuel g
  | 0 => trivial
  | _ + 1 => fun hF => absurd hF h

theorem chaseFail_dead {n : CNfa} {b : UInt8} (hd : follow n DEAD b = DEAD) (fuel : Nat) :
    follow n (chaseFail n b fuel DEAD) b = DEAD ∧ ChaseOK n b fuel DEAD := by
  have hne : follow n DEAD b ≠ FAIL := by rw [hd]; simp [DEAD, FAIL]
  exact ⟨by rw [chaseFail_stop _ _ _ _ hne, hd], .of_stop hne fuel⟩

/-! ## `nextState` -/

theorem nextState_stop (n : CNfa) (anch : Bool) (fuel s : Nat) (b : UInt8) (hp : Nat)
    (h : follow n s b ≠ FAIL) : nextState n anch (fuel + 1) s b hp = (follow n s b, hp) := by
  rw [nextState]
  have : (follow n s b != FAIL) = true := by simpa using h
  simp only [this, if_true]

theorem nextState_go (n : CNfa) (fuel s : Nat) (b : UInt8) (hp : Nat)
    (h : follow n s b = FAIL) :
    nextState n false (fuel + 1) s b hp = nextState n false fuel (n.getD s {}).fail b (hp + 1) := by
  rw [nextState]
  have : ¬ (follow n s b != FAIL) = true := by rw [h]; simp
  simp only [this, if_false, Bool.false_eq_true]

theorem nextState_anch_fail (n : CNfa) (fuel s : Nat) (b : UInt8) (hp : Nat)
    (h : follow n s b = FAIL) : nextState n true (fuel + 1) s b hp = (DEAD, hp) := by
  rw [nextState]
  have : (follow n s b != FAIL) = false := by rw [h]; simp
  simp only [this, Bool.false_eq_true, if_false, if_true]

theorem nextState_dead (n : CNfa) (anch : Bool) (fuel : Nat) (b : UInt8) (hp : Nat)
    (h : follow n DEAD b = DEAD) : nextState n anch fuel DEAD b hp = (DEAD, hp) := by
  cases fuel with
  | zero => rfl
  | succ fuel =>
    rw [nextState_stop n anch fuel DEAD b hp (by rw [h]; simp [DEAD, FAIL]), h]

/-! ## the failure chain -/

/-- what a walk along the failure chain from a node no deeper than `d` reads of the automaton `N`
(which takes the trie edge `f b` on the byte `b`): the finished automaton meets it for every `d`, the
automaton under construction for the depth of the nodes that are finished -/
structure ChainSpec (f : UInt8 → UInt8) (k : MatchKind) (Q : PatSet UInt8) (L : List (List UInt8))
    (N : CNfa) (d : Nat) : Prop where
  mem : ∀ v, v ∈ L ↔ v ≠ [] ∧ isPref Q v = true
  lt : ∀ u, u ∈ L → nu L u < N.size
  goto_in : ∀ u b, (u = [] ∨ u ∈ L) → u ++ [f b] ∈ L → follow N (nu L u) b = nu L (u ++ [f b])
  goto_out : ∀ u b, u ∈ L → u ++ [f b] ∉ L → follow N (nu L u) b = FAIL
  goto_root : ∀ b, [f b] ∉ L → follow N SU b = sidOf L (Ideal.next k Q false (.at []) (f b))
  goto_dead : ∀ b, follow N DEAD b = DEAD
  fail : ∀ u, u ∈ L → u.length ≤ d → (N.getD (nu L u) {}).fail = sidOf L (finalFail k Q u)

/-- one walk along the failure chain from the node `w` on the byte `b`, as `next_state` does it at
run time and the failure chase at compile time: both end in the model's next state on `f b`, the
former after exactly `hops` links, and the chase is `ChaseOK` -/
theorem ChainSpec.walk {f : UInt8 → UInt8} {k : MatchKind} {Q : PatSet UInt8}
    {L : List (List UInt8)} {N : CNfa} {d : Nat} (h : ChainSpec f k Q L N d) (b : UInt8) :
    ∀ (fuel : Nat) (w : List UInt8) (hp : Nat), (w = [] ∨ w ∈ L) → w.length ≤ d → w.length < fuel →
      nextState N false fuel (nu L w) b hp =
          (sidOf L (Ideal.next k Q false (.at w) (f b)), hp + hops k Q (f b) w.length w) ∧
        follow N (chaseFail N b fuel (nu L w)) b =
          sidOf L (Ideal.next k Q false (.at w) (f b)) ∧
        ChaseOK N b fuel (nu L w)
  | 0, _, _, _, _, hfuel => absurd hfuel (Nat.not_lt_zero _)
  | fuel + 1, w, hp, hwL, hwd, hfuel => by
    have hmem : ∀ u c, isPref Q (u ++ [c]) = true ↔ u ++ [c] ∈ L := fun u c => by
      rw [h.mem]; simp
    by_cases hp' : isPref Q (w ++ [f b]) = true
    · have hf := h.goto_in w b hwL ((hmem w _).1 hp')
      have hne : follow N (nu L w) b ≠ FAIL := by rw [hf]; exact nu_ne_fail _ _
      rw [nextState_stop _ _ _ _ _ _ hne, chaseFail_stop _ _ _ _ hne, hf,
        CostP.next_of_isPref k Q _ hp', CostP.hops_of_isPref k Q _ hp']
      exact ⟨rfl, rfl, .of_stop hne _⟩
    · cases w with
      | nil =>
        have hf := h.goto_root b fun hin => hp' ((hmem [] _).2 hin)
        have hne : follow N SU b ≠ FAIL := by rw [hf]; exact sidOf_ne_fail _ _
        rw [nu_nil, nextState_stop _ _ _ _ _ _ hne, chaseFail_stop _ _ _ _ hne, hf, CostP.hops_nil]
        exact ⟨rfl, rfl, .of_stop hne _⟩
      | cons a t =>
        have hwL' : a :: t ∈ L := hwL.resolve_left (List.cons_ne_nil _ _)
        have hF := h.goto_out _ b hwL' fun hin => hp' ((hmem _ _).2 hin)
        have h4 := nu_ge (L := L) (List.cons_ne_nil a t)
        have hl := lsp_length_le Q t
        rw [List.length_cons] at hfuel hwd
        rw [nextState_go _ _ _ _ _ hF, chaseFail_go _ _ _ _ hF, h.fail _ hwL' hwd, finalFail_cons,
          List.length_cons, CostP.hops_cons k Q _ hp', List.length_cons]
        by_cases hb : (k != .std && blocked Q (a :: t) (t.length + 1 - (lsp Q t).length)) = true
        · obtain ⟨e1, e2⟩ := chaseFail_dead (h.goto_dead b) fuel
          rw [if_pos hb, if_pos hb, (CostP.next_link k Q _ hp').trans (if_pos hb)]
          refine ⟨nextState_dead N false fuel b _ (h.goto_dead b), e1, fun _ => ⟨by omega,
            h.lt _ hwL', ?_⟩⟩
          rw [h.fail _ hwL' hwd, finalFail_cons, List.length_cons, if_pos hb]; exact e2
        · have hlsp : lsp Q t = [] ∨ lsp Q t ∈ L := by
            by_cases h0 : lsp Q t = []
            · exact Or.inl h0
            · exact Or.inr ((h.mem _).2 ⟨h0, lsp_isPref h0⟩)
          obtain ⟨e1, e2, e3⟩ := ChainSpec.walk h b fuel (lsp Q t) (hp + 1) hlsp (by omega) (by omega)
          rw [if_neg hb, if_neg hb, (CostP.next_link k Q _ hp').trans (if_neg hb),
            CostP.hops_fuel k Q (f b) t.length (lsp Q t).length (lsp Q t) hl (Nat.le_refl _)]
          refine ⟨by rw [← Nat.add_assoc]; exact e1, e2, fun _ => ⟨by omega, h.lt _ hwL', ?_⟩⟩
          rw [h.fail _ hwL' hwd, finalFail_cons, List.length_cons, if_neg hb]; exact e3

section
variable {fold : Bool} {k : MatchKind} {Q : PatSet UInt8} {L : List (List UInt8)} {n0 n : CNfa}
  {pend : List (List UInt8)}

theorem FI.chain (hB : PBg fold Q L n0) (h : FI k Q L n0 n pend)
    (hk : k = .std ∨ idsOf Q [] = []) {d : Nat} (hlow : ∀ v, v ∈ L → v.length ≤ d → v ∉ pend) :
    ChainSpec (foldIf fold) k Q L n d where
  mem := hB.mem
  lt := fun u hu => by rw [h.size]; exact hB.nu_lt_size (Or.inr hu)
  goto_in := fun u b hu hin => by rw [h.follow_eq0]; exact hB.goto_in u b hu hin
  goto_out := fun u b hu hout => by rw [h.follow_eq0]; exact hB.goto_out u b hu hout
  goto_root := fun b hout => by
    rw [h.follow_eq0, hB.goto_root b hout,
      next_root k Q _ (fun hp => hout ((hB.isPref_iff_mem [] _).1 hp)) hk]
    simp [sidOf]
  goto_dead := fun b => by rw [h.follow_eq0]; exact hB.goto_dead b
  fail := fun u hu hd => (h.done u hu (hlow u hu hd)).1

end

end AcVerif.L1cP

namespace AcVerif.L1cFoldP.FIf
open AcVerif AcVerif.CNfa AcVerif.L1cP
variable {k : MatchKind} {Q : PatSet UInt8} {L : List (List UInt8)} {n0 n : CNfa}
  {pend : List (List UInt8)}

theorem update (hB : PBf Q L n0) (h : FI k Q L n0 n pend) (hnd : pend.Nodup) {c : List UInt8}
    (hc : c ∈ L) {n' : CNfa} (hsz : n'.size = n.size)
    (hoth : ∀ sid, sid ≠ nu L c → n'.getD sid {} = n.getD sid {})
    (htr : (n'.getD (nu L c) {}).trans = (n.getD (nu L c) {}).trans)
    (hf : (n'.getD (nu L c) {}).fail = sidOf L (finalFail k Q c))
    (hm : (n'.getD (nu L c) {}).matches_ = Ideal.out k Q (.at c)) :
    FI k Q L n0 n' (pend.erase c) :=
  h.erase hB.toG hnd hc hsz hoth htr hf hm

end AcVerif.L1cFoldP.FIf
