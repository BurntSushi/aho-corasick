import AcVerif.Proofs.DfaBase
import AcVerif.Proofs.ContigWrite
/-!
# Forms of the table builders' loops that the kernel evaluates in few steps

The transcription sweeps the 256 bytes again and again: `classOfMarks marks b` counts the marks
below `b` byte by byte, `sparseIter` walks all bytes for every row, a dense row is filled by one
`set!` per transition (a start state has 256).  For the kernel every step of such a sweep is dear,
and sharing does not help: it remembers the value of a closed term, but a call whose value it
remembers still pays for instantiating the function's body.  So the forms below take fewer steps:
* `classLt`: the class of `b` is the number of distinct marks below `b`, counted on the list of marks
  (`classOfMarks_eq_classLt`);
* `classReps`: the bytes at which `sparse_iter` calls back depend on the classes only, so they are
  walked once per alphabet and a row is one lookup per class (`sparseIter_eq_sparseIterReps`);
* `denseSkip`: a write that the next transition overwrites is skipped, and with it the evaluation of
  its target (`writeState_eq_denseSkip`).
All three are equations between the functions themselves: after unfolding a builder down to them,
`rw` puts the forms in their place and `decide +kernel` evaluates those.

A trap.  `unfold f` (like `simp only`) leaves a proof whose type the kernel compares with the goal up
to unfolding, and where both sides hold closed `Nat` arithmetic on the table (`m.repr.size + 1` as
fuel) it compares them by evaluating them: the table is built once more, in its transcribed form.
`rw [f]` with the equation of `f` abstracts the one constant, the comparison is syntactic, and
nothing is evaluated twice.  Hence `rw [buildContig, …]` in the examples about the contiguous NFA.
-/
namespace AcVerif
open AcVerif.L1cP AcVerif.L1dP AcVerif.L1eP

/-! ## byte classes -/

def lastOcc : List Nat → List Nat
  | [] => []
  | m :: ms => if m ∈ ms then lastOcc ms else m :: lastOcc ms

theorem lastOcc_below_succ (l : List Nat) (n : Nat) :
    ((lastOcc l).filter (· < n + 1)).length =
      ((lastOcc l).filter (· < n)).length + if n ∈ l then 1 else 0 := by
  induction l with
  | nil => simp [lastOcc]
  | cons m ms ih =>
    rw [lastOcc]
    by_cases h : m ∈ ms
    · have e : n ∈ m :: ms ↔ n ∈ ms := by
        rw [List.mem_cons]; exact ⟨fun h' => h'.elim (· ▸ h) id, Or.inr⟩
      simp only [if_pos h, ih, e]
    · rw [if_neg h, List.filter_cons, List.filter_cons]
      by_cases h1 : m = n
      · subst h1; simp [ih, h]
      · have h3 : (m < n + 1) = (m < n) := by apply propext; omega
        have h4 : ¬ n = m := fun e => h1 e.symm
        by_cases h2 : m < n <;> simp [h2, h3, h4, ih] <;> omega

theorem cnt_eq_below (marks : List UInt8) :
    ∀ n, n ≤ 256 → AlphaP.cnt (fun m => marks.contains m.toUInt8) n =
      ((lastOcc (marks.map (·.toNat))).filter (· < n)).length
  | 0, _ => by rw [List.filter_eq_nil_iff.2 (by simp)]; rfl
  | n + 1, hn => by
    have hm : n ∈ marks.map (·.toNat) ↔ n.toUInt8 ∈ marks := by
      rw [List.mem_map]
      exact ⟨fun ⟨m, hm, e⟩ => by rwa [← e, Nat.toUInt8, UInt8.ofNat_toNat],
        fun h => ⟨_, h, UInt8.toNat_ofNat_of_lt' (show n < 256 by omega)⟩⟩
    rw [AlphaP.cnt_succ, cnt_eq_below marks n (by omega), lastOcc_below_succ]
    by_cases h : n.toUInt8 ∈ marks <;> simp [h, hm]

/-- `classOfMarks` on the list of marks: no sweep over the bytes; `lastOcc …` is a closed term, which
the kernel evaluates once -/
def classLt (marks : List UInt8) (b : UInt8) : Nat :=
  ((lastOcc (marks.map (·.toNat))).filter (· < b.toNat)).length

theorem classOfMarks_eq_classLt : classOfMarks = classLt := by
  funext marks b
  exact cnt_eq_below marks _ (Nat.le_of_lt (UInt8.toNat_lt b))

/-! ## `sparse_iter` -/

def repsWalk (classOf : UInt8 → Nat) : List Nat → Option Nat → List UInt8
  | [], _ => []
  | i :: is, last =>
    if last != some (classOf i.toUInt8) then
      i.toUInt8 :: repsWalk classOf is (some (classOf i.toUInt8))
    else repsWalk classOf is last

theorem siWalk_eq_reps (f : UInt8 → Nat) (classOf : UInt8 → Nat) (l : List Nat) :
    ∀ acc, (siWalk f classOf l acc).1 =
      acc.1 ++ (repsWalk classOf l acc.2).map fun b => (b, classOf b, f b) := by
  induction l with
  | nil => intro acc; simp [siWalk, repsWalk]
  | cons i l ih =>
    intro acc
    have h := ih (if acc.2 != some (classOf i.toUInt8) then
      (acc.1 ++ [(i.toUInt8, classOf i.toUInt8, f i.toUInt8)], some (classOf i.toUInt8)) else acc)
    unfold siWalk at h ⊢
    rw [List.foldl_cons, h, repsWalk]
    split <;> simp

/-- the class representatives: for a given `classOf` a closed term, walked once per alphabet -/
def classReps (classOf : UInt8 → Nat) : List UInt8 := repsWalk classOf (List.range 256) none

def sparseIterReps (trans : List (UInt8 × Nat)) (classOf : UInt8 → Nat) :
    List (UInt8 × Nat × Nat) :=
  (classReps classOf).map fun b => (b, classOf b, lookup trans b)

theorem sparseIter_eq_sparseIterReps : sparseIter = sparseIterReps := by
  funext trans classOf
  rw [sparseIter_eq, siWalk_eq_reps, sparseIterReps, classReps, List.nil_append]

/-! ## dense rows -/

def denseSkip : List (Nat × Nat) → Array Nat → Array Nat
  | [], row => row
  | [(c, t)], row => row.set! c t
  | (c, t) :: (c', t') :: rest, row =>
    if c == c' then denseSkip ((c', t') :: rest) row else denseSkip ((c', t') :: rest) (row.set! c t)

theorem denseSkip_eq : ∀ (l : List (Nat × Nat)) (row : Array Nat),
    l.foldl (fun (row : Array Nat) (c, t) => row.set! c t) row = denseSkip l row
  | [], _ => rfl
  | [(_, _)], _ => rfl
  | (c, t) :: (c', t') :: rest, row => by
    rw [denseSkip]
    split
    · next h =>
      rw [← denseSkip_eq ((c', t') :: rest) row, List.foldl_cons, List.foldl_cons, List.foldl_cons,
        beq_iff_eq.1 h]
      show List.foldl _ ((row.set! c' t).set! c' t') rest = List.foldl _ (row.set! c' t') rest
      rw [show (row.set! c' t).set! c' t' = row.set! c' t' by simp]
    · rw [← denseSkip_eq ((c', t') :: rest) (row.set! c t), List.foldl_cons]

/-- `writeState` with the row of a dense state written by `denseSkip`.  The row is read entry by
entry so that its length, which is all the first pass of `buildContig` wants, is `al` without the row
being evaluated. -/
theorem writeState_eq_denseSkip :
    writeState = fun classOf al st newId fd =>
      if fd = true ∨ 127 < st.trans.length then
        [KIND_DENSE, newId st.fail] ++
          (List.range al).map (fun c =>
            (denseSkip (st.trans.map fun (b, t) => (classOf b, newId t))
              (Array.replicate al CNfa.FAIL)).getD c CNfa.FAIL)
          ++ wTail st
      else writeState classOf al st newId fd := by
  funext classOf al st newId fd
  split
  · next h =>
    rw [writeState_dense _ _ _ _ _ h, Array.toList_eq_map_getD _ CNfa.FAIL, denseRow_size, denseRow,
      ← foldl_map_set, denseSkip_eq]
  · rfl

end AcVerif
