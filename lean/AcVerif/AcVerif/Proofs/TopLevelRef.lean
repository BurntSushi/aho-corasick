import AcVerif.TopLevel
import AcVerif.Proofs.EngFind
import AcVerif.Theorems.C03
import AcVerif.Proofs.StreamFold
import AcVerif.Proofs.StreamTransfer
import AcVerif.Proofs.StreamRef
import AcVerif.Proofs.CompilerTrie
/-!
# Capstone proofs: the reference automaton and what the engines compute on it

`refAut fold k P sk hp` is the ideal automaton of the patterns (`fold = false`) resp. the ideal
automaton of the lower-cased patterns reading the haystack through `foldByte` (`fold = true`,
C11); for both, the ideal automaton of `specPats fold P` reading through `L1cP.foldIf fold`
(`refAut_eq`).  `ref_find`, `ref_iter`, `ref_overlap`, `ref_overlap_iter` are the engine theorems
C01 / C02 / C03 / C09 on the ideal automaton, carried over by the `comap` lemmas: uniform in `fold`
and the match kind, with occurrences read on `specPats fold P` and `specHay fold hay`.  For the
stream engines, `streamRef_ref`: the standard reference automaton is an instance of
`StreamP.StreamRef`, uniformly in `fold`, so C07 / C08 / C18 hold of it without the hypothesis
`P ≠ []`; `refAut_tied`: for the stream search the reference automata with and without the
prefilter flag are the same.

Namespace `TopP`: the proofs about the top level of `AcVerif/TopLevel.lean` and
`AcVerif/TopLevel2.lean` (a `Searcher` returned by `acBuild` / `acBuildP` and the `top*` methods on
it), in the `TopLevel*` files.
-/
namespace AcVerif.TopP
open AcVerif AcVerif.MiscP

def refAut : Bool → MatchKind → List (List UInt8) → StartKind → Bool → Aut (St UInt8) UInt8
  | false, k, P, sk, hp => ideal k P sk hp
  | true, k, P, sk, hp => (ideal k (P.map (·.map foldByte)) sk hp).comap foldByte

theorem refAut_minLen (f : Bool) (k : MatchKind) (P : List (List UInt8)) (sk : StartKind)
    (hp : Bool) :
    (refAut f k P sk hp).minLen = (P.map List.length).foldl min 18446744073709551615 := by
  cases f
  · rfl
  · show ((P.map (·.map foldByte)).map List.length).foldl min 18446744073709551615 = _
    rw [MiscP.map_map_lengths]

theorem refAut_maxLen (f : Bool) (k : MatchKind) (P : List (List UInt8)) (sk : StartKind)
    (hp : Bool) : (refAut f k P sk hp).maxLen = (P.map List.length).foldl max 0 := by
  cases f
  · rfl
  · show ((P.map (·.map foldByte)).map List.length).foldl max 0 = _
    rw [MiscP.map_map_lengths]

theorem refAut_start_none (f : Bool) (k : MatchKind) (P : List (List UInt8)) {sk : StartKind}
    (hp : Bool) {anch : Bool} (h : ¬ supportsAnch sk anch) :
    (refAut f k P sk hp).start anch = none := by
  cases f <;> cases sk <;> cases anch <;> first | rfl | exact absurd (by simp [supportsAnch]) h

/-! ## both settings of `ascii_case_insensitive` at once -/

/-- the specification reads the haystack through the byte map under which the compiled trie
files its edges -/
theorem specHay_eq (f : Bool) (hay : List UInt8) :
    specHay f hay = hay.map (L1cP.foldIf f) := by
  cases f
  · exact (L1cP.map_foldIf_false hay).symm
  · rfl

theorem specPats_eq (f : Bool) (P : List (List UInt8)) :
    specPats f P = P.map (List.map (L1cP.foldIf f)) := by
  cases f
  · exact (List.map_id'' L1cP.map_foldIf_false P).symm
  · rfl

/-- the reference automaton is the ideal automaton of the patterns as the specification reads
them, fed through `L1cP.foldIf` (for `fold = false` that is the identity, and `comap` of it the
automaton itself) -/
theorem refAut_eq (f : Bool) (k : MatchKind) (P : List (List UInt8)) (sk : StartKind) (hp : Bool) :
    refAut f k P sk hp = (ideal k (specPats f P) sk hp).comap (L1cP.foldIf f) := by
  cases f <;> rfl

theorem refAut_start (f : Bool) (k : MatchKind) (P : List (List UInt8)) {sk : StartKind}
    (hp : Bool) {anch : Bool} (h : supportsAnch sk anch) :
    (refAut f k P sk hp).start anch = some (.at []) := by
  rw [refAut_eq]
  exact LmP.start_root k (specPats f P) hp h

theorem specPats_length (f : Bool) (P : List (List UInt8)) : (specPats f P).length = P.length := by
  cases f
  · rfl
  · exact List.length_map _

theorem specPats_ne (f : Bool) {P : List (List UInt8)} (hne : ∀ p ∈ P, p ≠ []) :
    ∀ p ∈ specPats f P, p ≠ [] := by
  cases f
  · exact hne
  · exact MiscP.map_map_ne_nil foldByte hne

/-! ## non-overlapping search -/

/-- C01 / C02 / C09 / C11: the search returns THE answer -/
theorem ref_find (f : Bool) (k : MatchKind) (P : List (List UInt8)) (sk : StartKind)
    (i : Input UInt8) (h : supportsAnch sk i.anch) (he : k = .std ∨ i.earliest = false) :
    ∃ r, tryFindFwd (refAut f k P sk false) none i = .ok r ∧
      IsFind k (specPats f P) (specHay f i.hay) i.s i.e i.anch r := by
  rw [refAut_eq, tryFindFwd_comap, specHay_eq]
  exact EngP.find_ideal k _ sk (i.mapHay _) he h

/-- C01Iter / C02Iter (+ C11): the iterator is the specification's iterator -/
theorem ref_iter (f : Bool) (k : MatchKind) (P : List (List UInt8)) (sk : StartKind)
    (i : Input UInt8) (h : supportsAnch sk i.anch) (he : k = .std ∨ i.earliest = false) :
    ∃ F, (∀ st, st ≤ i.e + 1 →
        IsFind k (specPats f P) (specHay f i.hay) st i.e i.anch (F st)) ∧
      findIter (refAut f k P sk false) none i = .ok (iterSpec F i.s i.e) := by
  rw [refAut_eq, findIter_comap, specHay_eq]
  exact EngP.iter_ideal k _ sk (i.mapHay _) he h

/-! ## overlapping search (standard kind) -/

/-- C03 / C09 (+ C11): the call history drains the overlapping enumeration, then `none` -/
theorem ref_overlap (f : Bool) (P : List (List UInt8)) (sk : StartKind) (i : Input UInt8)
    (h : supportsAnch sk i.anch) :
    ∃ l, IsOverlapList (specPats f P) (specHay f i.hay) i.s i.e i.anch l ∧
      ∀ n, ovlCalls (refAut f .std P sk false) none i n OState.start =
        (l.take n).map (fun m => Except.ok (some m)) ++
          List.replicate (n - l.length) (Except.ok none) := by
  simp only [refAut_eq, ovlCalls_comap, specHay_eq]
  exact C03_calls _ sk (i.mapHay _) h

/-- C03: the overlapping iterator yields the enumeration -/
theorem ref_overlap_iter (f : Bool) (P : List (List UInt8)) (sk : StartKind) (i : Input UInt8)
    (h : supportsAnch sk i.anch) :
    ∃ l, IsOverlapList (specPats f P) (specHay f i.hay) i.s i.e i.anch l ∧
      ∀ fuel, l.length < fuel →
        ovlIterAux (refAut f .std P sk false) none i fuel OState.start = l := by
  simp only [refAut_eq, ovlIterAux_comap, specHay_eq]
  exact C03_iter _ sk (i.mapHay _) h

section Stream
open AcVerif.StreamP AcVerif.StreamX AcVerif.StdP

theorem whole_eq (data : List UInt8) : Input.whole data = whole data := rfl

theorem streamRef_ref (f : Bool) {P : List (List UInt8)} (hne : ∀ p ∈ P, p ≠ []) {sk : StartKind}
    (hsk : supportsAnch sk false) (data : List UInt8) {spare : Option Nat}
    {minFactor defaultCap : Nat}
    (hcap : (Buffer.new (α := UInt8) (maxPatLen P) spare minFactor defaultCap).min <
      (Buffer.new (α := UInt8) (maxPatLen P) spare minFactor defaultCap).cap) :
    StreamRef (refAut f .std P sk false) (.at []) data spare minFactor defaultCap := by
  rw [refAut_eq]
  refine streamRef_comap _ _ sk hsk (specPats_ne f hne) data spare minFactor defaultCap ?_
  rw [← refAut_eq, refAut_maxLen]
  exact hcap

/-- the stream search reads nothing that depends on the prefilter flag -/
theorem refAut_tied (f : Bool) (k : MatchKind) (P : List (List UInt8)) (sk : StartKind)
    (hp hp' : Bool) : StreamTiedTo (refAut f k P sk hp) (refAut f k P sk hp') := by
  cases f <;> exact ⟨rfl, fun _ => rfl, rfl, rfl, MStart.of_eq rfl rfl rfl rfl⟩

end Stream

end AcVerif.TopP
