import AcVerif.Proofs.SearchEquiv
import AcVerif.Proofs.StreamInv
import AcVerif.StreamCost
import AcVerif.Proofs.Comap
/-!
# Transfer of the stream search along observational equivalence

`StreamChunkIter::next` reads of the automaton only `next_state(Anchored::No, ·, ·)`,
`is_match(sid)` and `match_pattern(sid, 0)` / `pattern_len` (through `get_match(sid, 0, ·)`); it
never reads `is_special`, `is_dead` or `is_start`.  So the stream search depends on the automaton
only through the *match observations* of the states reachable from the unanchored start state
(`MEquiv`, weaker than `ObsEquiv · · true false`): two automata with `MEquiv` start states (and
equal kind, pattern lengths, minimum and maximum pattern length, which `StreamChunkIter::new`
reads) give literally the same `streamFind` / `streamReplaceWith` / `streamTransitions` results
for every reader (any schedule, any fault), buffer constants and writer.  `StreamTiedTo X B`
packages these hypotheses.

Namespace `StreamX`: where `StreamP` is about the stream search of one automaton, `StreamX` relates
the stream searches of two automata (`MEquiv`, `MStart`, `CRel`); only this file declares in it.
A layer that has proved `SearchEquiv` with a reference automaton is tied to it (`SearchEquiv.tied`;
`StreamTied.of_searchEquiv`, `StreamTiedTo.of_searchEquiv_fold` when the reference is the ideal
standard automaton, without and with case folding).
-/
namespace AcVerif
variable {σ τ α : Type}

namespace StreamX
open StreamP

/-- match observations agree after every input word (unanchored run): all that the stream loop
reads of a state -/
def MEquiv (A : Aut σ α) (B : Aut τ α) (a : σ) (b : τ) : Prop :=
  ∀ w, A.isMatch (A.runFrom false a w) = B.isMatch (B.runFrom false b w) ∧
    (A.mpats (A.runFrom false a w)).take 1 = (B.mpats (B.runFrom false b w)).take 1

/-- the unanchored start states are match-equivalent, or both automata reject unanchored search -/
def MStart (A : Aut σ α) (B : Aut τ α) : Prop :=
  match A.start false, B.start false with
  | some a, some b => MEquiv A B a b
  | none, none => True
  | _, _ => False

theorem MEquiv.next {A : Aut σ α} {B : Aut τ α} {a : σ} {b : τ} (h : MEquiv A B a b) (c : α) :
    MEquiv A B (A.next false a c) (B.next false b c) := fun w => h (c :: w)

theorem MEquiv.isMatch {A : Aut σ α} {B : Aut τ α} {a : σ} {b : τ} (h : MEquiv A B a b) :
    A.isMatch a = B.isMatch b := (h []).1

theorem MEquiv.take1 {A : Aut σ α} {B : Aut τ α} {a : σ} {b : τ} (h : MEquiv A B a b) :
    (A.mpats a).take 1 = (B.mpats b).take 1 := (h []).2

theorem MEquiv.getMatch {A : Aut σ α} {B : Aut τ α} {a : σ} {b : τ}
    (hl : ∀ pid, A.patLen pid = B.patLen pid) (h : MEquiv A B a b) (at_ : Nat) :
    getMatch A a 0 at_ = getMatch B b 0 at_ := by
  simp only [AcVerif.getMatch]
  rw [EngP.getD_zero_of_take1 h.take1, hl]

theorem MEquiv.refl (A : Aut σ α) (a : σ) : MEquiv A A a a := fun _ => ⟨rfl, rfl⟩

theorem MEquiv.symm {A : Aut σ α} {B : Aut τ α} {a : σ} {b : τ} (h : MEquiv A B a b) :
    MEquiv B A b a := fun w => ⟨(h w).1.symm, (h w).2.symm⟩

theorem MEquiv.trans {υ : Type} {A : Aut σ α} {B : Aut τ α} {C : Aut υ α} {a : σ} {b : τ} {c : υ}
    (h1 : MEquiv A B a b) (h2 : MEquiv B C b c) : MEquiv A C a c :=
  fun w => ⟨(h1 w).1.trans (h2 w).1, (h1 w).2.trans (h2 w).2⟩

theorem MEquiv.of_obsEquiv {A : Aut σ α} {B : Aut τ α} {first : Bool} {a : σ} {b : τ}
    (h : ObsEquiv A B first false a b) : MEquiv A B a b :=
  fun w => ⟨(h.after w).isMatch, (h.after w).take1⟩


theorem MStart.cases {A : Aut σ α} {B : Aut τ α} (h : MStart A B) :
    (A.start false = none ∧ B.start false = none) ∨
      ∃ a b, A.start false = some a ∧ B.start false = some b ∧ MEquiv A B a b := by
  unfold MStart at h
  cases hA : A.start false <;> cases hB : B.start false <;> simp only [hA, hB] at h
  · exact Or.inl ⟨rfl, rfl⟩
  · exact Or.inr ⟨_, _, rfl, rfl, h⟩

theorem MStart.of_startEquiv {A : Aut σ α} {B : Aut τ α} {first : Bool}
    (h : StartEquiv A B first false) : MStart A B := by
  rcases h.cases with ⟨hA, hB⟩ | ⟨a, b, hA, hB, h⟩ <;> unfold MStart <;> rw [hA, hB]
  · trivial
  · exact MEquiv.of_obsEquiv h

/-- records that differ only in what the stream search does not read (`special`, `dead`,
`is_start`, the prefilter flag, …) -/
theorem MStart.of_eq {A B : Aut σ α} (hs : A.start = B.start) (hn : A.next = B.next)
    (hm : A.isMatch = B.isMatch) (hp : A.mpats = B.mpats) : MStart A B := by
  have hrun : ∀ (w : List α) (q : σ), A.runFrom false q w = B.runFrom false q w :=
    fun w q => Aut.runFrom_rel A B false Eq (fun _ _ _ h => by rw [h, hn]) w q q rfl
  unfold MStart
  rw [hs]
  cases B.start false with
  | none => trivial
  | some a => exact fun w => by rw [hrun, hm, hp]; exact ⟨rfl, rfl⟩

theorem MStart.refl (A : Aut σ α) : MStart A A := MStart.of_eq rfl rfl rfl rfl

theorem MStart.trans {υ : Type} {A : Aut σ α} {B : Aut τ α} {C : Aut υ α} (h1 : MStart A B)
    (h2 : MStart B C) : MStart A C := by
  rcases h1.cases with ⟨hA, hB⟩ | ⟨a, b, hA, hB, hab⟩
  · rcases h2.cases with ⟨_, hC⟩ | ⟨_, _, hB', _, _⟩
    · unfold MStart; rw [hA, hC]; trivial
    · rw [hB] at hB'; cases hB'
  · rcases h2.cases with ⟨hB', _⟩ | ⟨b', c, hB', hC, hbc⟩
    · rw [hB] at hB'; cases hB'
    · rw [hB] at hB'; cases hB'
      unfold MStart; rw [hA, hC]; exact hab.trans hbc

/-! ## the scan loop -/

theorem scanBytes_transfer (A : Aut σ α) (B : Aut τ α) (bytes : List α) :
    ∀ (a : σ) (b : τ) (n : Nat), MEquiv A B a b →
      (scanBytes A a n bytes).2 = (scanBytes B b n bytes).2 ∧
        MEquiv A B (scanBytes A a n bytes).1 (scanBytes B b n bytes).1 := by
  induction bytes with
  | nil => intro a b n h; exact ⟨rfl, h⟩
  | cons c rest ih =>
    intro a b n h
    have h' := h.next c
    simp only [scanBytes]
    rw [h'.isMatch]
    split
    · exact ⟨rfl, h'⟩
    · exact ih _ _ _ h'

/-! ## one `next` call -/

/-- corresponding iterator states: same reader, buffer and positions, match-equivalent current
and start states -/
structure CRel (A : Aut σ α) (B : Aut τ α) (x : ChunkIter σ α) (y : ChunkIter τ α) : Prop where
  rdr : x.rdr = y.rdr
  buf : x.buf = y.buf
  absPos : x.absPos = y.absPos
  bufPos : x.bufPos = y.bufPos
  reported : x.reported = y.reported
  start : MEquiv A B x.start y.start
  sid : MEquiv A B x.sid y.sid

/-- the result tag does not mention the state type -/
def recast : NextResult σ α → NextResult τ α
  | .done => .done
  | .ioErr => .ioErr
  | .chunk c => .chunk c

/-- corresponding results of a `next` call: the same chunk / end / error, related iterators -/
def NRel (A : Aut σ α) (B : Aut τ α) (p : NextResult σ α × ChunkIter σ α)
    (q : NextResult τ α × ChunkIter τ α) : Prop :=
  recast p.1 = q.1 ∧ CRel A B p.2 q.2

namespace CRel
variable {A : Aut σ α} {B : Aut τ α} {x : ChunkIter σ α} {y : ChunkIter τ α}

theorem refill (h : CRel A B x y) (b : Buffer α) (r : Reader α) :
    CRel A B { x with buf := b, rdr := r } { y with buf := b, rdr := r } :=
  ⟨rfl, rfl, h.absPos, h.bufPos, h.reported, h.start, h.sid⟩

theorem matchStep (hl : ∀ pid, A.patLen pid = B.patLen pid) (h : CRel A B x y) :
    NRel A B (matchStep A x) (matchStep B y) := by
  simp only [StreamP.matchStep]
  rw [h.sid.getMatch hl, h.buf, h.absPos, h.bufPos, h.reported]
  split
  · exact ⟨rfl, h.rdr, rfl, rfl, rfl, rfl, h.start, h.sid⟩
  · exact ⟨rfl, h.rdr, rfl, rfl, rfl, rfl, h.start, h.start⟩

theorem preRollStep (h : CRel A B x y) : NRel A B (preRollStep x) (preRollStep y) := by
  simp only [StreamP.preRollStep]
  rw [h.buf, h.reported]
  exact ⟨rfl, h.rdr, rfl, h.absPos, h.bufPos, rfl, h.start, h.sid⟩

theorem rollStep (h : CRel A B x y) : CRel A B (rollStep x) (rollStep y) := by
  unfold StreamP.rollStep
  rw [h.buf, h.reported]
  split
  · exact ⟨h.rdr, rfl, h.absPos, rfl, rfl, h.start, h.sid⟩
  · exact h

theorem eofStep (h : CRel A B x y) : NRel A B (eofStep x) (eofStep y) := by
  unfold StreamP.eofStep
  rw [h.buf, h.reported]
  split
  · exact ⟨rfl, h.rdr, rfl, h.absPos, h.bufPos, rfl, h.start, h.sid⟩
  · exact ⟨rfl, h⟩

theorem scanStep (h : CRel A B x y) : CRel A B (scanStep A x) (scanStep B y) := by
  have e2 : y.buf.buf.drop y.bufPos = x.buf.buf.drop x.bufPos := by rw [h.buf, h.bufPos]
  obtain ⟨e, hm⟩ := scanBytes_transfer A B (x.buf.buf.drop x.bufPos) x.sid y.sid 0 h.sid
  unfold StreamP.scanStep
  rw [e2, ← e]
  exact ⟨h.rdr, h.buf, congrArg (· + _) h.absPos, congrArg (· + _) h.bufPos, h.reported,
    h.start, hm⟩

end CRel

theorem nextBody_transfer (A : Aut σ α) (B : Aut τ α) (hl : ∀ pid, A.patLen pid = B.patLen pid)
    {ε : Type} (fl : Buffer α → Reader α → Nat → Except ε (Bool × Buffer α × Reader α))
    (err : Buffer α → Reader α → ε → Buffer α × Reader α)
    {k : ChunkIter σ α → NextResult σ α × ChunkIter σ α}
    {k' : ChunkIter τ α → NextResult τ α × ChunkIter τ α}
    (hk : ∀ x y, CRel A B x y → NRel A B (k x) (k' y)) {x : ChunkIter σ α} {y : ChunkIter τ α}
    (h : CRel A B x y) : NRel A B (nextBody A fl err k x) (nextBody B fl err k' y) := by
  have hr := h.rollStep
  unfold nextBody
  rw [h.sid.isMatch, h.buf, h.bufPos, h.reported, hr.rdr, hr.buf]
  split
  · exact h.matchStep hl
  · split
    · split
      · exact h.preRollStep
      · split
        · exact ⟨rfl, hr.refill _ _⟩
        · exact (hr.refill _ _).eofStep
        · exact hk _ _ (hr.refill _ _).scanStep
    · exact hk _ _ h.scanStep

theorem next_transfer (A : Aut σ α) (B : Aut τ α) (hl : ∀ pid, A.patLen pid = B.patLen pid) :
    ∀ (fuel : Nat) (x : ChunkIter σ α) (y : ChunkIter τ α), CRel A B x y →
      NRel A B (ChunkIter.next A x fuel) (ChunkIter.next B y fuel) := by
  intro fuel
  induction fuel with
  | zero => intro x y h; exact ⟨rfl, h⟩
  | succ fuel ih =>
    intro x y h
    rw [next_succ, next_succ]
    exact nextBody_transfer A B hl _ _ ih h

/-! ## a whole run -/

theorem nextFuel_eq {A : Aut σ α} {B : Aut τ α} {x : ChunkIter σ α} {y : ChunkIter τ α}
    (h : CRel A B x y) : nextFuel x = nextFuel y := by
  unfold nextFuel
  rw [h.rdr, h.buf]

theorem run_transfer (A : Aut σ α) (B : Aut τ α) (hl : ∀ pid, A.patLen pid = B.patLen pid) :
    ∀ (n : Nat) (x : ChunkIter σ α) (y : ChunkIter τ α), CRel A B x y →
      ChunkIter.drain A n x = ChunkIter.drain B n y ∧
      CRel A B (ChunkIter.drainEnd A n x) (ChunkIter.drainEnd B n y) ∧
      ∀ (repl : Mat → List α) (w : Writer α) (log : List (Mat × List α)),
        streamReplaceWith.go A repl n x w log = streamReplaceWith.go B repl n y w log := by
  intro n
  induction n with
  | zero =>
    intro x y h
    exact ⟨by simp only [ChunkIter.drain, h.rdr], h,
      fun _ _ _ => by simp only [streamReplaceWith.go, h.rdr]⟩
  | succ n ih =>
    intro x y h
    have hn := next_transfer A B hl (nextFuel x) x y h
    rw [nextFuel_eq h] at hn
    simp only [ChunkIter.drain, ChunkIter.drainEnd, streamReplaceWith.go, nextFuel_eq h]
    generalize ChunkIter.next A x (nextFuel y) = p at hn
    generalize ChunkIter.next B y (nextFuel y) = q at hn
    obtain ⟨ra, xa⟩ := p
    obtain ⟨rb, yb⟩ := q
    obtain ⟨h1, h2⟩ := hn
    simp only at h1 h2
    subst h1
    cases ra with
    | chunk c =>
      obtain ⟨i1, i2, i3⟩ := ih _ _ h2
      refine ⟨by simp only [recast, i1], i2, fun repl w log => ?_⟩
      cases c <;> simp only [recast] <;> split
      · exact i3 _ _ _
      · rw [h2.rdr]
      · exact i3 _ _ _
      · rw [h2.rdr]
    | _ =>
      exact ⟨by simp only [recast, h2.rdr], h2, fun _ _ _ => by simp only [recast, h2.rdr]⟩

end StreamX

/-! ## automata tied to a reference automaton -/
open StreamX

/-- everything the stream search reads of `X` agrees with the reference automaton `B`
(`StreamTied X P sk` is the case `B = ideal .std P sk false`, see `StreamTied.to`) -/
structure StreamTiedTo (X : Aut σ α) (B : Aut τ α) : Prop where
  kind : X.kind = B.kind
  patLen : ∀ pid, X.patLen pid = B.patLen pid
  minLen : X.minLen = B.minLen
  maxLen : X.maxLen = B.maxLen
  start : MStart X B

theorem StreamTiedTo.refl (A : Aut σ α) : StreamTiedTo A A :=
  ⟨rfl, fun _ => rfl, rfl, rfl, MStart.refl A⟩

theorem StreamTiedTo.trans {υ : Type} {A : Aut σ α} {B : Aut τ α} {C : Aut υ α}
    (h : StreamTiedTo A B) (h' : StreamTiedTo B C) : StreamTiedTo A C :=
  ⟨h.kind.trans h'.kind, fun pid => (h.patLen pid).trans (h'.patLen pid),
    h.minLen.trans h'.minLen, h.maxLen.trans h'.maxLen, h.start.trans h'.start⟩

/-- `SearchEquiv` compares more than the stream search reads; `StreamChunkIter::new` also reads the
two pattern-length bounds -/
theorem SearchEquiv.tied {A : Aut σ α} {B : Aut τ α} (h : SearchEquiv A B)
    (hmin : A.minLen = B.minLen) (hmax : A.maxLen = B.maxLen) : StreamTiedTo A B :=
  ⟨h.kind, h.patLen, hmin, hmax, MStart.of_startEquiv (h.start false)⟩

theorem StreamTiedTo.new {X : Aut σ α} {B : Aut τ α} (h : StreamTiedTo X B) (rdr : Reader α)
    (spare : Option Nat) (minFactor defaultCap : Nat) :
    (∃ e, ChunkIter.new X rdr spare minFactor defaultCap = .error e ∧
        ChunkIter.new B rdr spare minFactor defaultCap = .error e) ∨
      ∃ x y, ChunkIter.new X rdr spare minFactor defaultCap = .ok x ∧
        ChunkIter.new B rdr spare minFactor defaultCap = .ok y ∧ CRel X B x y := by
  unfold ChunkIter.new
  rw [h.kind, h.minLen, h.maxLen]
  split
  · exact Or.inl ⟨_, rfl, rfl⟩
  · split
    · exact Or.inl ⟨_, rfl, rfl⟩
    · rcases h.start.cases with ⟨hA, hB⟩ | ⟨a, b, hA, hB, hab⟩ <;> rw [hA, hB]
      · exact Or.inl ⟨_, rfl, rfl⟩
      · exact Or.inr ⟨_, _, rfl, rfl, rfl, rfl, rfl, rfl, rfl, hab, hab⟩

theorem StreamTiedTo.streamFind {X : Aut σ α} {B : Aut τ α} (h : StreamTiedTo X B)
    (rdr : Reader α) (spare : Option Nat) (minFactor defaultCap : Nat) :
    streamFind X rdr spare minFactor defaultCap =
      AcVerif.streamFind B rdr spare minFactor defaultCap := by
  unfold AcVerif.streamFind
  rcases h.new rdr spare minFactor defaultCap with ⟨e, hA, hB⟩ | ⟨x, y, hA, hB, hxy⟩ <;>
    rw [hA, hB]
  simp only
  rw [(run_transfer X B h.patLen _ x y hxy).1]

theorem StreamTiedTo.streamReplaceWith {X : Aut σ α} {B : Aut τ α} (h : StreamTiedTo X B)
    (rdr : Reader α) (spare : Option Nat) (w : Writer α) (repl : Mat → List α)
    (minFactor defaultCap : Nat) :
    streamReplaceWith X rdr spare w repl minFactor defaultCap =
      AcVerif.streamReplaceWith B rdr spare w repl minFactor defaultCap := by
  unfold AcVerif.streamReplaceWith
  rcases h.new rdr spare minFactor defaultCap with ⟨e, hA, hB⟩ | ⟨x, y, hA, hB, hxy⟩ <;>
    rw [hA, hB]
  simp only
  rw [(run_transfer X B h.patLen _ x y hxy).2.2]

theorem StreamTiedTo.streamTransitions {X : Aut σ α} {B : Aut τ α} (h : StreamTiedTo X B)
    (rdr : Reader α) (spare : Option Nat) (minFactor defaultCap : Nat) :
    streamTransitions X rdr spare minFactor defaultCap =
      AcVerif.streamTransitions B rdr spare minFactor defaultCap := by
  unfold AcVerif.streamTransitions
  rcases h.new rdr spare minFactor defaultCap with ⟨e, hA, hB⟩ | ⟨x, y, hA, hB, hxy⟩ <;>
    rw [hA, hB]
  simp only
  rw [(run_transfer X B h.patLen _ x y hxy).2.1.absPos]

/-! ## ties to the ideal standard automaton: the prefilter flag is not read, folding keeps lengths -/

section ideal
variable [DecidableEq α]

theorem ideal_tied_hasPre (k : MatchKind) (P : List (List α)) (sk : StartKind) (hp hp' : Bool) :
    StreamTiedTo (ideal k P sk hp) (ideal k P sk hp') :=
  ⟨rfl, fun _ => rfl, rfl, rfl, MStart.of_eq rfl rfl rfl rfl⟩

/-- everything the stream search reads of `X` agrees with `ideal .std P sk false` -/
structure StreamTied (X : Aut σ α) (P : List (List α)) (sk : StartKind) : Prop where
  kind : X.kind = (ideal .std P sk false).kind
  patLen : ∀ pid, X.patLen pid = (ideal .std P sk false).patLen pid
  minLen : X.minLen = (ideal .std P sk false).minLen
  maxLen : X.maxLen = (ideal .std P sk false).maxLen
  start : MStart X (ideal .std P sk false)

/-- from `SearchEquiv` with the ideal automaton carrying any prefilter flag -/
theorem StreamTied.of_searchEquiv {X : Aut σ α} {P : List (List α)} {sk : StartKind}
    {hasPre : Bool} (h : SearchEquiv X (ideal .std P sk hasPre))
    (hmin : X.minLen = (ideal .std P sk hasPre).minLen)
    (hmax : X.maxLen = (ideal .std P sk hasPre).maxLen) : StreamTied X P sk :=
  have t := (h.tied hmin hmax).trans (ideal_tied_hasPre .std P sk hasPre false)
  ⟨t.kind, t.patLen, t.minLen, t.maxLen, t.start⟩

end ideal

/-- the buffer's minimum is governed by the longest supplied pattern -/
theorem foldAut_maxLen (P : List (List UInt8)) (sk : StartKind) :
    ((ideal .std (P.map (·.map foldByte)) sk false).comap foldByte).maxLen =
      (ideal .std P sk false).maxLen := by
  show ((P.map (·.map foldByte)).map List.length).foldl max 0 = (P.map List.length).foldl max 0
  rw [MiscP.map_map_lengths]

/-- from `SearchEquiv` with the case-insensitive ideal automaton carrying any prefilter flag; the
length bounds are those of the supplied patterns (folding keeps lengths) -/
theorem StreamTiedTo.of_searchEquiv_fold {σ : Type} {X : Aut σ UInt8} {P : List (List UInt8)}
    {sk : StartKind} {hasPre : Bool}
    (h : SearchEquiv X ((ideal .std (P.map (·.map foldByte)) sk hasPre).comap foldByte))
    (hmin : X.minLen = (P.map List.length).foldl min 18446744073709551615)
    (hmax : X.maxLen = (P.map List.length).foldl max 0) :
    StreamTiedTo X ((ideal .std (P.map (·.map foldByte)) sk false).comap foldByte) := by
  refine (h.tied ?_ (hmax.trans (foldAut_maxLen P sk).symm)).trans
    ⟨rfl, fun _ => rfl, rfl, rfl, MStart.of_eq rfl rfl rfl rfl⟩
  rw [hmin]
  show _ = ((P.map (·.map foldByte)).map List.length).foldl min 18446744073709551615
  rw [MiscP.map_map_lengths]

end AcVerif
