import AcVerif.Proofs.PackedRK
/-!
# Packed searchers: Teddy (helpers for C06 and C15)

* `Teddy.new`: patterns with equal fingerprints share a bucket, every bucket is `order` filtered
  (`buckets_getD`, `bkOf`);
* `sup_member`: a pattern of bucket `b` whose `i`-th byte is `c` sets bit `b` of `member i c`;
* `candidate_spec`: bit `b` of lane `j` of the candidate is set whenever a pattern of bucket `b`
  agrees with the haystack on its first `maskLen` bytes at the lane's offset (bytes before the
  window come from the carries, which are sound or all ones);
* `verify` at one lane is `bestAt` (`lane_find`), so a window yields the first non-`none` `bestAt`
  of its lanes (`window_eq`); the schedule covers every offset in increasing order
  (`mainLoop_scan`, `find_scan`), and with `isFind_of_scan` this gives `teddy_find_isFind`;
* `findT_loads` (C15): every recorded load position holds a whole window inside the haystack.
-/
namespace AcVerif
namespace PackedP

/-! ## bucket assignment -/

/-- one step of the bucket assignment fold of `Teddy.new` -/
def tStep (p : PPatterns) (n nB : Nat) (acc : List (List Nat) × List (PBytes × Nat)) (id : Nat) :
    List (List Nat) × List (PBytes × Nat) :=
  let (bs, map) := acc
  let key := ((p.get id).take n).map (· &&& 0xF)
  match map.find? (·.1 == key) with
  | some (_, b) => (bs.modify b (· ++ [id]), map)
  | none =>
    let b := (nB - 1) - (id % nB)
    (bs.modify b (· ++ [id]), map ++ [(key, b)])

/-- low-nybble fingerprint of pattern `id` -/
def keyOf (p : PPatterns) (n id : Nat) : PBytes := ((p.get id).take n).map (· &&& 0xF)

def lookup (map : List (PBytes × Nat)) (key : PBytes) : Option Nat :=
  (map.find? (·.1 == key)).map (·.2)

theorem lookup_append_of_some (map ext : List (PBytes × Nat)) (key : PBytes) (b : Nat)
    (h : lookup map key = some b) : lookup (map ++ ext) key = some b := by
  unfold lookup at h ⊢
  rw [List.find?_append, Option.map_or, h]; rfl

theorem lookup_append_of_none (map : List (PBytes × Nat)) (key : PBytes) (b : Nat)
    (h : map.find? (·.1 == key) = none) : lookup (map ++ [(key, b)]) key = some b := by
  unfold lookup
  rw [List.find?_append, h]
  simp

theorem lookup_lt (map : List (PBytes × Nat)) (nB : Nat) (hmap : ∀ e ∈ map, e.2 < nB)
    (key : PBytes) (b : Nat) (h : lookup map key = some b) : b < nB := by
  obtain ⟨e, he, rfl⟩ := Option.map_eq_some_iff.1 h
  exact hmap e (List.mem_of_find?_eq_some he)

/-- invariant of the bucket-assignment fold after processing the ids `l` -/
structure BInv (p : PPatterns) (n nB : Nat) (l : List Nat)
    (acc : List (List Nat) × List (PBytes × Nat)) : Prop where
  len : acc.1.length = nB
  lt : ∀ e ∈ acc.2, e.2 < nB
  bucket : ∀ b, b < nB →
    acc.1.getD b [] = l.filter (fun id => lookup acc.2 (keyOf p n id) == some b)
  found : ∀ id ∈ l, (lookup acc.2 (keyOf p n id)).isSome

section
variable (p : PPatterns) (n nB : Nat)

theorem binv_init : BInv p n nB [] (List.replicate nB [], []) := by
  refine ⟨by simp, by simp, fun b hb => ?_, by simp⟩
  rw [List.getD_replicate _ _ _ _ hb]; rfl

variable (hB : 0 < nB)
include hB

theorem tStep_spec (bs : List (List Nat))
    (map : List (PBytes × Nat)) (id : Nat) (hlt : ∀ e ∈ map, e.2 < nB) :
    ∃ b map', tStep p n nB (bs, map) id = (bs.modify b (· ++ [id]), map') ∧ b < nB ∧
      lookup map' (keyOf p n id) = some b ∧ (∀ e ∈ map', e.2 < nB) ∧
      ∀ key b', lookup map key = some b' → lookup map' key = some b' := by
  unfold tStep
  dsimp only
  cases hf : map.find? (·.1 == ((p.get id).take n).map (· &&& 0xF)) with
  | some e =>
    have hlk : lookup map (keyOf p n id) = some e.2 :=       congrArg (Option.map Prod.snd) hf
    exact ⟨e.2, map, rfl, lookup_lt map nB hlt _ _ hlk, hlk, hlt, fun _ _ h => h⟩
  | none =>
    have hb : (nB - 1) - (id % nB) < nB := by omega
    refine ⟨_, _, rfl, hb, lookup_append_of_none map _ _ hf, ?_,
      fun key b' h => lookup_append_of_some _ _ _ _ h⟩
    intro e he
    rcases List.mem_append.1 he with he | he
    · exact hlt e he
    · rw [List.mem_singleton.1 he]; exact hb

theorem binv_step (l : List Nat)
    (acc : List (List Nat) × List (PBytes × Nat)) (id : Nat) (h : BInv p n nB l acc) :
    BInv p n nB (l ++ [id]) (tStep p n nB acc id) := by
  obtain ⟨bs, map⟩ := acc
  obtain ⟨h1, h2, h3, h4⟩ := h
  dsimp only at h1 h2 h3 h4
  obtain ⟨b, map', hstep, hb, hlk, hlt', hmono⟩ := tStep_spec p n nB hB bs map id h2
  -- the ids processed before keep their buckets
  have hold : ∀ id' ∈ l, lookup map' (keyOf p n id') = lookup map (keyOf p n id') := by
    intro id' hid'
    obtain ⟨b', hb'⟩ := Option.isSome_iff_exists.1 (h4 id' hid')
    rw [hb', hmono _ _ hb']
  rw [hstep]
  refine ⟨by rw [List.length_modify]; exact h1, hlt', ?_, ?_⟩
  · intro b' hb'
    have hfl : l.filter (fun id' => lookup map' (keyOf p n id') == some b') =
        l.filter (fun id' => lookup map (keyOf p n id') == some b') :=
      List.filter_congr (fun id' hid' => by rw [hold id' hid'])
    show (bs.modify b _).getD b' [] = _
    rw [List.getD_modify, h3 b' hb', List.filter_append, hfl, List.filter_cons, hlk, h1,
      List.filter_nil]
    by_cases hbb : b = b'
    · subst hbb; rw [if_pos ⟨rfl, hb'⟩, beq_self_eq_true, if_pos rfl]
    · rw [if_neg (fun h => hbb h.1),
        if_neg (by rw [beq_iff_eq]; exact fun h => hbb (Option.some.inj h)), List.append_nil]
  · intro id' hid'
    show (lookup map' _).isSome
    rcases List.mem_append.1 hid' with hid' | hid'
    · rw [hold id' hid']; exact h4 id' hid'
    · rw [List.mem_singleton.1 hid', hlk]; rfl

theorem binv_foldl (l l0 : List Nat)
    (acc : List (List Nat) × List (PBytes × Nat)) (h : BInv p n nB l0 acc) :
    BInv p n nB (l0 ++ l) (l.foldl (tStep p n nB) acc) := by
  induction l generalizing l0 acc with
  | nil => simpa using h
  | cons y ys ih =>
    rw [List.foldl_cons, show l0 ++ y :: ys = (l0 ++ [y]) ++ ys by simp]
    exact ih _ _ (binv_step p n nB hB l0 acc y h)

end

theorem teddy_buckets_eq (p : PPatterns) (nB : Nat) :
    (Teddy.new p nB).buckets =
      (p.order.foldl (tStep p (min 4 p.minLen) nB) (List.replicate nB [], [])).1 := rfl
theorem teddy_maskLen (p : PPatterns) (nB : Nat) : (Teddy.new p nB).maskLen = min 4 p.minLen := rfl
theorem teddy_nBuckets (p : PPatterns) (nB : Nat) : (Teddy.new p nB).nBuckets = nB := rfl

/-- bucket of pattern `id` in the final table (a function of its fingerprint) -/
def bkOf (p : PPatterns) (nB : Nat) (id : Nat) : Option Nat :=
  lookup (p.order.foldl (tStep p (min 4 p.minLen) nB) (List.replicate nB [], [])).2
    (keyOf p (min 4 p.minLen) id)

section
variable (p : PPatterns) (nB : Nat) (hB : 0 < nB)
include hB

theorem binv_final :
    BInv p (min 4 p.minLen) nB p.order
      (p.order.foldl (tStep p (min 4 p.minLen) nB) (List.replicate nB [], [])) := by
  have := binv_foldl p (min 4 p.minLen) nB hB p.order [] _ (binv_init p _ nB)
  simpa using this

theorem bkOf_lt (id : Nat) (hid : id ∈ p.order) :
    ∃ b, bkOf p nB id = some b ∧ b < nB := by
  have hinv := binv_final p nB hB
  obtain ⟨b, hb⟩ := Option.isSome_iff_exists.1 (hinv.found id hid)
  exact ⟨b, hb, lookup_lt _ nB hinv.lt _ _ hb⟩

theorem buckets_getD (b : Nat) (hb : b < nB) :
    (Teddy.new p nB).buckets.getD b [] = p.order.filter (fun id => bkOf p nB id == some b) := by
  rw [teddy_buckets_eq]
  exact (binv_final p nB hB).bucket b hb

end

/-! ## bits -/

theorem and_bit_ne_zero (x b : Nat) : (x &&& (1 <<< b) != 0) = x.testBit b := by
  rw [Nat.one_shiftLeft]
  cases h : x.testBit b with
  | true =>
    have : (x &&& 2 ^ b).testBit b = true := by
      rw [Nat.testBit_and, h, Nat.testBit_two_pow_self]; rfl
    rw [bne_iff_ne]
    intro h0
    rw [h0, Nat.zero_testBit] at this
    cases this
  | false =>
    have : x &&& 2 ^ b = 0 := by
      apply Nat.eq_of_testBit_eq
      intro i
      rw [Nat.testBit_and, Nat.testBit_two_pow, Nat.zero_testBit]
      by_cases hi : b = i
      · subst hi; rw [h]; rfl
      · rw [decide_eq_false hi, Bool.and_false]
    rw [this]; rfl

theorem testBit_one_shiftLeft (b : Nat) : (1 <<< b).testBit b = true := by
  rw [Nat.one_shiftLeft, Nat.testBit_two_pow]; simp

theorem testBit_allOnes (nB b : Nat) (h : b < nB) : ((1 <<< nB) - 1).testBit b = true := by
  rw [Nat.one_shiftLeft, Nat.testBit_two_pow_sub_one]; simpa using h

theorem mask_fold_testBit (cond : Nat → Bool) (l : List Nat) (acc b : Nat)
    (h : acc.testBit b = true ∨ (b ∈ l ∧ cond b = true)) :
    (l.foldl (fun acc b => if cond b then acc ||| (1 <<< b) else acc) acc).testBit b = true := by
  induction l generalizing acc with
  | nil =>
    rcases h with h | ⟨h, _⟩
    · exact h
    · cases h
  | cons y ys ih =>
    rw [List.foldl_cons]
    apply ih
    rcases h with h | ⟨h, hc⟩
    · left
      split
      · rw [Nat.testBit_or, h]; rfl
      · exact h
    · rcases List.mem_cons.1 h with rfl | h
      · left
        rw [if_pos hc, Nat.testBit_or, testBit_one_shiftLeft]; simp
      · exact Or.inr ⟨h, hc⟩

/-! ## mask soundness -/

/-- `maskLo` / `maskHi` with the nybble extraction as a parameter -/
def maskG (t : Teddy) (i : Nat) (nybF : UInt8 → UInt8) (nyb : UInt8) : Nat :=
  (List.range t.nBuckets).foldl (fun acc b =>
    if (t.buckets.getD b []).any (fun id => nybF ((t.pats.get id).getD i 0) == nyb)
    then acc ||| (1 <<< b) else acc) 0

theorem maskLo_eq (t : Teddy) (i : Nat) : t.maskLo i = maskG t i (fun c => c &&& 0xF) := rfl
theorem maskHi_eq (t : Teddy) (i : Nat) : t.maskHi i = maskG t i (fun c => c >>> 4) := rfl

/-- `v` has the bit of every bucket holding a pattern whose `i`-th byte is `c` -/
def Sup (t : Teddy) (i : Nat) (c : UInt8) (v : Nat) : Prop :=
  ∀ b, b < t.nBuckets → ∀ id ∈ t.buckets.getD b [], (t.pats.get id).getD i 0 = c →
    v.testBit b = true

theorem sup_maskG (t : Teddy) (i : Nat) (nybF : UInt8 → UInt8) (c : UInt8) :
    Sup t i c (maskG t i nybF (nybF c)) := by
  intro b hb id hid hc
  apply mask_fold_testBit
  refine Or.inr ⟨List.mem_range.2 hb, List.any_eq_true.2 ⟨id, hid, ?_⟩⟩
  rw [hc]; exact beq_self_eq_true _

theorem sup_member (t : Teddy) (i : Nat) (c : UInt8) : Sup t i c (t.member i c) := by
  intro b hb id hid hc
  unfold Teddy.member
  rw [Nat.testBit_and, maskLo_eq, maskHi_eq, sup_maskG t i _ c b hb id hid hc,
    sup_maskG t i _ c b hb id hid hc]
  rfl


/-! ## lane algebra -/

theorem chunk_at (hay : PBytes) (cur w : Nat) (hfit : cur + w ≤ hay.length) :
    ((hay.drop cur).take w).length = w ∧
      ∀ l, l < w → ((hay.drop cur).take w).getD l 0 = hay.getD (cur + l) 0 := by
  refine ⟨by rw [List.length_take, List.length_drop]; omega, fun l hl => ?_⟩
  rw [List.getD_take_of_lt _ _ _ _ hl, List.getD_drop]

theorem foldl_zipWith_and (vs : List (List Nat)) (acc : List Nat) (w : Nat) (hacc : acc.length = w)
    (hvs : ∀ v ∈ vs, v.length = w) :
    (vs.foldl (fun a v => List.zipWith (· &&& ·) a v) acc).length = w ∧
    ∀ j b, j < w → (acc.getD j 0).testBit b = true →
      (∀ v ∈ vs, (v.getD j 0).testBit b = true) →
      ((vs.foldl (fun a v => List.zipWith (· &&& ·) a v) acc).getD j 0).testBit b = true := by
  induction vs generalizing acc with
  | nil => exact ⟨hacc, fun j b _ h _ => h⟩
  | cons v vs ih =>
    have hv := hvs v (by simp)
    have hlen : (List.zipWith (· &&& ·) acc v).length = w := by
      rw [List.length_zipWith]; omega
    obtain ⟨h1, h2⟩ := ih (List.zipWith (· &&& ·) acc v) hlen
      (fun v' hv' => hvs v' (List.mem_cons_of_mem _ hv'))
    rw [List.foldl_cons]
    refine ⟨h1, ?_⟩
    intro j b hj hacc' hall
    apply h2 j b hj
    · rw [List.getD_zipWith _ _ _ _ 0 0 0 (by omega) (by omega), Nat.testBit_and, hacc',
        hall v (by simp)]
      rfl
    · exact fun v' hv' => hall v' (List.mem_cons_of_mem _ hv')

theorem shiftIn_length (k : Nat) (cur prev : List Nat) (w : Nat) (hc : cur.length = w)
    (hp : prev.length = w) (hk : k ≤ w) : (shiftIn k cur prev).length = w := by
  obtain ⟨r, rfl⟩ := Nat.exists_eq_add_of_le hk
  unfold shiftIn
  rw [List.length_append, List.length_drop, List.length_take, hc, hp, Nat.add_sub_cancel_left,
    Nat.add_sub_cancel, Nat.min_eq_left (Nat.le_add_left r k)]

/-- Lanes of `shiftIn k cur prev` by the position they speak of: lane `l` of `cur` speaks of
position `c0 + l`, lane `l` of `prev` of the position `w` before; then lane `j` of the shifted vector
speaks of the position `k` before `c0 + j`. -/
theorem shiftIn_lanes (P : Nat → Nat → Prop) (k w c0 : Nat) (cur prev : List Nat)
    (hcl : cur.length = w) (hpl : prev.length = w) (hk : k ≤ w)
    (hcur : ∀ l, l < w → P (c0 + l) (cur.getD l 0))
    (hprev : ∀ l pos, l < w → pos + w = c0 + l → P pos (prev.getD l 0))
    (j pos : Nat) (hj : j < w) (hpos : pos + k = c0 + j) :
    P pos ((shiftIn k cur prev).getD j 0) := by
  obtain ⟨r, rfl⟩ := Nat.exists_eq_add_of_le hk
  have hdl : (prev.drop r).length = k := by rw [List.length_drop, hpl, Nat.add_sub_cancel]
  unfold shiftIn
  rw [hcl, hpl, Nat.add_sub_cancel_left]
  rcases Nat.lt_or_ge j k with hjk | hjk
  · rw [List.getD_append_left _ _ _ (by rw [hdl]; exact hjk), List.getD_drop]
    exact hprev _ pos (by omega) (by omega)
  · obtain ⟨l, rfl⟩ := Nat.exists_eq_add_of_le hjk
    rw [← hdl, List.getD_append_right, List.getD_take_of_lt _ _ _ _ (by omega)]
    have := hcur l (by omega)
    rwa [show c0 + l = pos by omega] at this


def resOf (t : Teddy) (chunk : PBytes) : List (List Nat) :=
  (List.range t.maskLen).map fun i => chunk.map (t.member i)

def shiftedOf (t : Teddy) (chunk : PBytes) (prevs : List (List Nat)) : List (List Nat) :=
  (List.range t.maskLen).map fun i =>
    if i + 1 < t.maskLen then
      shiftIn (t.maskLen - 1 - i) ((resOf t chunk).getD i []) (prevs.getD i [])
    else (resOf t chunk).getD i []

theorem candidate_fst (t : Teddy) (chunk : PBytes) (prevs : List (List Nat)) :
    (t.candidate chunk prevs).1 =
      (shiftedOf t chunk prevs).foldl (fun acc v => List.zipWith (· &&& ·) acc v)
        (allOnes t.nBuckets chunk.length) := rfl

theorem candidate_snd (t : Teddy) (chunk : PBytes) (prevs : List (List Nat)) :
    (t.candidate chunk prevs).2 = (resOf t chunk).take (t.maskLen - 1) := rfl

theorem resOf_getD (t : Teddy) (chunk : PBytes) (i : Nat) (hi : i < t.maskLen) :
    (resOf t chunk).getD i [] = chunk.map (t.member i) := by
  unfold resOf
  exact List.getD_map_range _ _ _ _ hi

/-- the carries at window position `cur`: lane `l` of carry `i` is sound for the byte `w` before
lane `l` of the window (either a member vector of the previous window or all ones) -/
def CarryOK (t : Teddy) (hay : PBytes) (w cur : Nat) (prevs : List (List Nat)) : Prop :=
  ∀ i, i + 1 < t.maskLen → (prevs.getD i []).length = w ∧
    ∀ l pos, l < w → pos + w = cur + l →
      Sup t i (hay.getD pos 0) ((prevs.getD i []).getD l 0)

theorem carryOK_init (t : Teddy) (hay : PBytes) (w cur n1 : Nat) (hn : t.maskLen - 1 = n1) :
    CarryOK t hay w cur (List.replicate n1 (allOnes t.nBuckets w)) := by
  intro i hi
  rw [List.getD_replicate _ _ _ _ (by omega)]
  refine ⟨List.length_replicate, fun l pos hl _ b hb _ _ _ => ?_⟩
  unfold allOnes
  rw [List.getD_replicate _ _ _ _ hl]
  exact testBit_allOnes _ b hb

theorem resOf_sup (t : Teddy) (hay chunk : PBytes) (w cur : Nat)
    (hch : chunk.length = w ∧ ∀ l, l < w → chunk.getD l 0 = hay.getD (cur + l) 0) (i : Nat)
    (hi : i < t.maskLen) :
    ((resOf t chunk).getD i []).length = w ∧
      ∀ l, l < w → Sup t i (hay.getD (cur + l) 0) (((resOf t chunk).getD i []).getD l 0) := by
  rw [resOf_getD t _ i hi, List.length_map]
  refine ⟨hch.1, fun l hl => ?_⟩
  rw [List.getD_map _ _ _ 0 0 (by rw [hch.1]; exact hl), hch.2 l hl]
  exact sup_member t i _

section
variable (t : Teddy) (hay chunk : PBytes) (w base cur n1 : Nat) (prevs : List (List Nat))
  (hn : t.maskLen - 1 = n1) (hcur : cur = base + n1)
  (hch : chunk.length = w ∧ ∀ l, l < w → chunk.getD l 0 = hay.getD (cur + l) 0)
  (hnw : n1 ≤ w) (hc : CarryOK t hay w cur prevs)
include hn hcur hch hnw hc

/-- The window at `cur = base + n1`, `n1 = maskLen - 1`, decides the offsets `base + j`, `j < w`:
lane `j` of the `i`-th shifted vector is sound for the byte at offset `i` of the lane's position. -/
theorem shifted_sup (i : Nat) (hi : i < t.maskLen) :
    let v := if i + 1 < t.maskLen then
        shiftIn (n1 - i) ((resOf t chunk).getD i []) (prevs.getD i [])
      else (resOf t chunk).getD i []
    v.length = w ∧ ∀ j, j < w → Sup t i (hay.getD (base + j + i) 0) (v.getD j 0) := by
  intro v
  obtain ⟨hresl, hresg⟩ := resOf_sup t hay chunk w cur hch i hi
  -- `k` lanes come from the carry
  obtain ⟨k, rfl⟩ : ∃ k, n1 = i + k := Nat.exists_eq_add_of_le (by omega)
  have hkw : k ≤ w := Nat.le_trans (Nat.le_add_left k i) hnw
  by_cases hi1 : i + 1 < t.maskLen
  · have hv : v = shiftIn k ((resOf t chunk).getD i []) (prevs.getD i []) := by
      rw [← Nat.add_sub_cancel_left (n := i) (m := k)]; exact if_pos hi1
    obtain ⟨hp1, hp2⟩ := hc i hi1
    rw [hv]
    exact ⟨shiftIn_length _ _ _ w hresl hp1 hkw, fun j hj =>
      shiftIn_lanes (fun pos v => Sup t i (hay.getD pos 0) v) k w cur _ _ hresl hp1 hkw hresg hp2
        j _ hj (by omega)⟩
  · have hv : v = (resOf t chunk).getD i [] := if_neg hi1
    rw [hv]
    refine ⟨hresl, fun j hj => ?_⟩
    rw [show base + j + i = cur + j by omega]
    exact hresg j hj

theorem candidate_spec :
    (t.candidate chunk prevs).1.length = w ∧
    (∀ j, j < w → ∀ b, b < t.nBuckets → ∀ id ∈ t.buckets.getD b [],
      (∀ i, i < t.maskLen → (t.pats.get id).getD i 0 = hay.getD (base + j + i) 0) →
      ((t.candidate chunk prevs).1.getD j 0).testBit b = true) ∧
    CarryOK t hay w (cur + w) (t.candidate chunk prevs).2 := by
  have hsh : ∀ v ∈ shiftedOf t chunk prevs, v.length = w ∧
      ∀ j, j < w → ∀ b, b < t.nBuckets → ∀ id ∈ t.buckets.getD b [],
        (∀ i, i < t.maskLen → (t.pats.get id).getD i 0 = hay.getD (base + j + i) 0) →
        (v.getD j 0).testBit b = true := by
    intro v hv
    obtain ⟨i, hi, rfl⟩ := List.mem_map.1 hv
    have hi' := List.mem_range.1 hi
    rw [hn]
    obtain ⟨h1, h2⟩ := shifted_sup t hay chunk w base cur n1 prevs hn hcur hch hnw hc i hi'
    exact ⟨h1, fun j hj b hb id hid hbytes => h2 j hj b hb id hid (hbytes i hi')⟩
  have hao : (allOnes t.nBuckets chunk.length).length = w := by
    rw [hch.1]; exact List.length_replicate
  obtain ⟨f1, f2⟩ := foldl_zipWith_and _ _ w hao (fun v hv => (hsh v hv).1)
  rw [candidate_fst, candidate_snd]
  refine ⟨f1, ?_, ?_⟩
  · intro j hj b hb id hid hbytes
    apply f2 j b hj
    · unfold allOnes
      rw [List.getD_replicate _ _ _ _ (by rw [hch.1]; exact hj)]
      exact testBit_allOnes _ b hb
    · exact fun v hv => (hsh v hv).2 j hj b hb id hid hbytes
  · intro i hi
    obtain ⟨h1, h2⟩ := resOf_sup t hay chunk w cur hch i (Nat.lt_of_succ_lt hi)
    rw [hn, List.getD_take_of_lt _ _ _ _ (by omega)]
    refine ⟨h1, fun l pos hl hpos => ?_⟩
    rw [show pos = cur + l by omega]
    exact h2 l hl

end

/-! ## verification -/

theorem range_findSome?_single {β : Type} (g : Nat → Option β) (n b0 : Nat) (hb0 : b0 < n)
    (h : ∀ b, b < n → b ≠ b0 → g b = none) : (List.range n).findSome? g = g b0 := by
  induction n with
  | zero => omega
  | succ n ih =>
    rw [List.range_succ, List.findSome?_append, List.findSome?_singleton]
    rcases Nat.eq_or_lt_of_le (Nat.le_of_lt_succ hb0) with rfl | hlt
    · rw [List.findSome?_eq_none_iff.2
        (fun j hj => h j (Nat.lt_succ_of_lt (List.mem_range.1 hj)) (Nat.ne_of_lt (List.mem_range.1 hj))),
        Option.none_or]
    · rw [ih hlt (fun b hb hne => h b (Nat.lt_succ_of_lt hb) hne),
        h n (Nat.lt_succ_self n) (Nat.ne_of_gt hlt), Option.or_none]

theorem vf_ne_none_prefix (p : PPatterns) (hay : PBytes) (pos id : Nat)
    (h : vf p hay pos id ≠ none) : p.get id <+: hay.drop pos := by
  unfold vf at h
  split at h
  · rename_i hp
    exact List.isPrefixOf_iff_prefix.1 hp
  · exact absurd rfl h

theorem verify_eq (t : Teddy) (hay : PBytes) (base : Nat) (cand : List Nat) :
    t.verify hay base cand = (List.range cand.length).findSome? fun j =>
      (List.range t.nBuckets).findSome? fun b =>
        if (cand.getD j 0) &&& (1 <<< b) != 0 then
          (t.buckets.getD b []).findSome? (vf t.pats hay (base + j))
        else none := rfl

theorem mainLoop_zero (t : Teddy) (hay : PBytes) (w cur : Nat) (prevs : List (List Nat))
    (loads : List Nat) : t.mainLoop hay w 0 cur prevs loads = (none, cur, loads) := rfl

theorem mainLoop_succ (t : Teddy) (hay : PBytes) (w fuel cur : Nat) (prevs : List (List Nat))
    (loads : List Nat) :
    t.mainLoop hay w (fuel + 1) cur prevs loads =
      if cur + w ≤ hay.length then
        match (if (t.candidate ((hay.drop cur).take w) prevs).1.all (· == 0) then none
          else t.verify hay (cur - (t.maskLen - 1)) (t.candidate ((hay.drop cur).take w) prevs).1) with
        | some m => (some m, cur, loads ++ [cur])
        | none => t.mainLoop hay w fuel (cur + w) (t.candidate ((hay.drop cur).take w) prevs).2
            (loads ++ [cur])
      else (none, cur, loads) := rfl

theorem findT_eq (t : Teddy) (hay : PBytes) (st w : Nat) :
    t.findT hay st w =
      match t.mainLoop hay w (hay.length / w + 2) (st + (t.maskLen - 1))
          (List.replicate (t.maskLen - 1) (allOnes t.nBuckets w)) [] with
      | (some m, _, loads) => (some m, loads)
      | (none, cur, loads) =>
        if cur < hay.length then
          (if (t.candidate ((hay.drop (hay.length - w)).take w)
              (List.replicate (t.maskLen - 1) (allOnes t.nBuckets w))).1.all (· == 0) then none
            else t.verify hay (hay.length - w - (t.maskLen - 1))
              (t.candidate ((hay.drop (hay.length - w)).take w)
                (List.replicate (t.maskLen - 1) (allOnes t.nBuckets w))).1, loads ++ [hay.length - w])
        else (none, loads) := rfl

/-- outcome of the main loop: a scan from `lo`; when nothing was found, the loop stopped at a window
position `hi + n1` where no further window fits, all offsets below `hi` decided -/
def LoopRes (p : PPatterns) (hay : PBytes) (n1 w lo : Nat) (r : Option Mat × Nat × List Nat) : Prop :=
  ∃ hi, Scan p hay lo hi r.1 ∧ (r.1 = none → r.2.1 = hi + n1 ∧ hay.length < r.2.1 + w)

theorem fuel_enough (len w : Nat) (hw : 0 < w) : len < (len / w + 2) * w := by
  have h1 := Nat.div_add_mod len w
  have h2 := Nat.mod_lt len hw
  rw [Nat.add_mul, Nat.mul_comm (len / w) w]
  omega

section
variable (p : PPatterns) (hmin : ∀ id ∈ p.order, p.minLen ≤ (p.get id).length)
include hmin

theorem keyOf_of_vf (hay : PBytes) (pos id : Nat) (hid : id ∈ p.order)
    (h : vf p hay pos id ≠ none) :
    keyOf p (min 4 p.minLen) id = ((hay.drop pos).take (min 4 p.minLen)).map (· &&& 0xF) := by
  unfold keyOf
  rw [(vf_ne_none_prefix p hay pos id h).take_eq
    (Nat.le_trans (Nat.min_le_right _ _) (hmin id hid))]

variable (nB : Nat) (hB : 0 < nB)
include hB

theorem verified_bucket (hay : PBytes) (pos : Nat) :
    ∃ b0, b0 < nB ∧ ∀ id ∈ p.order, vf p hay pos id ≠ none → bkOf p nB id = some b0 := by
  by_cases hex : ∃ id, id ∈ p.order ∧ vf p hay pos id ≠ none
  · obtain ⟨id0, hid0, hm0⟩ := hex
    obtain ⟨b0, hbk0, hb0⟩ := bkOf_lt p nB hB id0 hid0
    refine ⟨b0, hb0, fun id hid hm => ?_⟩
    rw [← hbk0]
    unfold bkOf
    rw [keyOf_of_vf p hmin hay pos id hid hm, keyOf_of_vf p hmin hay pos id0 hid0 hm0]
  · exact ⟨0, hB, fun id hid hm => absurd ⟨id, hid, hm⟩ hex⟩

theorem lane_find (hay : PBytes) (pos x : Nat)
    (hx : ∀ b, b < nB → ∀ id ∈ (Teddy.new p nB).buckets.getD b [],
      vf p hay pos id ≠ none → x.testBit b = true) :
    (List.range nB).findSome? (fun b =>
      if x &&& (1 <<< b) != 0 then ((Teddy.new p nB).buckets.getD b []).findSome? (vf p hay pos)
      else none) = bestAt p hay pos := by
  obtain ⟨b0, hb0, hsame⟩ := verified_bucket p hmin nB hB hay pos
  -- the verified patterns are in bucket `b0`, which lists them in `order`
  have hbk : ((Teddy.new p nB).buckets.getD b0 []).findSome? (vf p hay pos) = bestAt p hay pos := by
    rw [buckets_getD _ nB hB b0 hb0, List.findSome?_filter]
    apply List.findSome?_congr
    intro id hid
    by_cases hm : vf p hay pos id = none
    · rw [hm]; split <;> rfl
    · rw [hsame id hid hm, beq_self_eq_true, if_pos rfl]
  rw [range_findSome?_single _ nB b0 hb0, and_bit_ne_zero]
  · split
    · exact hbk
    · rename_i hbit
      rw [← hbk, eq_comm, List.findSome?_eq_none_iff]
      exact fun id hid => Classical.not_not.1 (mt (hx b0 hb0 id hid) hbit)
  · intro b hb hne
    split
    · rw [List.findSome?_eq_none_iff]
      intro id hid
      rw [buckets_getD _ nB hB b hb, List.mem_filter, beq_iff_eq] at hid
      apply Classical.byContradiction
      intro hm
      rw [hsame id hid.1 hm] at hid
      exact hne (Option.some.inj hid.2).symm
    · rfl

theorem window_eq (hay : PBytes) (base : Nat) (cand : List Nat)
    (hcomp : ∀ j, j < cand.length → ∀ b, b < nB → ∀ id ∈ (Teddy.new p nB).buckets.getD b [],
      vf p hay (base + j) id ≠ none → (cand.getD j 0).testBit b = true) :
    (if cand.all (· == 0) then none else (Teddy.new p nB).verify hay base cand) =
      (List.range cand.length).findSome? (fun j => bestAt p hay (base + j)) := by
  split
  · -- an all-zero candidate has no verified pattern in any lane
    rename_i hall
    rw [eq_comm, List.findSome?_eq_none_iff]
    intro j hj
    have hj' := List.mem_range.1 hj
    have hz : cand.getD j 0 = 0 := by
      rw [List.getD_of_lt _ _ _ hj']
      exact beq_iff_eq.1 (List.all_eq_true.1 hall _ (List.getElem_mem hj'))
    rw [← lane_find p hmin nB hB hay (base + j) 0 (by rw [← hz]; exact hcomp j hj'),
      List.findSome?_eq_none_iff]
    intro b _
    rw [Nat.zero_and]; rfl
  · rw [verify_eq]
    apply List.findSome?_congr
    intro j hj
    exact lane_find p hmin nB hB hay (base + j) (cand.getD j 0) (hcomp j (List.mem_range.1 hj))


variable (t : Teddy) (ht : t = Teddy.new p nB)
include ht

theorem window_spec (hay : PBytes) (w base cur n1 : Nat) (prevs : List (List Nat))
    (hn : t.maskLen - 1 = n1) (hcur : cur = base + n1) (hfit : cur + w ≤ hay.length)
    (hnw : n1 ≤ w) (hc : CarryOK t hay w cur prevs) :
    (if (t.candidate ((hay.drop cur).take w) prevs).1.all (· == 0) then none
      else t.verify hay (cur - n1) (t.candidate ((hay.drop cur).take w) prevs).1) =
      (List.range w).findSome? (fun j => bestAt p hay (base + j)) ∧
    CarryOK t hay w (cur + w) (t.candidate ((hay.drop cur).take w) prevs).2 := by
  obtain ⟨h1, h2, h3⟩ := candidate_spec t hay _ w base cur n1 prevs hn hcur (chunk_at hay cur w hfit) hnw hc
  refine ⟨?_, h3⟩
  rw [hcur, Nat.add_sub_cancel, ← hcur]
  subst ht
  rw [window_eq p hmin nB hB hay _ _ ?_, h1]
  intro j hj b hb id hid hm
  rw [h1] at hj
  apply h2 j hj b hb id hid
  intro i hi
  rw [buckets_getD _ nB hB b hb, List.mem_filter] at hid
  exact (vf_ne_none_prefix p hay _ id hm).getD_drop
    (Nat.lt_of_lt_of_le hi (Nat.le_trans (Nat.min_le_right _ _) (hmin id hid.1))) 0

theorem mainLoop_scan (hay : PBytes) (w n1 : Nat) (hn : t.maskLen - 1 = n1) (hnw : n1 ≤ w)
    (fuel base cur : Nat) (prevs : List (List Nat)) (loads : List Nat) (hcur : cur = base + n1)
    (hc : CarryOK t hay w cur prevs) (hfuel : hay.length < fuel * w + cur + w) :
    LoopRes p hay n1 w base (t.mainLoop hay w fuel cur prevs loads) := by
  induction fuel generalizing base cur prevs loads with
  | zero =>
    exact ⟨base, fun pos g1 g2 => by omega,
      fun _ => (⟨hcur, by omega⟩ : cur = _ ∧ hay.length < cur + w)⟩
  | succ fuel ih =>
    rw [mainLoop_succ, hn]
    split
    · rename_i hfit
      obtain ⟨hwin, hc'⟩ := window_spec p hmin nB hB t ht hay w base cur n1 prevs hn hcur hfit hnw hc
      have hr := scan_range p hay base w
      rw [hwin]
      generalize (List.range w).findSome? (fun j => bestAt p hay (base + j)) = r at hr ⊢
      cases r with
      | some m => exact ⟨base + w, hr, fun h => by cases h⟩
      | none =>
        obtain ⟨hi, hs, hstop⟩ := ih (base + w) (cur + w) _ (loads ++ [cur]) (by omega) hc'
          (by rw [Nat.succ_mul] at hfuel; omega)
        exact ⟨hi, scan_append (Nat.le_add_right _ _) hr hs, hstop⟩
    · exact ⟨base, fun pos g1 g2 => by omega,
        fun _ => (⟨hcur, by omega⟩ : cur = _ ∧ hay.length < cur + w)⟩

theorem find_scan (hay : PBytes) (st w n1 hi : Nat) (hn : t.maskLen - 1 = n1) (hw : 0 < w)
    (hnw : n1 ≤ w) (hhi : hay.length = hi + n1) (hlen : st + w ≤ hi) :
    Scan p hay st hi (t.find hay st w) := by
  obtain ⟨hi', hs, hstop⟩ := mainLoop_scan p hmin nB hB t ht hay w n1 hn hnw
    (hay.length / w + 2) st (st + n1) (List.replicate n1 (allOnes t.nBuckets w)) [] rfl
    (carryOK_init t hay w _ n1 hn) (by have := fuel_enough hay.length w hw; omega)
  unfold Teddy.find
  rw [findT_eq, hn]
  generalize t.mainLoop hay w (hay.length / w + 2) (st + n1)
    (List.replicate n1 (allOnes t.nBuckets w)) [] = r at hs hstop ⊢
  obtain ⟨a, c, l⟩ := r
  cases a with
  | some m => exact hs
  | none =>
    obtain ⟨hc1, hc2⟩ := hstop rfl
    -- the final window (taken if bytes are left over) is at `bf + n1`, overlaps the last window of
    -- the main loop, starts with all-ones carries, and decides the offsets from `bf`
    obtain ⟨bf, rfl⟩ := Nat.exists_eq_add_of_le' (Nat.le_of_add_left_le hlen)
    have hcur : hay.length - w = bf + n1 :=
      Nat.sub_eq_of_eq_add (by rw [hhi, Nat.add_right_comm])
    dsimp only at hc1 hc2 hs ⊢
    split
    · obtain ⟨hwin, _⟩ := window_spec p hmin nB hB t ht hay w bf (hay.length - w) n1
        (List.replicate n1 (allOnes t.nBuckets w)) hn hcur (by omega) hnw
        (carryOK_init t hay w _ n1 hn)
      dsimp only
      rw [hwin]
      exact scan_append (by omega) (scan_none_mono (by omega) hs) (scan_range p hay bf w)
    · exact scan_none_mono (by omega) hs

end

theorem teddy_find_isFind (kind : PKind) (pats : List PBytes) (hnz : ∀ p ∈ pats, p ≠ [])
    (nB : Nat) (hB : 0 < nB) (w : Nat) (hw3 : 3 ≤ w) (hay : PBytes) (st en : Nat)
    (hen : en ≤ hay.length) (hlen : st + w + (min 4 (PPatterns.new kind pats).minLen - 1) ≤ en) :
    IsFind kind.toMatchKind pats hay st en false
      ((Teddy.new (PPatterns.new kind pats) nB).find (hay.take en) st w) := by
  obtain ⟨n1, hm⟩ : ∃ n1, min 4 (PPatterns.new kind pats).minLen = n1 + 1 :=
    Nat.exists_eq_succ_of_ne_zero
      (Nat.ne_of_gt (Nat.lt_min.2 ⟨by decide, minLen_pos kind pats hnz⟩))
  have hm1 : n1 + 1 ≤ (PPatterns.new kind pats).minLen := hm ▸ Nat.min_le_right _ _
  have hm4 : n1 + 1 ≤ 4 := hm ▸ Nat.min_le_left _ _
  rw [hm, Nat.add_sub_cancel] at hlen
  obtain ⟨hi, rfl⟩ := Nat.exists_eq_add_of_le' (Nat.le_trans (Nat.le_add_left _ _) hlen)
  apply isFind_of_scan kind pats hnz hay st (hi + n1) (n1 + 1) hm1
  rw [Nat.add_assoc, Nat.add_sub_cancel]
  exact find_scan _ (new_minLen_le kind pats) nB hB _ rfl (hay.take (hi + n1)) st w n1 hi
    (by rw [teddy_maskLen, hm]; rfl) (by omega) (by omega)
    (by rw [List.length_take, Nat.min_eq_left hen]) (by omega)


/-! ## C15: the load positions -/

theorem mainLoop_loads (t : Teddy) (hay : PBytes) (w lo fuel cur : Nat) (prevs : List (List Nat))
    (loads : List Nat) (hlo : lo ≤ cur) (hold : ∀ c ∈ loads, lo ≤ c ∧ c + w ≤ hay.length) :
    ∀ c ∈ (t.mainLoop hay w fuel cur prevs loads).2.2, lo ≤ c ∧ c + w ≤ hay.length := by
  induction fuel generalizing cur prevs loads with
  | zero => rw [mainLoop_zero]; exact hold
  | succ fuel ih =>
    rw [mainLoop_succ]
    split
    · rename_i hfit
      have hnew : ∀ c ∈ loads ++ [cur], lo ≤ c ∧ c + w ≤ hay.length := by
        intro c hc
        rcases List.mem_append.1 hc with hc | hc
        · exact hold c hc
        · rw [List.mem_singleton.1 hc]; exact ⟨hlo, hfit⟩
      split
      · exact hnew
      · exact ih (cur + w) _ _ (by omega) hnew
    · exact hold

theorem findT_loads (t : Teddy) (hay : PBytes) (st w : Nat)
    (hlen : st + w + (t.maskLen - 1) ≤ hay.length) :
    ∀ cur ∈ (t.findT hay st w).2, st + (t.maskLen - 1) ≤ cur ∧ cur + w ≤ hay.length := by
  have hl := mainLoop_loads t hay w (st + (t.maskLen - 1)) (hay.length / w + 2)
    (st + (t.maskLen - 1)) (List.replicate (t.maskLen - 1) (allOnes t.nBuckets w)) []
    (Nat.le_refl _) (by simp)
  rw [findT_eq]
  generalize t.mainLoop hay w (hay.length / w + 2) (st + (t.maskLen - 1))
    (List.replicate (t.maskLen - 1) (allOnes t.nBuckets w)) [] = r at hl ⊢
  obtain ⟨a, c, l⟩ := r
  cases a with
  | some m => exact hl
  | none =>
    dsimp only at hl ⊢
    split
    · dsimp only
      intro cur hcur
      rcases List.mem_append.1 hcur with hcur | hcur
      · exact hl cur hcur
      · rw [List.mem_singleton.1 hcur]; omega
    · exact hl

end PackedP

/-- how `PackedSearcher::find_in` picks Rabin-Karp or a Teddy variant, for a searcher just built -/
theorem findIn_new (kind : PKind) (pats : List PBytes) (v : TeddyVariant) (hay : PBytes)
    (st en : Nat) :
    (PackedSearcher.new kind pats (some v)).findIn hay st en =
      if en - st < 16 + (min 4 (PPatterns.new kind pats).minLen - 1) then
        (RabinKarp.new (PPatterns.new kind pats)).findAt (hay.take en) st
      else match v with
        | .slim128 => (Teddy.new (PPatterns.new kind pats) 8).find (hay.take en) st 16
        | .slim256 =>
          if en - st < 32 + (min 4 (PPatterns.new kind pats).minLen - 1) then
            (Teddy.new (PPatterns.new kind pats) 8).find (hay.take en) st 16
          else (Teddy.new (PPatterns.new kind pats) 8).find (hay.take en) st 32
        | .fat256 => (Teddy.new (PPatterns.new kind pats) 16).find (hay.take en) st 16 := rfl

end AcVerif
