import AcVerif.Proofs.StreamStep
import AcVerif.StreamCost
/-!
# Stream search: C07 / C08 / C18 / C19 for any automaton meeting the standing assumptions

`drain_spec`: from a state satisfying `Inv`, `ChunkIter.drain` yields a chunk list meeting `Spec`
(no empty read; no error when the reader has no fault), `ChunkIter.drainEnd` stops with the whole
stream scanned (at most that, when an error ends the run), and `streamReplaceWith.go` is `goPure`
over the chunk list.

`StreamRef A st0 data spare minFactor defaultCap` collects what the property theorems need of an
automaton: `ChunkIter.new` accepts it and starts in `st0`, `Hyp` holds for every read schedule, and
the in-memory iterator on the whole stream runs over `firstMatch`.  From it alone: a whole run
(`StreamRef.run`), C07 (`eq_iter`), C08 (`concat`, `replace_eq`), C18 (`read_fault`, `write_fault`)
and C19 (`transitions`).  Instances: `streamRef_ideal` (`Proofs/StreamIdeal.lean`) and, for the
case-insensitive searcher, `streamRef_comap` (`Proofs/StreamFold.lean`).
-/
namespace AcVerif.StreamP
open AcVerif
variable {σ α : Type}

section
variable {A : Aut σ α} {st0 : σ} {data : List α} {sched : List Nat} {fa : Option Nat}
  {Lm C : Nat}

theorem need_le_nextFuel {r : Nat} {it : ChunkIter σ α}
    (h : Inv A st0 data sched fa Lm C r it) : need A data it ≤ nextFuel it := by
  unfold need nextFuel
  rw [h.rinv.1]
  split
  · omega
  · split <;> omega

theorem drain_spec (H : Hyp A st0 data sched Lm C) (n : Nat) (it : ChunkIter σ α) (r : Nat)
    (h : Inv A st0 data sched fa Lm C r it) (hn : data.length - off it + 1 ≤ n) :
    ∃ cs err, ChunkIter.drain A n it = (cs, err, 0) ∧
      Spec (firstMatch A st0 data) data err (off it) r cs ∧ (fa = none → err = false) ∧
      (ChunkIter.drainEnd A n it).absPos ≤ data.length ∧
      (err = false → (ChunkIter.drainEnd A n it).absPos = data.length) ∧
      ∀ (repl : Mat → List α) (w : Writer α) (log : List (Mat × List α)),
        streamReplaceWith.go A repl n it w log =
          ((goPure repl cs err w log).1, (goPure repl cs err w log).2.1,
            (goPure repl cs err w log).2.2, 0) := by
  induction n generalizing it r with
  | zero => omega
  | succ n ih =>
    have hp := next_post H (nextFuel it) it r h (need_le_nextFuel h)
    simp only [ChunkIter.drain, ChunkIter.drainEnd, streamReplaceWith.go]
    generalize ChunkIter.next A it (nextFuel it) = res at hp
    match res, hp with
    | (.done, it'), ⟨h1, h2, h3, h4⟩ =>
      exact ⟨[], false, by simp only [h1], Or.inr ⟨h3, h4⟩, fun _ => rfl, Nat.le_of_eq h2,
        fun _ => h2, fun repl w log => by simp only [h1, goPure, Bool.not_false]⟩
    | (.ioErr, it'), ⟨h1, _, h3⟩ =>
      have h0 := h1.rinv.2.2.2.1
      exact ⟨[], true, by simp only [h0], Or.inl rfl, fun hfa => absurd hfa h3, h1.scan.2.1,
        (fun he => nomatch he), fun repl w log => by simp only [h0, goPure, Bool.not_true]⟩
    | (.chunk (.nonMatch b), it'), ⟨h1, h2, h3⟩ =>
      have hle := h1.off_le
      obtain ⟨cs, err, hd, hs, he, ha, ha', hgo⟩ := ih it' r h1 (by omega)
      refine ⟨.nonMatch b :: cs, err, by simp only [hd], ⟨off it', h2, hle, h3, hs⟩, he, ha, ha',
        fun repl w log => ?_⟩
      simp only [goPure]
      generalize w.writeAll b = wr
      match wr with
      | (w', true) => exact hgo repl w' log
      | (w', false) => simp only [h1.rinv.2.2.2.1]
    | (.chunk (.mtch b m), it'), ⟨h1, h2, h3, h4, h5⟩ =>
      have hm := H.fok r m h.r_le h2
      have hle := h4 ▸ h1.off_le
      obtain ⟨cs, err, hd, hs, he, ha, ha', hgo⟩ := ih it' m.stop h1 (by omega)
      refine ⟨.mtch b m :: cs, err, by simp only [hd], ⟨h2, h3, h5, h4 ▸ hs⟩, he, ha, ha',
        fun repl w log => ?_⟩
      simp only [goPure]
      generalize w.writeAll (repl m) = wr
      match wr with
      | (w', true) => exact hgo repl w' _
      | (w', false) => simp only [h1.rinv.2.2.2.1]

end

/-- the whole stream as an in-memory search input -/
abbrev whole (data : List α) : Input α :=
  { hay := data, s := 0, e := data.length, anch := false, earliest := false,
    valid := ⟨Nat.le_refl _, Nat.zero_le _⟩ }

/-- the stream with the search start moved to `r` -/
abbrev wholeAt (data : List α) (r : Nat) (hr : r ≤ data.length + 1) : Input α :=
  { hay := data, s := r, e := data.length, anch := false, earliest := false,
    valid := ⟨Nat.le_refl _, hr⟩ }

theorem findIter_whole {A : Aut σ α} {q : σ} (h : A.start false = some q) (data : List α) :
    findIter A none (whole data) = .ok (iterSpec (findAt A none (whole data)) 0 data.length) := by
  simp only [findIter, h]

theorem inv_init (A : Aut σ α) {st0 : σ} (h0 : A.isMatch st0 = false) (data : List α)
    (sched : List Nat) (fa : Option Nat) (b : Buffer α) (hb : b.buf = []) :
    Inv A st0 data sched fa b.min b.cap 0
      { rdr := { data := data, sched := sched, failAt := fa }, buf := b, start := st0,
        sid := st0 } where
  rinv := ⟨rfl, rfl, rfl, rfl, Nat.zero_le _⟩
  binv := ⟨rfl, rfl, by show b.buf.length ≤ 0; rw [hb]; exact Nat.le_refl _, by
    show b.buf = slice data (0 - b.buf.length) 0
    rw [hb]; simp [slice]⟩
  start := rfl
  bp := Nat.zero_le _
  rep := Nat.le_refl _
  abs := by show 0 = 0 - b.buf.length + 0; rw [hb]; rfl
  scan := ScanAt.init _ h0 _ (Nat.zero_le _)
  sem := by intro m _; show 0 - b.buf.length + 0 ≤ m.start; rw [hb]; exact Nat.zero_le _

/-! ## the top-level functions in terms of `new`, `drain`, `drainEnd` and the replace loop -/
section
variable {A : Aut σ α} {rdr : Reader α} {spare : Option Nat} {minFactor defaultCap : Nat}
  {it : ChunkIter σ α}

theorem streamFind_of (hnew : ChunkIter.new A rdr spare minFactor defaultCap = .ok it)
    {cs : List (Chunk α)} {err : Bool} {er : Nat}
    (hd : ChunkIter.drain A (drainFuel rdr.data) it = (cs, err, er)) :
    streamFind A rdr spare minFactor defaultCap = .ok (chunkMats cs, err, er) := by
  simp only [streamFind, hnew, hd]
  rfl

theorem streamReplaceWith_of (hnew : ChunkIter.new A rdr spare minFactor defaultCap = .ok it)
    (w : Writer α) (repl : Mat → List α) :
    streamReplaceWith A rdr spare w repl minFactor defaultCap =
      .ok (streamReplaceWith.go A repl (drainFuel rdr.data) it w []) := by
  simp only [streamReplaceWith, hnew]

theorem streamTransitions_of (hnew : ChunkIter.new A rdr spare minFactor defaultCap = .ok it) :
    streamTransitions A rdr spare minFactor defaultCap =
      .ok (ChunkIter.drainEnd A (drainFuel rdr.data) it).absPos := by
  simp only [streamTransitions, hnew]

end

/-- `A`, started in `st0`, can be searched over the stream `data` with these buffer constants -/
structure StreamRef (A : Aut σ α) (st0 : σ) (data : List α) (spare : Option Nat)
    (minFactor defaultCap : Nat) : Prop where
  new : ∀ rdr : Reader α, ChunkIter.new A rdr spare minFactor defaultCap =
    .ok { rdr := rdr, buf := Buffer.new A.maxLen spare minFactor defaultCap, start := st0,
          sid := st0 }
  hyp : ∀ sched : List Nat, (∀ x ∈ sched, 1 ≤ x) →
    Hyp A st0 data sched (Buffer.new (α := α) A.maxLen spare minFactor defaultCap).min
      (Buffer.new (α := α) A.maxLen spare minFactor defaultCap).cap
  iter : findIter A none (whole data) = .ok (iterSpec (firstMatch A st0 data) 0 data.length)

namespace StreamRef
variable {A : Aut σ α} {st0 : σ} {data : List α} {spare : Option Nat} {minFactor defaultCap : Nat}
  {sched : List Nat}

theorem run (h : StreamRef A st0 data spare minFactor defaultCap) (hs : ∀ x ∈ sched, 1 ≤ x)
    (fa : Option Nat) :
    ∃ it cs err,
      ChunkIter.new A { data := data, sched := sched, failAt := fa } spare minFactor
        defaultCap = .ok it ∧
      ChunkIter.drain A (drainFuel data) it = (cs, err, 0) ∧
      Spec (firstMatch A st0 data) data err 0 0 cs ∧ (fa = none → err = false) ∧
      (ChunkIter.drainEnd A (drainFuel data) it).absPos ≤ data.length ∧
      (err = false → (ChunkIter.drainEnd A (drainFuel data) it).absPos = data.length) ∧
      ∀ (repl : Mat → List α) (w : Writer α),
        streamReplaceWith.go A repl (drainFuel data) it w [] =
          ((goPure repl cs err w []).1, (goPure repl cs err w []).2.1,
            (goPure repl cs err w []).2.2, 0) := by
  have hI := inv_init A (h.hyp sched hs).m0 data sched fa
    (Buffer.new A.maxLen spare minFactor defaultCap) rfl
  obtain ⟨cs, err, hd, hsp, he, ha, ha', hgo⟩ :=
    drain_spec (h.hyp sched hs) (drainFuel data) _ 0 hI (by
      show data.length - (0 - 0 + 0) + 1 ≤ drainFuel data
      unfold drainFuel; omega)
  exact ⟨_, cs, err, h.new _, hd, hsp, he, ha, ha', fun repl w => hgo repl w []⟩

theorem run_ok (h : StreamRef A st0 data spare minFactor defaultCap) (hs : ∀ x ∈ sched, 1 ≤ x) :
    ∃ it cs,
      ChunkIter.new A { data := data, sched := sched } spare minFactor defaultCap = .ok it ∧
      ChunkIter.drain A (drainFuel data) it = (cs, false, 0) ∧
      Spec (firstMatch A st0 data) data false 0 0 cs ∧
      findIter A none (whole data) = .ok (chunkMats cs) ∧
      (ChunkIter.drainEnd A (drainFuel data) it).absPos = data.length ∧
      ∀ (repl : Mat → List α) (w : Writer α),
        streamReplaceWith.go A repl (drainFuel data) it w [] =
          ((goPure repl cs false w []).1, (goPure repl cs false w []).2.1,
            (goPure repl cs false w []).2.2, 0) := by
  obtain ⟨it, cs, err, hnew, hd, hsp, he, _, ha, hgo⟩ := h.run hs none
  have herr := he rfl
  subst herr
  have hm := (spec_mats (h.hyp sched hs).FOK hsp (Nat.zero_le _) (data.length + 2 - 0) none (by omega)).2 rfl
  exact ⟨it, cs, hnew, hd, hsp, h.iter.trans (congrArg Except.ok hm.symm), ha rfl, hgo⟩

/-- C07: the stream yields the matches of the in-memory iterator, reports no I/O error and
never calls `read` with an empty buffer -/
theorem eq_iter (h : StreamRef A st0 data spare minFactor defaultCap) (hs : ∀ x ∈ sched, 1 ≤ x) :
    ∃ ms, findIter A none (whole data) = .ok ms ∧
      streamFind A { data := data, sched := sched } spare minFactor defaultCap =
        .ok (ms, false, 0) := by
  obtain ⟨it, cs, hnew, hd, _, hfi, _⟩ := h.run_ok hs
  exact ⟨_, hfi, streamFind_of hnew hd⟩

theorem sched_indep (h : StreamRef A st0 data spare minFactor defaultCap)
    (hs : ∀ x ∈ sched, 1 ≤ x) {sched' : List Nat} (hs' : ∀ x ∈ sched', 1 ≤ x) :
    ∃ ms,
      streamFind A { data := data, sched := sched } spare minFactor defaultCap =
        .ok (ms, false, 0) ∧
      streamFind A { data := data, sched := sched' } spare minFactor defaultCap =
        .ok (ms, false, 0) := by
  obtain ⟨ms, h1, h2⟩ := h.eq_iter hs
  obtain ⟨ms', h1', h2'⟩ := h.eq_iter hs'
  rw [h1] at h1'
  cases h1'
  exact ⟨ms, h2, h2'⟩

/-- C08: concatenating all chunk bytes gives back the stream, and each match chunk carries
exactly the matched bytes -/
theorem concat (h : StreamRef A st0 data spare minFactor defaultCap) (hs : ∀ x ∈ sched, 1 ≤ x) :
    ∃ it cs,
      ChunkIter.new A { data := data, sched := sched } spare minFactor defaultCap = .ok it ∧
      ChunkIter.drain A (drainFuel data) it = (cs, false, 0) ∧
      cs.flatMap chunkBytes = data ∧
      ∀ b m, Chunk.mtch b m ∈ cs → b = (data.take m.stop).drop m.start := by
  obtain ⟨it, cs, hnew, hd, hsp, _⟩ := h.run_ok hs
  obtain ⟨h1, h2⟩ := spec_concat (h.hyp sched hs).FOK hsp (Nat.zero_le _)
  exact ⟨it, cs, hnew, hd, h1, h2⟩

/-- C08: stream replace writes what the in-memory replace computes from the in-memory
iterator's matches, calling the closure with the same arguments -/
theorem replace_eq (h : StreamRef A st0 data spare minFactor defaultCap)
    (hs : ∀ x ∈ sched, 1 ≤ x) (repl : Mat → List α) :
    ∃ ms, findIter A none (whole data) = .ok ms ∧
      streamReplaceWith A { data := data, sched := sched } spare {} repl minFactor defaultCap =
        .ok ({ out := (replaceBytes data ms repl none).1 },
          (replaceBytes data ms repl none).2, true, 0) := by
  obtain ⟨it, cs, hnew, _, hsp, hfi, _, hgo⟩ := h.run_ok hs
  have hr := spec_replace repl hsp (Nat.le_refl _) 0 [] []
  rw [slice_self, List.append_nil] at hr
  refine ⟨_, hfi, ?_⟩
  rw [streamReplaceWith_of hnew, hgo, hr]
  rfl

/-- C18: a read failure at call `k`: what was yielded before is a prefix of the fault-free
sequence; without a reported error nothing is lost -/
theorem read_fault (h : StreamRef A st0 data spare minFactor defaultCap)
    (hs : ∀ x ∈ sched, 1 ≤ x) (k : Nat) :
    ∃ ms ms' err er,
      streamFind A { data := data, sched := sched } spare minFactor defaultCap =
        .ok (ms, false, 0) ∧
      streamFind A { data := data, sched := sched, failAt := some k } spare minFactor
        defaultCap = .ok (ms', err, er) ∧
      ms' <+: ms ∧ er = 0 ∧ (err = false → ms' = ms) := by
  obtain ⟨it, cs, hnew, hd, hsp, _⟩ := h.run_ok hs
  obtain ⟨it', cs', err', hnew', hd', hsp', _⟩ := h.run hs (some k)
  have H := (h.hyp sched hs).FOK
  have hm := (spec_mats H hsp (Nat.zero_le _) (data.length + 2) none (by omega)).2 rfl
  have hm' := spec_mats H hsp' (Nat.zero_le _) (data.length + 2) none (by omega)
  exact ⟨_, _, err', 0, streamFind_of hnew hd, streamFind_of hnew' hd', hm ▸ hm'.1, rfl,
    fun he => hm ▸ hm'.2 he⟩

/-- C18: a writer that fails after `l` bytes: the bytes accepted are a prefix of the
fault-free output -/
theorem write_fault (h : StreamRef A st0 data spare minFactor defaultCap)
    (hs : ∀ x ∈ sched, 1 ≤ x) (repl : Mat → List α) (l : Nat) :
    ∃ w w' log log' ok',
      streamReplaceWith A { data := data, sched := sched } spare {} repl minFactor defaultCap =
        .ok (w, log, true, 0) ∧
      streamReplaceWith A { data := data, sched := sched } spare { limit := some l } repl
        minFactor defaultCap = .ok (w', log', ok', 0) ∧
      w'.out <+: w.out ∧ w'.out.length ≤ l ∧ (ok' = true → w'.out = w.out) := by
  obtain ⟨it, cs, hnew, _, _, _, _, hgo⟩ := h.run_ok hs
  have h1 : (goPure repl cs false {} []).2.2 = true := (goPure_nolimit repl cs false [] []).2
  have h2 := goPure_limit repl cs false l [] [] (Nat.zero_le _)
  have e := (streamReplaceWith_of hnew {} repl).trans (congrArg Except.ok (hgo repl {}))
  rw [h1] at e
  exact ⟨_, _, _, _, _, e,
    (streamReplaceWith_of hnew _ repl).trans (congrArg Except.ok (hgo repl _)), h2⟩

/-- C19: a fault-free stream search feeds every byte of the stream to the automaton exactly
once; with a failing `read` call at most every byte once -/
theorem transitions (h : StreamRef A st0 data spare minFactor defaultCap)
    (hs : ∀ x ∈ sched, 1 ≤ x) (fa : Option Nat) :
    ∃ t, streamTransitions A { data := data, sched := sched, failAt := fa } spare minFactor
        defaultCap = .ok t ∧ t ≤ data.length ∧ (fa = none → t = data.length) := by
  obtain ⟨it, cs, err, hnew, _, _, he, ha, ha', _⟩ := h.run hs fa
  exact ⟨_, streamTransitions_of hnew, ha, fun hfa => ha' (he hfa)⟩

theorem transitions_ok (h : StreamRef A st0 data spare minFactor defaultCap)
    (hs : ∀ x ∈ sched, 1 ≤ x) :
    streamTransitions A { data := data, sched := sched } spare minFactor defaultCap =
      .ok data.length := by
  obtain ⟨t, h1, _, h3⟩ := h.transitions hs none
  rw [h1, h3 rfl]

end StreamRef

end AcVerif.StreamP
