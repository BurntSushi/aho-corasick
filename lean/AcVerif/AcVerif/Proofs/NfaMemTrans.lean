import AcVerif.Proofs.NfaMemStep
/-!
# Writes to the transition lists (`add_transition`)

Every write to `nfa.sparse` is one of two primitives: `setNext` overwrites the `next` of a cell,
`insCell` pushes a cell and links it into a list.  `add_transition` walks to the insertion point and
does one or the other (`addTransition_cases`; no sortedness is needed for that).  The list `insCell`
leaves is `CNfa.insertTrans` of the old one (`insCell_step`), so it is sorted by
`L1cP.sorted_insertTrans`.
-/
namespace AcVerif.MemP
open AcVerif MemNfa
open AcVerif.L1cP (lookup lookup_cons lookup_nil Sorted)

/-! ## overwriting one `next` -/

/-- `self.sparse[c].next = t` -/
def setNext (m : MemNfa) (c t : Nat) : MemNfa := m.setTr c { m.tr c with next := t }

theorem tr_setNext (m : MemNfa) {c : Nat} (hc : c < m.sparse.size) (t j : Nat) :
    (setNext m c t).tr j = if j = c then { m.tr c with next := t } else m.tr j := by
  unfold setNext
  rw [tr_setTr]
  by_cases hj : j = c
  · simp [hj, hc]
  · simp [hj]

theorem link_byte_setNext (m : MemNfa) (c t i : Nat) :
    ((setNext m c t).tr i).link = (m.tr i).link ∧ ((setNext m c t).tr i).byte = (m.tr i).byte := by
  unfold setNext
  rw [tr_setTr]
  split
  · rename_i e; rw [e.1]; exact ⟨rfl, rfl⟩
  · exact ⟨rfl, rfl⟩

theorem tlink_setNext (m : MemNfa) (c t : Nat) : tlink (setNext m c t) = tlink m :=
  funext fun i => (link_byte_setNext m c t i).1

/-! ## splicing a fresh cell into a transition list -/

/-- allocate a cell `(b, t)` with link `ln` and hook it behind `lp` (behind the list head of
`prev` when `lp = 0`): lines 395-397 (`lp = 0`), 415-417 and 452-460 -/
def insCell (m : MemNfa) (prev lp ln : Nat) (b : UInt8) (t : Nat) : MemNfa :=
  let m1 := m.allocTransition.1.setTr m.sparse.size { byte := b, next := t, link := ln }
  if lp = 0 then m1.setSt prev { m1.st prev with sparse := m.sparse.size }
  else m1.setTr lp { m1.tr lp with link := m.sparse.size }

theorem sparse_size_insCell (m : MemNfa) (prev lp ln : Nat) (b : UInt8) (t : Nat) :
    (insCell m prev lp ln b t).sparse.size = m.sparse.size + 1 := by
  unfold insCell; split <;> simp

theorem matches_insCell (m : MemNfa) (prev lp ln : Nat) (b : UInt8) (t : Nat) :
    (insCell m prev lp ln b t).matches_ = m.matches_ := by
  unfold insCell; split <;> simp

theorem states_size_insCell (m : MemNfa) (prev lp ln : Nat) (b : UInt8) (t : Nat) :
    (insCell m prev lp ln b t).states.size = m.states.size := by
  unfold insCell; split <;> simp

theorem tr_insCell (m : MemNfa) (prev : Nat) {lp : Nat} (hlp : lp < m.sparse.size) (ln : Nat)
    (b : UInt8) (t j : Nat) :
    (insCell m prev lp ln b t).tr j =
      if j = m.sparse.size then { byte := b, next := t, link := ln }
      else if j = lp ∧ lp ≠ 0 then { m.tr lp with link := m.sparse.size } else m.tr j := by
  unfold insCell
  by_cases h0 : lp = 0
  · simp only [if_pos h0, tr_setSt, tr_setTr, sparse_size_allocTransition, tr_allocTransition]
    by_cases hj : j = m.sparse.size
    · simp [hj]
    · simp [hj, h0]
  · simp only [if_neg h0, tr_setTr, sparse_size_setTr, sparse_size_allocTransition,
      tr_allocTransition]
    have hne : lp ≠ m.sparse.size := by omega
    by_cases hj : j = m.sparse.size
    · have : ¬ j = lp := by omega
      simp [hj, Ne.symm hne]
    · by_cases hjl : j = lp
      · subst hjl
        have : j < m.sparse.size + 1 := by omega
        simp [hj, h0, this]
      · simp [hj, hjl]

theorem st_insCell (m : MemNfa) {prev : Nat} (hp : prev < m.states.size) (lp ln : Nat)
    (b : UInt8) (t s : Nat) :
    (insCell m prev lp ln b t).st s =
      if s = prev ∧ lp = 0 then { m.st prev with sparse := m.sparse.size } else m.st s := by
  unfold insCell
  by_cases h0 : lp = 0
  · simp only [if_pos h0, st_setSt, st_setTr, st_allocTransition, states_setTr,
      states_allocTransition]
    by_cases hs : s = prev
    · simp [hs, hp, h0]
    · simp [hs]
  · simp [h0]

/-! ### the abstract counterpart: `CNfa.insertTrans` at a position of the list -/

theorem insertTrans_append {b : UInt8} {t : Nat} {l1 : List (UInt8 × Nat)} (l2 : List (UInt8 × Nat))
    (h1 : ∀ x ∈ l1, x.1 < b) :
    CNfa.insertTrans b t (l1 ++ l2) = l1 ++ CNfa.insertTrans b t l2 := by
  induction l1 with
  | nil => rfl
  | cons x r ih =>
    rw [List.cons_append, L1cP.insertTrans_cons_gt t x.2 _ (h1 x List.mem_cons_self),
      ih fun y hy => h1 y (List.mem_cons_of_mem _ hy)]
    rfl

theorem insertTrans_lt {b : UInt8} {t : Nat} {l : List (UInt8 × Nat)}
    (h : ∀ x, l.head? = some x → b < x.1) : CNfa.insertTrans b t l = (b, t) :: l := by
  cases l with
  | nil => rfl
  | cons x r => exact L1cP.insertTrans_cons_lt t x.2 r (h x rfl)

theorem insCell_step {m : MemNfa} {tc mc : Nat → List Nat} (hw : MemOKW m tc mc) {prev : Nat}
    (hp : prev < m.states.size) {pre suf : List Nat} (hsplit : tc prev = pre ++ suf)
    {b : UInt8} (t : Nat) (hpre : ∀ i ∈ pre, (m.tr i).byte < b)
    (hsuf : ∀ j, suf.head? = some j → b < (m.tr j).byte) :
    let m' := insCell m prev (pre.getLast?.getD 0) (suf.headD 0) b t
    MemOKW m' (upd tc prev (pre ++ m.sparse.size :: suf)) mc ∧
    Step m m' prev { absState m prev with trans := CNfa.insertTrans b t (m.iterTrans prev) } := by
  intro m'
  have hltc : ∀ i ∈ pre ++ suf, i < m.sparse.size := hsplit ▸ hw.tlt prev
  have hlp : pre.getLast?.getD 0 < m.sparse.size :=
    getLast?_getD_lt hw.tpos fun i hi => hltc i (List.mem_append_left _ hi)
  have htr := tr_insCell m prev hlp (suf.headD 0) b t
  have hst := st_insCell m hp (pre.getLast?.getD 0) (suf.headD 0) b t
  have hmt : m'.matches_ = m.matches_ := matches_insCell ..
  have hsz : m'.sparse.size = m.sparse.size + 1 := sparse_size_insCell ..
  -- what `iter_trans` yields at an old cell is unchanged
  have hold : ∀ l : List Nat, (∀ i ∈ l, i < m.sparse.size) → l.map (kv m') = l.map (kv m) :=
    fun l hl => List.map_congr_left fun j hj => by
      unfold kv
      rw [htr, if_neg (Nat.ne_of_lt (hl j hj))]
      split
      · rename_i e; rw [e.1]
      · rfl
  -- the new list of `prev` is the sorted insert into the old one
  have hnew : (pre ++ m.sparse.size :: suf).map (kv m') =
      CNfa.insertTrans b t ((tc prev).map (kv m)) := by
    rw [hsplit, List.map_append, List.map_append, List.map_cons,
      show kv m' m.sparse.size = (b, t) by unfold kv; rw [htr, if_pos rfl],
      hold pre fun i hi => hltc i (List.mem_append_left _ hi),
      hold suf fun i hi => hltc i (List.mem_append_right _ hi),
      insertTrans_append _ (fun x hx => by obtain ⟨i, hi, rfl⟩ := List.mem_map.1 hx; exact hpre i hi),
      insertTrans_lt (fun x hx => by
        rw [List.head?_map] at hx
        obtain ⟨j, hj, rfl⟩ := Option.map_eq_some_iff.1 hx; exact hsuf j hj)]
  -- the state heads: only the `sparse` of `prev` may change
  have hhd : ∀ s, (m'.st s).matches_ = (m.st s).matches_ ∧ (m'.st s).fail = (m.st s).fail := by
    intro s; rw [hst]; split
    · rename_i e; rw [e.1]; exact ⟨rfl, rfl⟩
    · exact ⟨rfl, rfl⟩
  have T : Chains (tlink m') (fun s => (m'.st s).sparse) m'.sparse.size
      (upd tc prev (pre ++ m.sparse.size :: suf)) := by
    rw [hsz]
    refine hw.tchains.splice hsplit (Nat.ne_of_gt hw.tpos) (fun j => ?_) (fun s => ?_)
    · show (m'.tr j).link = _
      rw [htr, apply_ite MTrans.link, apply_ite MTrans.link]; rfl
    · show (m'.st s).sparse = _
      rw [hst, apply_ite MState.sparse]
  have M := hw.mchains.congr (lnk' := mlink m') (head' := fun s => (m'.st s).matches_)
    (fun _ i _ => congrArg MMatch.link (mt_of_matches hmt i)) (fun s => (hhd s).1)
    (Nat.le_of_eq (congrArg Array.size hmt).symm)
  have hw' : MemOKW m' (upd tc prev (pre ++ m.sparse.size :: suf)) mc := by
    refine ⟨by omega, hmt ▸ hw.mpos, ?_, (mt_of_matches hmt 0).trans hw.msent, T.chain, T.lt,
      fun s => sorted_cells.2 ?_, T.disj, M.chain, M.lt, M.nodup, M.disj⟩
    · rw [htr, if_neg (Nat.ne_of_lt hw.tpos), if_neg (fun e => e.2 e.1.symm)]
      exact hw.tsent
    · by_cases hs : s = prev
      · rw [hs, upd_self, hnew]
        exact L1cP.sorted_insertTrans (sorted_cells.1 (hw.tsorted prev))
      · rw [upd_ne _ _ hs, hold _ (hw.tlt s)]
        exact sorted_cells.1 (hw.tsorted s)
  have hpid : pidOf m' = pidOf m := funext fun i => congrArg MMatch.pid (mt_of_matches hmt i)
  refine ⟨hw', ⟨_, _, hw'⟩, states_size_insCell .., ?_, fun s hs => ?_, ?_, ?_⟩
  · rw [absState_eq hw', absState_eq hw, upd_self, (hhd prev).2, hpid, hnew, iterTrans_eq hw]
  · rw [absState_eq hw', absState_eq hw, upd_ne _ _ hs, (hhd s).2, hpid, hold _ (hw.tlt s)]
  · show _ = _ + (CNfa.insertTrans b t (m.iterTrans prev)).length
    rw [absState_eq hw, iterTrans_eq hw, ← hnew, hsplit, hsz]
    simp only [List.length_map, List.length_append, List.length_cons]
    omega
  · rw [hmt]

/-! ## `add_transition` -/

theorem getLast?_cons_getD (i : Nat) (pre : List Nat) (d : Nat) :
    (i :: pre).getLast?.getD d = pre.getLast?.getD i := by
  rw [List.getLast?_cons]; rfl

/-- the insertion-point walk (lines 408-413) passes exactly the cells with a smaller byte -/
theorem addTransWalk_spec (m : MemNfa) (b : UInt8) {ln : Nat} {rest : List Nat}
    (hc : IsChain (tlink m) ln rest) {fuel : Nat} (hf : rest.length ≤ fuel) (lp : Nat) :
    ∃ pre suf, rest = pre ++ suf ∧ (∀ i ∈ pre, (m.tr i).byte < b) ∧
      (∀ j, suf.head? = some j → ¬ (m.tr j).byte < b) ∧
      addTransWalk m b fuel lp ln = (pre.getLast?.getD lp, suf.headD 0) := by
  refine hc.walk (motive := fun fuel ln rest => ∀ lp, ∃ pre suf, rest = pre ++ suf ∧
      (∀ i ∈ pre, (m.tr i).byte < b) ∧ (∀ j, suf.head? = some j → ¬ (m.tr j).byte < b) ∧
      addTransWalk m b fuel lp ln = (pre.getLast?.getD lp, suf.headD 0))
    (fun fuel lp => ⟨[], [], rfl, (fun _ hi => nomatch hi), (fun _ hj => nomatch hj),
      by cases fuel <;> simp [addTransWalk]⟩)
    (fun f ln is hi0 _ ih lp => ?_) hf lp
  by_cases hlt : (m.tr ln).byte < b
  · obtain ⟨pre, suf, hsp, hpre, hsuf, hw⟩ := ih ln
    refine ⟨ln :: pre, suf, by rw [hsp]; rfl, ?_, hsuf, ?_⟩
    · intro j hj
      rcases List.mem_cons.1 hj with e | e
      · rw [e]; exact hlt
      · exact hpre j e
    · simp only [addTransWalk]
      rw [if_pos ⟨hi0, hlt⟩, getLast?_cons_getD]
      exact hw
  · refine ⟨[], ln :: is, rfl, (fun _ hi => nomatch hi), ?_, ?_⟩
    · intro j hj
      have : ln = j := by simpa using hj
      subst this; exact hlt
    · simp only [addTransWalk]
      rw [if_neg (fun e => hlt e.2)]
      rfl

theorem addTransWalk_fst_ne_zero (m : MemNfa) (b : UInt8) :
    ∀ (fuel lp ln : Nat), lp ≠ 0 → (addTransWalk m b fuel lp ln).1 ≠ 0
  | 0, _, _, h => h
  | fuel + 1, lp, ln, h => by
    rw [addTransWalk]
    split
    · rename_i hc; exact addTransWalk_fst_ne_zero m b fuel ln _ hc.1
    · exact h

/-- the special treatment of the list head (lines 393-400) is the first round of the walk: the
walk may as well start in front of the first cell -/
theorem addTransition_eq_walk (m : MemNfa) (prev : Nat) (b : UInt8) (t : Nat) {lp ln : Nat}
    (hw : addTransWalk m b (m.sparse.size + 2) 0 (m.st prev).sparse = (lp, ln)) :
    m.addTransition prev b t =
      if ln = 0 ∨ b < (m.tr ln).byte then insCell m prev lp ln b t else setNext m ln t := by
  have hw0 : addTransWalk m b (m.sparse.size + 2) 0 (m.st prev).sparse =
      if (m.st prev).sparse ≠ 0 ∧ (m.tr (m.st prev).sparse).byte < b then
        addTransWalk m b (m.sparse.size + 1) (m.st prev).sparse (m.tr (m.st prev).sparse).link
      else (0, (m.st prev).sparse) := rfl
  rw [hw0] at hw
  unfold addTransition
  simp only
  by_cases h1 : (m.st prev).sparse = 0 ∨ b < (m.tr (m.st prev).sparse).byte
  · have hstop : ¬ ((m.st prev).sparse ≠ 0 ∧ (m.tr (m.st prev).sparse).byte < b) := by
      rintro ⟨h0, hlt⟩
      exact h1.elim h0 fun e => UInt8.lt_irrefl _ (UInt8.lt_trans hlt e)
    rw [if_neg hstop] at hw
    obtain ⟨rfl, rfl⟩ := Prod.mk.inj hw
    rw [if_pos h1, if_pos h1]
    rfl
  · rw [if_neg h1]
    by_cases h2 : b = (m.tr (m.st prev).sparse).byte
    · have hstop : ¬ ((m.st prev).sparse ≠ 0 ∧ (m.tr (m.st prev).sparse).byte < b) := by
        rintro ⟨_, hlt⟩
        rw [← h2] at hlt
        exact UInt8.lt_irrefl _ hlt
      rw [if_neg hstop] at hw
      obtain ⟨rfl, rfl⟩ := Prod.mk.inj hw
      rw [if_pos h2, if_neg h1]
      rfl
    · have hgo : (m.st prev).sparse ≠ 0 ∧ (m.tr (m.st prev).sparse).byte < b := by
        refine ⟨fun e => h1 (Or.inl e), ?_⟩
        rw [UInt8.lt_iff_toNat_lt]
        have : ¬ b.toNat < (m.tr (m.st prev).sparse).byte.toNat := fun e =>
          h1 (Or.inr (UInt8.lt_iff_toNat_lt.2 e))
        have : ¬ b.toNat = (m.tr (m.st prev).sparse).byte.toNat := fun e =>
          h2 (UInt8.toNat_inj.1 e)
        omega
      rw [if_pos hgo] at hw
      have hlp := addTransWalk_fst_ne_zero m b (m.sparse.size + 1) (m.st prev).sparse
        (m.tr (m.st prev).sparse).link hgo.1
      rw [if_neg h2, hw]
      rw [hw] at hlp
      simp only
      split
      · unfold insCell
        rw [if_neg hlp]
        rfl
      · rfl

theorem addTransition_cases {m : MemNfa} {tc mc : Nat → List Nat} (h : MemOKW m tc mc)
    (prev : Nat) (b : UInt8) (t : Nat) :
    ∃ pre suf, tc prev = pre ++ suf ∧ (∀ i ∈ pre, (m.tr i).byte < b) ∧
      (((∀ j, suf.head? = some j → b < (m.tr j).byte) ∧
          m.addTransition prev b t = insCell m prev (pre.getLast?.getD 0) (suf.headD 0) b t) ∨
       (∃ c suf', suf = c :: suf' ∧ (m.tr c).byte = b ∧
          m.addTransition prev b t = setNext m c t)) := by
  obtain ⟨pre, suf, hsp, hpre, hsuf, hw⟩ := addTransWalk_spec m b (h.tchain prev)
    (fuel := m.sparse.size + 2) (Nat.le_trans (h.tlen prev) (by omega)) 0
  refine ⟨pre, suf, hsp, hpre, ?_⟩
  rw [addTransition_eq_walk m prev b t hw]
  cases suf with
  | nil => exact Or.inl ⟨(fun _ hj => nomatch hj), if_pos (Or.inl rfl)⟩
  | cons c suf' =>
    have hc0 : c ≠ 0 := h.tne0 prev c (hsp ▸ List.mem_append_right _ List.mem_cons_self)
    by_cases hlt : b < (m.tr c).byte
    · exact Or.inl ⟨fun j hj => Option.some.inj hj ▸ hlt, if_pos (Or.inr hlt)⟩
    · refine Or.inr ⟨c, suf', rfl, ?_, if_neg fun e => e.elim hc0 hlt⟩
      have := hsuf c rfl
      rw [UInt8.lt_iff_toNat_lt] at this hlt
      exact UInt8.toNat_inj.1 (by omega)

theorem addTransition_step {m : MemNfa} (h : MemOK m) {prev : Nat} (hp : prev < m.states.size)
    (b : UInt8) (t : Nat) :
    Step m (m.addTransition prev b t) prev
      { absState m prev with trans := CNfa.insertTrans b t (m.iterTrans prev) } := by
  obtain ⟨tc, mc, hw⟩ := h
  obtain ⟨pre, suf, hsplit, hpre, hcase⟩ := addTransition_cases hw prev b t
  rcases hcase with ⟨hsuf, heq⟩ | ⟨c, suf', hsuf, hcb, heq⟩
  · -- a fresh cell
    rw [heq]
    exact (insCell_step hw hp hsplit t hpre hsuf).2
  · -- the byte is already there
    rw [iterTrans_eq hw, hsplit, List.map_append, insertTrans_append _ fun x hx => by
      obtain ⟨i, hi, rfl⟩ := List.mem_map.1 hx; exact hpre i hi]
    have hcm : c ∈ tc prev := by
      rw [hsplit, hsuf]; exact List.mem_append_right _ List.mem_cons_self
    have hc : c < m.sparse.size := hw.tlt prev c hcm
    have hnd := hw.tnodup prev
    rw [hsplit, hsuf] at hnd
    have hnd' := List.nodup_append.1 hnd
    obtain ⟨_, hs⟩ := hw.step_next (r := setNext m c t) prev rfl rfl (sparse_size_setTr ..)
      (link_byte_setNext m c t) fun i hi => by
        rw [tr_setNext m hc, if_neg fun (e : i = c) => hi (e ▸ hcm)]
    have hold : ∀ l : List Nat, c ∉ l → l.map (kv (setNext m c t)) = l.map (kv m) := by
      intro l hl
      refine List.map_congr_left fun i hi => ?_
      unfold kv
      rw [tr_setNext m hc, if_neg fun (e : i = c) => hl (e ▸ hi)]
    rw [hsplit, hsuf, List.map_append, List.map_cons,
      hold pre (fun hm => hnd'.2.2 c hm c List.mem_cons_self rfl),
      hold suf' (List.nodup_cons.1 hnd'.2.1).1,
      show kv (setNext m c t) c = (b, t) by unfold kv; rw [tr_setNext m hc, if_pos rfl, ← hcb]] at hs
    rw [heq, hsuf, List.map_cons, show kv m c = (b, (m.tr c).next) by unfold kv; rw [hcb],
      L1cP.insertTrans_cons_self]
    exact hs

end AcVerif.MemP
