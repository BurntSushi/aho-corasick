import AcVerif.Fold
import AcVerif.Proofs.Struct
import AcVerif.Engine.Iter
/-!
# Feeding every input symbol through a map = searching the mapped haystack

The case-insensitive searcher is modelled as the automaton of the folded
patterns whose `next` folds the input byte first (`Aut.comap`).  Searching a
haystack with it is the same as searching the folded haystack with the plain
automaton, for the prefilter-free engine: `tryFindFwd_comap` (one
non-overlapping search), `ovlCalls_comap` (successive overlapping calls from an
arbitrary `OverlappingState`), `findIter_comap` (the iterator).  Everything here
holds for every automaton record `A` and every map `g`; the proofs go through
the structural forms `findS`, `ovlS` of the loops, which recurse on the
remaining haystack.
-/
namespace AcVerif
variable {σ α : Type}

def Input.mapHay (i : Input α) (g : α → α) : Input α :=
  { i with hay := i.hay.map g, valid := by simpa using i.valid }

namespace MiscP
variable (A : Aut σ α) (g : α → α)

@[simp] theorem comap_start (A : Aut σ α) (g : α → α) : (A.comap g).start = A.start := rfl
@[simp] theorem comap_next (A : Aut σ α) (g : α → α) (anch : Bool) (q : σ) (c : α) :
    (A.comap g).next anch q c = A.next anch q (g c) := rfl
@[simp] theorem comap_isSpecial (A : Aut σ α) (g : α → α) :
    (A.comap g).isSpecial = A.isSpecial := rfl
@[simp] theorem comap_isDead (A : Aut σ α) (g : α → α) : (A.comap g).isDead = A.isDead := rfl
@[simp] theorem comap_isMatch (A : Aut σ α) (g : α → α) : (A.comap g).isMatch = A.isMatch := rfl
@[simp] theorem comap_mpats (A : Aut σ α) (g : α → α) : (A.comap g).mpats = A.mpats := rfl
@[simp] theorem comap_kind (A : Aut σ α) (g : α → α) : (A.comap g).kind = A.kind := rfl
@[simp] theorem getMatch_comap (A : Aut σ α) (g : α → α) (sid : σ) (idx at_ : Nat) :
    getMatch (A.comap g) sid idx at_ = getMatch A sid idx at_ := rfl

@[simp] theorem mapHay_hay (i : Input α) (g : α → α) : (i.mapHay g).hay = i.hay.map g := rfl
@[simp] theorem mapHay_s (i : Input α) (g : α → α) : (i.mapHay g).s = i.s := rfl
@[simp] theorem mapHay_e (i : Input α) (g : α → α) : (i.mapHay g).e = i.e := rfl
@[simp] theorem mapHay_anch (i : Input α) (g : α → α) : (i.mapHay g).anch = i.anch := rfl
@[simp] theorem mapHay_earliest (i : Input α) (g : α → α) :
    (i.mapHay g).earliest = i.earliest := rfl
@[simp] theorem mapHay_isDone (i : Input α) (g : α → α) : (i.mapHay g).isDone = i.isDone := rfl

theorem findS_comap (s : Nat) (anch earliest : Bool) (sid : σ)
    (at_ : Nat) (mat : Option Mat) (rest : List α) :
    findS (A.comap g) s anch earliest sid at_ mat rest =
      findS A s anch earliest sid at_ mat (rest.map g) := by
  induction rest generalizing sid at_ mat with
  | nil => rfl
  | cons c rest ih =>
    simp only [List.map_cons, findS, comap_next, comap_isSpecial, comap_isDead, comap_isMatch,
      getMatch_comap, ih]
    rfl

theorem ovlS_comap (s : Nat) (anch : Bool) (sid : σ)
    (at_ : Nat) (rest : List α) :
    ovlS (A.comap g) s anch sid at_ rest = ovlS A s anch sid at_ (rest.map g) := by
  induction rest generalizing sid at_ with
  | nil => rfl
  | cons c rest ih =>
    simp only [List.map_cons, ovlS, comap_next, comap_isSpecial, comap_isDead, comap_isMatch,
      getMatch_comap, ih]
    rfl

theorem drop_take_map (hay : List α) (g : α → α) (e at_ : Nat) :
    ((hay.map g).take e).drop at_ = ((hay.take e).drop at_).map g := by
  simp [List.map_take, List.map_drop]

theorem findLoop_comap (hay : List α) (s e : Nat)
    (he : e ≤ hay.length) (he' : e ≤ (hay.map g).length) (anch earliest : Bool) (sid : σ)
    (at_ : Nat) (mat : Option Mat) :
    findLoop (A.comap g) hay s e he Option.none anch earliest sid at_ mat =
      findLoop A (hay.map g) s e he' Option.none anch earliest sid at_ mat := by
  rw [findLoop_eq_findS, findLoop_eq_findS, drop_take_map, findS_comap]

theorem ovlLoop_comap (hay : List α) (s e : Nat)
    (he : e ≤ hay.length) (he' : e ≤ (hay.map g).length) (anch : Bool) (sid : σ) (at_ : Nat) :
    ovlLoop (A.comap g) hay s e he Option.none anch sid at_ =
      ovlLoop A (hay.map g) s e he' Option.none anch sid at_ := by
  rw [ovlLoop_eq_ovlS, ovlLoop_eq_ovlS, drop_take_map, ovlS_comap]

theorem findImp_comap (i : Input α) (anch earliest : Bool) :
    findImp (A.comap g) i Option.none anch earliest =
      findImp A (i.mapHay g) Option.none anch earliest := by
  simp only [findImp, comap_start, comap_isMatch, getMatch_comap, mapHay_anch, mapHay_s,
    mapHay_e, mapHay_hay]
  cases A.start i.anch with
  | none => rfl
  | some sid =>
    simp only []
    rw [findLoop_comap A g i.hay i.s i.e i.valid.1 (i.mapHay g).valid.1]
    rfl

theorem tryFindFwd_comap (A : Aut σ α) (g : α → α) (i : Input α) :
    tryFindFwd (A.comap g) Option.none i = tryFindFwd A Option.none (i.mapHay g) := by
  simp only [tryFindFwd, mapHay_isDone, mapHay_anch, mapHay_earliest, comap_kind,
    findImp_comap]
  rfl

theorem ovlImp_comap (i : Input α) (st : OState σ) :
    ovlImp (A.comap g) i Option.none st = ovlImp A (i.mapHay g) Option.none st := by
  simp only [ovlImp, comap_start, comap_isMatch, comap_mpats, getMatch_comap, mapHay_anch,
    mapHay_s, mapHay_e, mapHay_hay,
    ovlLoop_comap A g i.hay i.s i.e i.valid.1 (i.mapHay g).valid.1]
  rfl

theorem tryFindOverlappingFwd_comap (i : Input α) (st : OState σ) :
    tryFindOverlappingFwd (A.comap g) Option.none i st =
      tryFindOverlappingFwd A Option.none (i.mapHay g) st := by
  simp only [tryFindOverlappingFwd, comap_kind, mapHay_isDone, mapHay_anch, ovlImp_comap]
  rfl

theorem ovlCalls_comap (i : Input α) (n : Nat) (st : OState σ) :
    ovlCalls (A.comap g) Option.none i n st = ovlCalls A Option.none (i.mapHay g) n st := by
  induction n generalizing st with
  | zero => rfl
  | succ n ih =>
    simp only [ovlCalls, tryFindOverlappingFwd_comap, ih]

theorem ovlIterAux_comap (i : Input α) (n : Nat) (st : OState σ) :
    ovlIterAux (A.comap g) Option.none i n st = ovlIterAux A Option.none (i.mapHay g) n st := by
  rw [ovlIterAux_eq_yielded, ovlIterAux_eq_yielded, ovlCalls_comap]

theorem findAt_comap (i : Input α) :
    findAt (A.comap g) Option.none i = findAt A Option.none (i.mapHay g) := by
  funext start
  unfold findAt
  by_cases h : start ≤ i.e + 1
  · rw [dif_pos h, dif_pos (show start ≤ (i.mapHay g).e + 1 from h), tryFindFwd_comap]; rfl
  · rw [dif_neg h, dif_neg (show ¬ start ≤ (i.mapHay g).e + 1 from h)]

theorem findIter_comap (i : Input α) :
    findIter (A.comap g) Option.none i = findIter A Option.none (i.mapHay g) := by
  simp only [findIter, comap_start, mapHay_anch, mapHay_s, mapHay_e, findAt_comap]
  rfl

theorem map_map_ne_nil (g : α → α) {P : List (List α)} (hne : ∀ p ∈ P, p ≠ []) :
    ∀ p ∈ P.map (List.map g), p ≠ [] := by
  intro p hp
  obtain ⟨q, hq, rfl⟩ := List.mem_map.1 hp
  exact fun h => hne q hq (List.map_eq_nil_iff.1 h)

theorem map_map_lengths (g : α → α) (P : List (List α)) :
    (P.map (List.map g)).map List.length = P.map List.length := by
  rw [List.map_map]
  exact List.map_congr_left fun p _ => List.length_map _

end MiscP
end AcVerif
