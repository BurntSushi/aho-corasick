/-!
# Lists and arrays read with a default

The model reads every table with a default (`a.getD i d`, `l.getD i d`).  Core has a `getElem?`
lemma for every operation (`push`, `set!`, `modify`, `++`, `map`, `replicate`, `range`, `take`,
`drop`, `zipWith`) but for `getD` only `getD_eq_getD_getElem?`; here is the `getD` form of each, one
statement per operation, in the `if` form of its `getElem?` lemma.  Then windows `(l.take e).drop s`,
a prefix of `l.drop s` read at a position, folds of an operation that picks one of its arguments,
`findSome?`, sums of a `map`, `isSome` of a conditional.  Nothing mentions the model: the names stand
in `List`, `Array` and `Option`, where a reader looks for them next to the core lemmas they complete.
-/

namespace Array
variable {α β : Type}

theorem getD_of_size_le (a : Array α) (d : α) {i : Nat} (h : a.size ≤ i) : a.getD i d = d := by
  rw [getD_eq_getD_getElem?, getElem?_eq_none h]; rfl

theorem getElem?_eq_some_getD (a : Array α) {i : Nat} (d : α) (h : i < a.size) :
    a[i]? = some (a.getD i d) := by
  rw [getD_eq_getD_getElem?, getElem?_eq_getElem h]; rfl

theorem getD_congr_default (a : Array α) {i : Nat} (d d' : α) (h : i < a.size) :
    a.getD i d = a.getD i d' := by
  rw [getD_eq_getD_getElem?, getD_eq_getD_getElem?, getElem?_eq_getElem h]; rfl

theorem ext_getD {a b : Array α} (d : α) (hs : a.size = b.size)
    (h : ∀ i, i < a.size → a.getD i d = b.getD i d) : a = b :=
  ext hs fun i h1 h2 => by
    have := h i h1
    rwa [getD_eq_getD_getElem?, getD_eq_getD_getElem?, getElem?_eq_getElem h1,
      getElem?_eq_getElem h2] at this

theorem getD_push (a : Array α) (x d : α) (j : Nat) :
    (a.push x).getD j d = if j = a.size then x else a.getD j d := by
  rw [getD_eq_getD_getElem?, getD_eq_getD_getElem?, getElem?_push]; split <;> rfl

theorem getD_push_size (a : Array α) (x d : α) : (a.push x).getD a.size d = x := by
  rw [getD_push, if_pos rfl]

theorem getD_push_ne (a : Array α) (x d : α) {j : Nat} (h : j ≠ a.size) :
    (a.push x).getD j d = a.getD j d := by rw [getD_push, if_neg h]

theorem getD_setIfInBounds (a : Array α) (i : Nat) (x d : α) (j : Nat) :
    (a.setIfInBounds i x).getD j d = if i = j ∧ j < a.size then x else a.getD j d := by
  rw [getD_eq_getD_getElem?, getD_eq_getD_getElem?, getElem?_setIfInBounds]
  by_cases h : i = j
  · subst h
    by_cases hs : i < a.size
    · rw [if_pos rfl, if_pos hs, if_pos ⟨rfl, hs⟩]; rfl
    · rw [if_pos rfl, if_neg hs, if_neg (fun h => hs h.2), getElem?_eq_none (Nat.le_of_not_lt hs)]
  · rw [if_neg h, if_neg (fun hh => h hh.1)]

theorem getD_set! (a : Array α) (i : Nat) (x d : α) (j : Nat) :
    (a.set! i x).getD j d = if i = j ∧ j < a.size then x else a.getD j d :=
  getD_setIfInBounds a i x d j

theorem setIfInBounds_getD_self (a : Array α) (i : Nat) (d : α) :
    a.setIfInBounds i (a.getD i d) = a := by
  apply ext_getD d size_setIfInBounds
  intro j _
  rw [getD_setIfInBounds]
  split
  · rename_i h; rw [h.1]
  · rfl

theorem setIfInBounds_push_size (a : Array α) (x y : α) :
    (a.push x).setIfInBounds a.size y = a.push y := by
  apply ext_getD x (by rw [size_setIfInBounds, size_push, size_push])
  intro i _
  rw [getD_setIfInBounds, getD_push, getD_push, size_push]
  by_cases h : i = a.size
  · rw [if_pos h, if_pos h, if_pos ⟨h.symm, by omega⟩]
  · rw [if_neg h, if_neg h, if_neg (fun hh => h hh.1.symm)]

theorem getD_modify (a : Array α) (i j : Nat) (f : α → α) (d : α) :
    (a.modify i f).getD j d = if i = j ∧ j < a.size then f (a.getD j d) else a.getD j d := by
  rw [getD_eq_getD_getElem?, getD_eq_getD_getElem?, getElem?_modify]
  by_cases h : i = j
  · subst h
    by_cases hs : i < a.size
    · rw [if_pos rfl, if_pos ⟨rfl, hs⟩, getElem?_eq_getElem hs]; rfl
    · rw [if_pos rfl, if_neg (fun h => hs h.2), getElem?_eq_none (Nat.le_of_not_lt hs)]; rfl
  · rw [if_neg h, if_neg (fun hh => h hh.1)]

theorem getD_modify_ne (a : Array α) {i j : Nat} (f : α → α) (d : α) (h : i ≠ j) :
    (a.modify i f).getD j d = a.getD j d := by rw [getD_modify, if_neg (fun hh => h hh.1)]

theorem getD_modify_self (a : Array α) {i : Nat} (f : α → α) (d : α) (h : i < a.size) :
    (a.modify i f).getD i d = f (a.getD i d) := by rw [getD_modify, if_pos ⟨rfl, h⟩]

theorem getD_modify_of_lt (a : Array α) {i : Nat} (hi : i < a.size) (f : α → α) (d : α) (j : Nat) :
    (a.modify i f).getD j d = if j = i then f (a.getD i d) else a.getD j d := by
  by_cases h : j = i
  · rw [if_pos h, h, getD_modify_self _ _ _ hi]
  · rw [if_neg h, getD_modify_ne _ _ _ (Ne.symm h)]

theorem getD_append_left (a b : Array α) {i : Nat} (d : α) (h : i < a.size) :
    (a ++ b).getD i d = a.getD i d := by
  rw [getD_eq_getD_getElem?, getD_eq_getD_getElem?, getElem?_append_left h]

theorem getD_append_right (a b : Array α) (j : Nat) (d : α) :
    (a ++ b).getD (a.size + j) d = b.getD j d := by
  rw [getD_eq_getD_getElem?, getD_eq_getD_getElem?, getElem?_append_right (Nat.le_add_right _ _),
    Nat.add_sub_cancel_left]

theorem getD_map (f : α → β) (a : Array α) (i : Nat) (d : α) :
    (a.map f).getD i (f d) = f (a.getD i d) := by
  rw [getD_eq_getD_getElem?, getD_eq_getD_getElem?, getElem?_map]; cases a[i]? <;> rfl

theorem getD_map_of_fix (a : Array α) (f : α → α) (d : α) (i : Nat) (hf : f d = d) :
    (a.map f).getD i d = f (a.getD i d) := by
  have := getD_map f a i d
  rwa [hf] at this

theorem getD_map_of_lt (a : Array α) (f : α → β) {i : Nat} (d : β) (d' : α) (h : i < a.size) :
    (a.map f).getD i d = f (a.getD i d') := by
  rw [getD_congr_default _ d (f d') (by rw [size_map]; exact h), getD_map]

theorem getD_replicate (n : Nat) (v : α) {i : Nat} (d : α) (h : i < n) :
    (Array.replicate n v).getD i d = v := by
  rw [getD_eq_getD_getElem?, getElem?_replicate, if_pos h]; rfl

theorem getD_range {n i : Nat} (d : Nat) (h : i < n) : (Array.range n).getD i d = i := by
  rw [getD_eq_getD_getElem?, getElem?_range, if_pos h]; rfl

theorem getD_map_range (n : Nat) (f : Nat → α) (i : Nat) (d : α) (h : i < n) :
    ((Array.range n).map f).getD i d = f i := by
  rw [getD_map_of_lt _ f d 0 (by rw [size_range]; exact h), getD_range 0 h]

theorem getD_map_range_ge (n : Nat) (f : Nat → α) (i : Nat) (d : α) (h : n ≤ i) :
    ((Array.range n).map f).getD i d = d :=
  getD_of_size_le _ d (by rw [size_map, size_range]; exact h)

theorem getD_toArray (l : List α) (i : Nat) (d : α) : l.toArray.getD i d = l.getD i d := by
  rw [getD_eq_getD_getElem?, List.getElem?_toArray, List.getD_eq_getElem?_getD]

theorem toList_eq_map_getD (a : Array α) (d : α) :
    a.toList = (List.range a.size).map fun i => a.getD i d := by
  apply List.ext_getElem
  · rw [length_toList, List.length_map, List.length_range]
  · intro i h _
    rw [List.getElem_map, List.getElem_range, getElem_toList, getElem_eq_getD d]

end Array

namespace List
variable {α β γ : Type}

theorem getD_of_lt (l : List α) (j : Nat) (d : α) (h : j < l.length) : l.getD j d = l[j] :=
  (getElem_eq_getD d).symm

theorem getD_mem (l : List α) (i : Nat) (d : α) (h : i < l.length) : l.getD i d ∈ l := by
  rw [getD_of_lt _ _ _ h]; exact getElem_mem h

theorem getD_append_left (l₁ l₂ : List α) {i : Nat} (d : α) (h : i < l₁.length) :
    (l₁ ++ l₂).getD i d = l₁.getD i d := by
  rw [getD_eq_getElem?_getD, getD_eq_getElem?_getD, getElem?_append_left h]

theorem getD_append_right (l₁ l₂ : List α) (j : Nat) (d : α) :
    (l₁ ++ l₂).getD (l₁.length + j) d = l₂.getD j d := by
  rw [getD_eq_getElem?_getD, getD_eq_getElem?_getD, getElem?_append_right (Nat.le_add_right _ _),
    Nat.add_sub_cancel_left]

theorem getD_drop (l : List α) (n k : Nat) (d : α) : (l.drop n).getD k d = l.getD (n + k) d := by
  rw [getD_eq_getElem?_getD, getD_eq_getElem?_getD, getElem?_drop]

theorem getD_take_of_lt (l : List α) (w k : Nat) (d : α) (h : k < w) :
    (l.take w).getD k d = l.getD k d := by
  rw [getD_eq_getElem?_getD, getD_eq_getElem?_getD, getElem?_take_of_lt h]

theorem getD_replicate (n j : Nat) (a d : α) (h : j < n) : (replicate n a).getD j d = a := by
  rw [getD_eq_getElem?_getD, getElem?_replicate, if_pos h]; rfl

theorem getD_map (f : α → β) (l : List α) (j : Nat) (d : α) (d' : β) (h : j < l.length) :
    (l.map f).getD j d' = f (l.getD j d) := by
  rw [getD_of_lt _ _ _ (by rw [length_map]; exact h), getD_of_lt _ _ _ h, getElem_map]

theorem getD_zipWith (f : α → β → γ) (a : List α) (b : List β) (j : Nat) (da : α) (db : β) (d : γ)
    (ha : j < a.length) (hb : j < b.length) :
    (zipWith f a b).getD j d = f (a.getD j da) (b.getD j db) := by
  rw [getD_of_lt _ _ _ (by rw [length_zipWith]; omega), getD_of_lt _ _ _ ha, getD_of_lt _ _ _ hb,
    getElem_zipWith]

theorem getD_map_range (f : Nat → α) (k i : Nat) (d : α) (h : i < k) :
    ((range k).map f).getD i d = f i := by
  rw [getD_eq_getElem?_getD, getElem?_map, getElem?_range h]; rfl

theorem getD_map_range_ge (f : Nat → α) (k i : Nat) (d : α) (h : k ≤ i) :
    ((range k).map f).getD i d = d := by
  rw [getD_eq_getElem?_getD, getElem?_eq_none (by rw [length_map, length_range]; exact h)]; rfl

theorem getD_modify (l : List α) (i j : Nat) (f : α → α) (d : α) :
    (l.modify i f).getD j d = if i = j ∧ j < l.length then f (l.getD j d) else l.getD j d := by
  rw [getD_eq_getElem?_getD, getD_eq_getElem?_getD, getElem?_modify]
  rcases Nat.lt_or_ge j l.length with h | h
  · rw [getElem?_eq_getElem h]
    by_cases hij : i = j
    · rw [if_pos ⟨hij, h⟩]; simp [hij]
    · rw [if_neg (fun hh => hij hh.1)]; simp [hij]
  · rw [getElem?_eq_none h, if_neg (fun hh => Nat.not_lt.2 h hh.2)]; rfl

theorem length_getD_map_map (g : α → β) (P : List (List α)) (pid : Nat) :
    ((P.map (List.map g)).getD pid []).length = (P.getD pid []).length := by
  rw [getD_eq_getElem?_getD, getD_eq_getElem?_getD, getElem?_map]
  cases P[pid]? <;> simp

theorem map_range_getD (F : α → β) (l : List α) (d : α) :
    (range l.length).map (fun i => F (l.getD i d)) = l.map F := by
  apply ext_getElem
  · rw [length_map, length_range, length_map]
  · intro i h1 h2
    rw [getElem_map, getElem_map, getElem_range, getD_of_lt]

theorem zipWith_eq_map_range (f : α → β → γ) (a : List α) (b : List β) (n : Nat)
    (ha : a.length = n) (hb : b.length = n) (da : α) (db : β) :
    zipWith f a b = (range n).map fun j => f (a.getD j da) (b.getD j db) := by
  apply ext_getElem
  · rw [length_zipWith, ha, hb, Nat.min_self, length_map, length_range]
  · intro j h1 h2
    rw [getElem_zipWith, getElem_map, getElem_range, getD_of_lt, getD_of_lt]

/-! ## windows `(l.take e).drop s` and prefixes read at a position -/

theorem length_drop_take {l : List α} {s e : Nat} (he : e ≤ l.length) :
    ((l.take e).drop s).length = e - s := by
  rw [length_drop, length_take, Nat.min_eq_left he]

theorem drop_take_cons {l : List α} {s e : Nat} (h : s < e) (he : e ≤ l.length) :
    (l.take e).drop s = l[s]'(Nat.lt_of_lt_of_le h he) :: (l.take e).drop (s + 1) := by
  rw [drop_eq_getElem_cons (by rw [length_take]; omega), getElem_take]

theorem drop_take_nil {l : List α} {s e : Nat} (h : ¬ s < e) : (l.take e).drop s = [] :=
  drop_eq_nil_of_le (by rw [length_take]; omega)

theorem drop_take_append_drop (l : List α) {a b : Nat} (h : a ≤ b) :
    (l.take b).drop a ++ l.drop b = l.drop a := by
  rw [drop_take, show l.drop b = (l.drop a).drop (b - a) by rw [drop_drop]; congr 1; omega,
    take_append_drop]

theorem take_drop_take (l : List α) (m s n : Nat) (h : s + n ≤ m) :
    ((l.take m).drop s).take n = (l.drop s).take n := by
  rw [drop_take, take_take, Nat.min_eq_left (by omega)]

theorem IsPrefix.getElem?_drop {p l : List α} {s j : Nat} {b : α} (h : p <+: l.drop s)
    (hj : p[j]? = some b) : l[s + j]? = some b := by
  obtain ⟨t, ht⟩ := h
  rw [← List.getElem?_drop, ← ht, getElem?_append_left (getElem?_eq_some_iff.1 hj).1]
  exact hj

theorem IsPrefix.getElem_drop {p l : List α} {s j : Nat} (h : p <+: l.drop s) (hj : j < p.length)
    (hl : s + j < l.length) : l[s + j] = p[j] :=
  Option.some.inj ((getElem?_eq_getElem hl).symm.trans (h.getElem?_drop (getElem?_eq_getElem hj)))

theorem IsPrefix.getD_drop {p l : List α} {s j : Nat} (h : p <+: l.drop s) (hj : j < p.length)
    (d : α) : p.getD j d = l.getD (s + j) d := by
  rw [getD_eq_getElem?_getD, getD_eq_getElem?_getD, h.getElem?_drop (getElem?_eq_getElem hj),
    getElem?_eq_getElem hj]

theorem IsPrefix.take_eq {p l : List α} (h : p <+: l) {k : Nat} (hk : k ≤ p.length) :
    p.take k = l.take k := by
  obtain ⟨t, rfl⟩ := h
  rw [take_append_of_le_length hk]

/-! ## folds -/

theorem foldl_pick_mem {f : α → α → α} (hf : ∀ a b, f a b = a ∨ f a b = b) (l : List α) (a : α) :
    l.foldl f a = a ∨ l.foldl f a ∈ l := by
  induction l generalizing a with
  | nil => exact Or.inl rfl
  | cons y l ih =>
    rw [foldl_cons]
    rcases ih (f a y) with h | h
    · rw [h]; exact (hf a y).imp_right fun e => by rw [e]; exact mem_cons_self
    · exact Or.inr (mem_cons_of_mem _ h)

theorem foldl_below {R : α → α → Prop} (refl : ∀ a, R a a)
    (trans : ∀ {a b c}, R a b → R b c → R a c) {f : α → α → α} (hl : ∀ a b, R (f a b) a)
    (hr : ∀ a b, R (f a b) b) (l : List α) (a : α) :
    R (l.foldl f a) a ∧ ∀ x ∈ l, R (l.foldl f a) x := by
  induction l generalizing a with
  | nil => exact ⟨refl a, fun x hx => nomatch hx⟩
  | cons y l ih =>
    obtain ⟨h1, h2⟩ := ih (f a y)
    refine ⟨trans h1 (hl a y), fun x hx => ?_⟩
    rcases mem_cons.mp hx with rfl | hx
    · exact trans h1 (hr a x)
    · exact h2 x hx

theorem foldl_pair {ι : Type} (F : α × β → ι → α × β) (f : α → ι → α) (g : β → ι → β)
    (h : ∀ a b x, F (a, b) x = (f a x, g b x)) (l : List ι) (a : α) (b : β) :
    l.foldl F (a, b) = (l.foldl f a, l.foldl g b) := by
  induction l generalizing a b with
  | nil => rfl
  | cons x l ih => rw [foldl_cons, h, ih]; rfl

/-! ## `findSome?`, `takeWhile` -/

theorem findSome?_congr (f g : α → Option β) (l : List α) (h : ∀ x ∈ l, f x = g x) :
    l.findSome? f = l.findSome? g := by
  induction l with
  | nil => rfl
  | cons y ys ih =>
    rw [findSome?_cons, findSome?_cons, h y mem_cons_self, ih fun x hx => h x (mem_cons_of_mem _ hx)]

theorem findSome?_filter (f : α → Option β) (q : α → Bool) (l : List α) :
    (l.filter q).findSome? f = l.findSome? (fun x => if q x then f x else none) := by
  induction l with
  | nil => rfl
  | cons y ys ih =>
    rw [filter_cons]
    cases hq : q y with
    | true => simp only [if_true, findSome?_cons, hq, ih]
    | false => simp [hq, ih]

theorem takeWhile_eq_self {p : α → Bool} {l : List α} (h : ∀ x ∈ l, p x = true) :
    l.takeWhile p = l := by
  rw [← append_nil l, takeWhile_append_of_pos h, takeWhile_nil]

theorem Pairwise.takeWhile_eq_filter {R : α → α → Prop} {p : α → Bool} {l : List α}
    (hl : l.Pairwise R) (hR : ∀ a b, R a b → p b = true → p a = true) :
    l.takeWhile p = l.filter p := by
  induction l with
  | nil => rfl
  | cons a l ih =>
    rw [pairwise_cons] at hl
    by_cases ha : p a = true
    · rw [takeWhile_cons_of_pos ha, filter_cons_of_pos ha, ih hl.2]
    · rw [takeWhile_cons_of_neg ha, filter_cons_of_neg ha]
      symm
      rw [filter_eq_nil_iff]
      intro b hb hpb
      exact ha (hR a b (hl.1 b hb) hpb)

/-! ## sums -/

theorem sum_map_add (l : List α) (g h : α → Nat) :
    (l.map fun a => g a + h a).sum = (l.map g).sum + (l.map h).sum := by
  induction l with
  | nil => rfl
  | cons a l ih => simp only [map_cons, sum_cons, ih]; omega

theorem sum_map_modify (g : α → Nat) (f : α → α) :
    ∀ (l : List α) (i : Nat) (a : α), l[i]? = some a →
      ((l.modify i f).map g).sum + g a = (l.map g).sum + g (f a)
  | [], _, _, h => by simp at h
  | x :: l, 0, a, h => by
    obtain rfl : x = a := by simpa using h
    simp only [modify_zero_cons, map_cons, sum_cons]; omega
  | x :: l, i + 1, a, h => by
    have := sum_map_modify g f l i a (by simpa using h)
    simp only [modify_succ_cons, map_cons, sum_cons]; omega

theorem le_sum_map (g : α → Nat) {l : List α} {a : α} (h : a ∈ l) : g a ≤ (l.map g).sum := by
  induction l with
  | nil => cases h
  | cons x l ih =>
    rw [map_cons, sum_cons]
    rcases mem_cons.1 h with rfl | h
    · exact Nat.le_add_right _ _
    · exact Nat.le_trans (ih h) (Nat.le_add_left _ _)

theorem not_isEmpty_eq_true {l : List α} : (!l.isEmpty) = true ↔ l ≠ [] := by cases l <;> simp

theorem reverse_induction {motive : List α → Prop} (nil : motive [])
    (snoc : ∀ l a, motive l → motive (l ++ [a])) (l : List α) : motive l := by
  rw [← reverse_reverse l]
  induction l.reverse with
  | nil => exact nil
  | cons a t ih => rw [reverse_cons]; exact snoc _ a ih

end List

namespace Option

theorem isSome_ite_some {β : Type} (c : Prop) [Decidable c] (x : β) (r : Option β) :
    (if c then some x else r).isSome = true ↔ c ∨ r.isSome = true := by
  by_cases h : c <;> simp [h]

end Option
