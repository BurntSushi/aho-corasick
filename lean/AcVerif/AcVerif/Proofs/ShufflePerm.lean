import AcVerif.Proofs.ShuffleDefs
import AcVerif.Proofs.DfaBase
/-!
# The shuffle is a permutation with the expected layout

`shuffleOrder` is a fold of swaps over `Array.range n.size` followed by two more swaps.  A swap
composes the array with a transposition of indices (`swp_getD`, `tr`), so it keeps `Perm`
(`perm_swp`); `Inv` is the loop invariant, `FinOK` what holds of `(cOrder n, cNa n)` after the two
final swaps, and `shufOK` turns that into `ShufOK n`, the statement about the inverse table
`cPos n`.
-/
namespace AcVerif.L1eP
open AcVerif AcVerif.CNfa

/-- the `swap` closure of `shuffleOrder` -/
def swp (o : Array Nat) (i j : Nat) : Array Nat := (o.set! i (o.getD j 0)).set! j (o.getD i 0)

theorem swp_size (o : Array Nat) (i j : Nat) : (swp o i j).size = o.size := by
  simp [swp, Array.set!]

/-- the transposition of `i` and `j` -/
def tr (i j k : Nat) : Nat := if k = j then i else if k = i then j else k

theorem tr_right (i j : Nat) : tr i j j = i := if_pos rfl

theorem tr_left (i j : Nat) : tr i j i = j := by
  unfold tr
  by_cases h : i = j
  · rw [if_pos h]; exact h
  · rw [if_neg h, if_pos rfl]

theorem tr_other {i j k : Nat} (hi : k ≠ i) (hj : k ≠ j) : tr i j k = k := by
  unfold tr
  rw [if_neg hj, if_neg hi]

theorem tr_tr (i j k : Nat) : tr i j (tr i j k) = k := by
  by_cases hj : k = j
  · rw [hj, tr_right, tr_left]
  · by_cases hi : k = i
    · rw [hi, tr_left, tr_right]
    · rw [tr_other hi hj, tr_other hi hj]

theorem tr_lt {i j k sz : Nat} (hi : i < sz) (hj : j < sz) (hk : k < sz) : tr i j k < sz := by
  unfold tr
  split
  · exact hi
  · split
    · exact hj
    · exact hk

theorem swp_getD (o : Array Nat) {i j : Nat} (hi : i < o.size) (hj : j < o.size) (k : Nat) :
    (swp o i j).getD k 0 = o.getD (tr i j k) 0 := by
  unfold swp tr
  rw [Array.getD_set!, Array.getD_set!]
  by_cases h1 : k = j
  · rw [if_pos h1, if_pos ⟨h1.symm, by simpa [h1, Array.set!] using hj⟩]
  · rw [if_neg h1, if_neg (fun h => h1 h.1.symm)]
    by_cases h2 : k = i
    · rw [if_pos h2, if_pos ⟨h2.symm, h2 ▸ hi⟩]
    · rw [if_neg h2, if_neg (fun h => h2 h.1.symm)]

/-- `o` is a bijection of `0 .. sz-1` -/
structure Perm (o : Array Nat) (sz : Nat) : Prop where
  size : o.size = sz
  lt : ∀ j, j < sz → o.getD j 0 < sz
  inj : ∀ j k, j < sz → k < sz → o.getD j 0 = o.getD k 0 → j = k
  surj : ∀ s, s < sz → ∃ j, j < sz ∧ o.getD j 0 = s

theorem perm_range (m : Nat) : Perm (Array.range m) m where
  size := by simp
  lt := fun j hj => by rw [Array.getD_range 0 hj]; exact hj
  inj := fun j k hj hk h => by rwa [Array.getD_range 0 hj, Array.getD_range 0 hk] at h
  surj := fun s hs => ⟨s, hs, Array.getD_range 0 hs⟩

theorem perm_swp {o : Array Nat} {sz : Nat} (hp : Perm o sz) (i j : Nat) (hi : i < sz) (hj : j < sz) :
    Perm (swp o i j) sz := by
  have hget := swp_getD o (hp.size ▸ hi) (hp.size ▸ hj)
  refine ⟨by rw [swp_size]; exact hp.size, ?_, ?_, ?_⟩
  · intro k hk
    rw [hget]
    exact hp.lt _ (tr_lt hi hj hk)
  · intro a b ha hb hab
    rw [hget, hget] at hab
    have := congrArg (tr i j) (hp.inj _ _ (tr_lt hi hj ha) (tr_lt hi hj hb) hab)
    rwa [tr_tr, tr_tr] at this
  · intro s hs
    obtain ⟨k, hk, e⟩ := hp.surj s hs
    exact ⟨tr i j k, tr_lt hi hj hk, by rw [hget, tr_tr]; exact e⟩

/-! ## the main loop -/

def stepF (n : CNfa) (acc : Array Nat × Nat) (i : Nat) : Array Nat × Nat :=
  if i < 4 then acc
  else if CNfa.isMatch n (acc.1.getD i 0) then (swp acc.1 i acc.2, acc.2 + 1) else acc

def loopF (n : CNfa) (k : Nat) : Array Nat × Nat :=
  (List.range k).foldl (stepF n) (Array.range n.size, 4)

theorem shuffleOrder_eq (n : CNfa) :
    shuffleOrder n = (swp (swp (loopF n n.size).1 3 ((loopF n n.size).2 - 1)) 2
      ((loopF n n.size).2 - 2), (loopF n n.size).2) := rfl

theorem loopF_succ (n : CNfa) (k : Nat) : loopF n (k + 1) = stepF n (loopF n k) k := by
  unfold loopF
  rw [List.range_succ, List.foldl_append]
  rfl

structure Inv (n : CNfa) (i : Nat) (o : Array Nat) (na : Nat) : Prop where
  perm : Perm o n.size
  na_ge : 4 ≤ na
  na_le : na ≤ i ∨ na = 4
  low : ∀ j, j < 4 → o.getD j 0 = j
  high : ∀ j, i ≤ j → j < n.size → o.getD j 0 = j
  mat : ∀ j, 4 ≤ j → j < na → CNfa.isMatch n (o.getD j 0) = true
  nomat : ∀ j, na ≤ j → j < i → CNfa.isMatch n (o.getD j 0) = false

theorem inv_zero (n : CNfa) (h4 : 4 ≤ n.size) : Inv n 0 (Array.range n.size) 4 where
  perm := perm_range _
  na_ge := Nat.le_refl _
  na_le := Or.inr rfl
  low := fun j hj => Array.getD_range 0 (by omega)
  high := fun j _ hj => Array.getD_range 0 hj
  mat := fun j h1 h2 => by omega
  nomat := fun j h1 h2 => by omega

theorem inv_step (n : CNfa) (i : Nat) (o : Array Nat) (na : Nat) (hi : i < n.size)
    (h : Inv n i o na) : Inv n (i + 1) (stepF n (o, na) i).1 (stepF n (o, na) i).2 := by
  unfold stepF
  by_cases h4 : i < 4
  · rw [if_pos h4]
    have hna : na = 4 := by
      rcases h.na_le with h1 | h1
      · have := h.na_ge; omega
      · exact h1
    exact ⟨h.perm, h.na_ge, Or.inr hna, h.low, fun j hj hs => h.high j (Nat.le_of_succ_le hj) hs, h.mat,
      fun j h1 h2 => by omega⟩
  · rw [if_neg h4]
    have hoi : o.getD i 0 = i := h.high i (Nat.le_refl _) hi
    simp only [hoi]
    have hge := h.na_ge
    have hnai : na ≤ i := by rcases h.na_le with h1 | h1 <;> omega
    by_cases hm : CNfa.isMatch n i = true
    · rw [if_pos hm]
      have hsz := h.perm.size
      have hget := swp_getD o (i := i) (j := na) (by omega) (by omega)
      refine ⟨perm_swp h.perm i na hi (by omega), by simp only; omega, Or.inl (by simp only; omega),
        ?_, ?_, ?_, ?_⟩
      · intro j hj
        simp only
        rw [hget, tr_other (Nat.ne_of_lt (Nat.lt_of_lt_of_le hj (Nat.le_of_not_lt h4)))
          (Nat.ne_of_lt (Nat.lt_of_lt_of_le hj hge))]
        exact h.low j hj
      · intro j hj hs
        simp only
        rw [hget, tr_other (Nat.ne_of_gt hj) (Nat.ne_of_gt (Nat.lt_of_le_of_lt hnai hj))]
        exact h.high j (Nat.le_of_succ_le hj) hs
      · intro j h1 h2
        simp only at h2 ⊢
        rw [hget]
        by_cases hj : j = na
        · rw [hj, tr_right, hoi]; exact hm
        · rw [tr_other (by omega) hj]
          exact h.mat j h1 (by omega)
      · intro j h1 h2
        simp only at h1 h2 ⊢
        rw [hget]
        by_cases hj : j = i
        · rw [hj, tr_left]
          exact h.nomat na (Nat.le_refl _) (hj ▸ h1)
        · rw [tr_other hj (Nat.ne_of_gt h1)]
          exact h.nomat j (Nat.le_of_succ_le h1) (Nat.lt_of_le_of_ne (Nat.le_of_lt_succ h2) hj)
    · rw [if_neg hm]
      refine ⟨h.perm, h.na_ge, Or.inl (by simp only; omega), h.low,
        fun j hj hs => h.high j (Nat.le_of_succ_le hj) hs, h.mat, ?_⟩
      intro j h1 h2
      simp only at h1 h2 ⊢
      by_cases hj : j = i
      · subst hj
        rw [hoi]; simpa using hm
      · exact h.nomat j h1 (Nat.lt_of_le_of_ne (Nat.le_of_lt_succ h2) hj)

theorem inv_loop (n : CNfa) (h4 : 4 ≤ n.size) :
    ∀ k, k ≤ n.size → Inv n k (loopF n k).1 (loopF n k).2 := by
  intro k
  induction k with
  | zero => intro _; exact inv_zero n h4
  | succ k ih =>
    intro hk
    rw [loopF_succ]
    exact inv_step n k _ _ (by omega) (ih (by omega))

/-! ## the two final swaps -/

structure FinOK (n : CNfa) (ord : Array Nat) (na : Nat) : Prop where
  perm : Perm ord n.size
  na_ge : 4 ≤ na
  na_le : na ≤ n.size
  v0 : ord.getD 0 0 = 0
  v1 : ord.getD 1 0 = 1
  vSU : ord.getD (na - 2) 0 = 2
  vSA : ord.getD (na - 1) 0 = 3
  mat : ∀ j, 2 ≤ j → j + 3 ≤ na → CNfa.isMatch n (ord.getD j 0) = true
  nomat : ∀ j, na ≤ j → j < n.size → CNfa.isMatch n (ord.getD j 0) = false

/-! The two final swaps `3 ↔ na - 1`, `2 ↔ na - 2` with `na = m + 4`; they overlap when `m ≤ 1`. -/

theorem tr2_out {m k : Nat} (hk : k < 2 ∨ m + 4 ≤ k) : tr 3 (m + 3) (tr 2 (m + 2) k) = k := by
  rw [tr_other (k := k) (by omega) (by omega), tr_other (by omega) (by omega)]

theorem tr2_SU (m : Nat) : tr 3 (m + 3) (tr 2 (m + 2) (m + 2)) = 2 := by
  rw [tr_right, tr_other (by omega) (by omega)]

theorem tr2_SA (m : Nat) : tr 3 (m + 3) (tr 2 (m + 2) (m + 3)) = 3 := by
  rw [tr_other (k := m + 3) (by omega) (by omega), tr_right]

theorem tr2_mid {m k : Nat} (h1 : 2 ≤ k) (h2 : k ≤ m + 1) :
    4 ≤ tr 3 (m + 3) (tr 2 (m + 2) k) ∧ tr 3 (m + 3) (tr 2 (m + 2) k) < m + 4 := by
  by_cases hk2 : k = 2
  · rw [hk2, tr_left]
    by_cases hm : m = 1
    · rw [hm, tr_left]; omega
    · rw [tr_other (by omega) (by omega)]; omega
  · rw [tr_other hk2 (by omega)]
    by_cases hk3 : k = 3
    · rw [hk3, tr_left]; omega
    · rw [tr_other hk3 (by omega)]; omega

theorem finOK_of_inv (n : CNfa) (h4 : 4 ≤ n.size) (o : Array Nat) (na : Nat)
    (h : Inv n n.size o na) : FinOK n (swp (swp o 3 (na - 1)) 2 (na - 2)) na := by
  obtain ⟨m, rfl⟩ : ∃ m, na = m + 4 := ⟨na - 4, by have := h.na_ge; omega⟩
  show FinOK n (swp (swp o 3 (m + 3)) 2 (m + 2)) (m + 4)
  have hle : m + 4 ≤ n.size := by rcases h.na_le with h1 | h1 <;> omega
  have b3 : m + 3 < n.size := hle
  have b2 : m + 2 < n.size := Nat.lt_of_succ_lt b3
  have h2 : 2 < n.size := Nat.lt_of_succ_lt h4
  have p1 := perm_swp h.perm 3 (m + 3) h4 b3
  have p2 := perm_swp p1 2 (m + 2) h2 b2
  have hget : ∀ k, (swp (swp o 3 (m + 3)) 2 (m + 2)).getD k 0 = o.getD (tr 3 (m + 3) (tr 2 (m + 2) k)) 0 :=
    fun k => by rw [swp_getD _ (p1.size ▸ h2) (p1.size ▸ b2), swp_getD _ (h.perm.size ▸ h4) (h.perm.size ▸ b3)]
  refine ⟨p2, h.na_ge, hle, ?_, ?_, ?_, ?_, ?_, ?_⟩
  · rw [hget, tr2_out (Or.inl (by decide))]
    exact h.low 0 (by decide)
  · rw [hget, tr2_out (Or.inl (by decide))]
    exact h.low 1 (by decide)
  · exact (hget (m + 2)).trans ((congrArg (o.getD · 0) (tr2_SU m)).trans (h.low 2 (by decide)))
  · exact (hget (m + 3)).trans ((congrArg (o.getD · 0) (tr2_SA m)).trans (h.low 3 (by decide)))
  · intro j h1 h2
    obtain ⟨a, b⟩ := tr2_mid h1 (Nat.le_of_add_le_add_right h2)
    rw [hget]
    exact h.mat _ a b
  · intro j h1 h2
    rw [hget, tr2_out (Or.inr h1)]
    exact h.nomat j h1 h2

theorem finOK (n : CNfa) (h4 : 4 ≤ n.size) : FinOK n (cOrder n) (cNa n) := by
  have e1 : cOrder n = swp (swp (loopF n n.size).1 3 ((loopF n n.size).2 - 1)) 2
      ((loopF n n.size).2 - 2) := by unfold cOrder; rw [shuffleOrder_eq]
  have e2 : cNa n = (loopF n n.size).2 := by unfold cNa; rw [shuffleOrder_eq]
  rw [e1, e2]
  exact finOK_of_inv n h4 (loopF n n.size).1 (loopF n n.size).2
    (inv_loop n h4 n.size (Nat.le_refl _))

/-! ## the inverse table -/

def posF (ord : Array Nat) (sz k : Nat) : Array Nat :=
  (List.range k).foldl (fun (p : Array Nat) i => p.set! (ord.getD i 0) i) (Array.replicate sz 0)

theorem posF_succ (ord : Array Nat) (sz k : Nat) :
    posF ord sz (k + 1) = (posF ord sz k).set! (ord.getD k 0) k := by
  unfold posF
  rw [List.range_succ, List.foldl_append]
  rfl

theorem posF_size (ord : Array Nat) (sz k : Nat) : (posF ord sz k).size = sz := by
  induction k with
  | zero => simp [posF]
  | succ k ih => rw [posF_succ]; simpa [Array.set!] using ih

theorem posF_inv {ord : Array Nat} {sz : Nat} (hp : Perm ord sz) :
    ∀ k, k ≤ sz → ∀ i, i < k → (posF ord sz k).getD (ord.getD i 0) 0 = i := by
  intro k
  induction k with
  | zero => intro _ i hi; omega
  | succ k ih =>
    intro hk i hi
    rw [posF_succ, Array.getD_set!, posF_size]
    by_cases hik : i = k
    · subst hik
      rw [if_pos ⟨rfl, hp.lt i (by omega)⟩]
    · rw [if_neg]
      · exact ih (by omega) i (by omega)
      · intro hh
        exact hik (hp.inj k i (by omega) (by omega) hh.1).symm

theorem cPos_eq (n : CNfa) : cPos n = posF (cOrder n) n.size n.size := rfl

theorem shufOK (n : CNfa) (h4 : 4 ≤ n.size) : ShufOK n := by
  have F := finOK n h4
  have hp := F.perm
  have hge := F.na_ge
  have hle := F.na_le
  have po : ∀ i, i < n.size → (cPos n).getD ((cOrder n).getD i 0) 0 = i := by
    intro i hi
    rw [cPos_eq]
    exact posF_inv hp n.size (Nat.le_refl _) i hi
  have ex : ∀ s, s < n.size → (cPos n).getD s 0 < n.size ∧
      (cOrder n).getD ((cPos n).getD s 0) 0 = s := by
    intro s hs
    obtain ⟨j, hj, e⟩ := hp.surj s hs
    have := po j hj
    rw [e] at this
    rw [this]
    exact ⟨hj, e⟩
  have uniq : ∀ i s, i < n.size → (cOrder n).getD i 0 = s → (cPos n).getD s 0 = i := by
    intro i s hi e
    rw [← e]; exact po i hi
  -- an id `≥ 4` sits at none of the four positions of the special states
  have other : ∀ s, 4 ≤ s → s < n.size → 2 ≤ (cPos n).getD s 0 ∧
      ((cPos n).getD s 0 + 3 ≤ cNa n ∨ cNa n ≤ (cPos n).getD s 0) := by
    intro s h1 h2
    obtain ⟨_, e⟩ := ex s h2
    generalize (cPos n).getD s 0 = p at e ⊢
    by_cases c0 : p = 0
    · subst c0; rw [F.v0] at e; omega
    by_cases c1 : p = 1
    · subst c1; rw [F.v1] at e; omega
    by_cases c2 : p = cNa n - 2
    · subst c2; rw [F.vSU] at e; omega
    by_cases c3 : p = cNa n - 1
    · subst c3; rw [F.vSA] at e; omega
    omega
  refine ⟨hp.size, by rw [cPos_eq, posF_size], hp.lt, fun s hs => (ex s hs).1,
    fun s hs => (ex s hs).2, po, hge, hle, uniq 0 0 (by omega) F.v0, uniq 1 1 (by omega) F.v1,
    uniq _ 2 (by omega) F.vSU, uniq _ 3 (by omega) F.vSA, ?_, ?_⟩
  · intro s h1 h2 hm
    obtain ⟨hlt, e⟩ := ex s h2
    obtain ⟨h2p, hlo | hhi⟩ := other s h1 h2
    · exact ⟨h2p, hlo⟩
    · have := F.nomat _ hhi hlt
      rw [e, hm] at this; cases this
  · intro s h1 h2 hm
    obtain ⟨hlt, e⟩ := ex s h2
    obtain ⟨h2p, hlo | hhi⟩ := other s h1 h2
    · have := F.mat _ h2p hlo
      rw [e, hm] at this; cases this
    · exact hhi

end AcVerif.L1eP
