import AcVerif.BuildChecked
import AcVerif.Proofs.CompilerBase
/-!
# C20: how the lengths of `states` / `sparse` / `matches` evolve

Straight from the definitions of the transcribed compiler (no semantic invariant is needed):
`sparse.len()` and `matches.len()` are sums over the states (`wsum`); every phase only grows the three
vectors; `build_trie` adds at most one state and at most one (two when case folding) transition per
pattern byte and one match entry per pattern (`trieStep_sizes`, `buildTrie_sizes`); the phases after
`build_trie` keep the number of states and lose no match entry (`Grows`, `size_compile`).

Namespace `BuildP`: the proofs for C20 about the builders with their error paths of
`AcVerif/BuildChecked.lean` (`compileChecked`, `buildContigChecked`, `buildDfaChecked`), in the
`BuildChecked*` files.
-/
namespace AcVerif.BuildP
open AcVerif AcVerif.CNfa AcVerif.L1cP

/-! ## sums over the states -/

def wsum (g : CState → Nat) (n : CNfa) : Nat := (n.toList.map g).sum

/-- what a state adds to the crate's `sparse` vector (`sparseLen_eq`) -/
def gT (st : CState) : Nat := st.trans.length
/-- what a state adds to the crate's `matches` vector (`matchesLen_eq`) -/
def gM (st : CState) : Nat := st.matches_.length

theorem sparseLen_eq (n : CNfa) : sparseLen n = 1 + wsum gT n := rfl
theorem matchesLen_eq (n : CNfa) : matchesLen n = 1 + wsum gM n := rfl

theorem wsum_modify (g : CState → Nat) (f : CState → CState) (n : CNfa) {i : Nat}
    (hi : i < n.size) :
    wsum g (n.modify i f) + g (n.getD i {}) = wsum g n + g (f (n.getD i {})) := by
  unfold wsum; rw [Array.toList_modify]
  apply List.sum_map_modify
  rw [Array.getElem?_toList, Array.getD_eq_getD_getElem?, Array.getElem?_eq_getElem hi]; rfl

theorem wsum_congr {a n : CNfa} (g : CState → Nat) (hs : a.size = n.size)
    (hg : ∀ s, g (a.getD s {}) = g (n.getD s {})) : wsum g a = wsum g n := by
  unfold wsum
  rw [Array.toList_eq_map_getD a {}, Array.toList_eq_map_getD n {}, hs, List.map_map, List.map_map]
  exact congrArg List.sum (List.map_congr_left fun s _ => hg s)

theorem wsum_modify_of_size_le (g : CState → Nat) (f : CState → CState) (n : CNfa) {i : Nat}
    (hi : n.size ≤ i) : wsum g (n.modify i f) = wsum g n := by
  unfold wsum; rw [Array.toList_modify, List.modify_eq_self (by simpa using hi)]

theorem wsum_modify_le (g : CState → Nat) (f : CState → CState) (h : ∀ a, g a ≤ g (f a))
    (n : CNfa) (i : Nat) : wsum g n ≤ wsum g (n.modify i f) := by
  by_cases hi : i < n.size
  · have := wsum_modify g f n hi
    have := h (n.getD i {})
    omega
  · rw [wsum_modify_of_size_le g f n (Nat.le_of_not_lt hi)]; exact Nat.le_refl _

theorem wsum_modify_ge (g : CState → Nat) (f : CState → CState) (c : Nat)
    (h : ∀ a, g (f a) ≤ g a + c) (n : CNfa) (i : Nat) :
    wsum g (n.modify i f) ≤ wsum g n + c := by
  by_cases hi : i < n.size
  · have := wsum_modify g f n hi
    have := h (n.getD i {})
    omega
  · rw [wsum_modify_of_size_le g f n (Nat.le_of_not_lt hi)]; exact Nat.le_add_right _ _

theorem wsum_modify_eq (g : CState → Nat) (f : CState → CState) (h : ∀ a, g (f a) = g a)
    (n : CNfa) (i : Nat) : wsum g (n.modify i f) = wsum g n := by
  have h1 := wsum_modify_le g f (fun a => by rw [h a]; exact Nat.le_refl _) n i
  have h2 := wsum_modify_ge g f 0 (fun a => by rw [h a]; exact Nat.le_refl _) n i
  omega

theorem wsum_push (g : CState → Nat) (n : CNfa) (x : CState) :
    wsum g (n.push x) = wsum g n + g x := by
  unfold wsum
  rw [Array.toList_push, List.map_append, List.sum_append]
  simp

/-! ## `add_transition` -/

theorem length_insertTrans (b : UInt8) (t : Nat) (l : List (UInt8 × Nat)) :
    l.length ≤ (insertTrans b t l).length ∧ (insertTrans b t l).length ≤ l.length + 1 := by
  refine insertTrans_induction
    (motive := fun l r => l.length ≤ r.length ∧ r.length ≤ l.length + 1) b t ?_ ?_ ?_ ?_ l
  · exact ⟨Nat.zero_le _, Nat.le_refl _⟩
  · exact fun d s rest _ => ⟨Nat.le_succ _, Nat.le_refl _⟩
  · exact fun s rest => ⟨Nat.le_refl _, Nat.le_succ _⟩
  · exact fun d s rest _ ih => ⟨Nat.succ_le_succ ih.1, Nat.succ_le_succ ih.2⟩

theorem gT_addTransition (n : CNfa) (p : Nat) (b : UInt8) (t : Nat) :
    wsum gT n ≤ wsum gT (addTransition n p b t) ∧ wsum gT (addTransition n p b t) ≤ wsum gT n + 1 :=
  ⟨wsum_modify_le gT (fun st => { st with trans := insertTrans b t st.trans })
      (fun a => (length_insertTrans b t a.trans).1) n p,
    wsum_modify_ge gT (fun st => { st with trans := insertTrans b t st.trans }) 1
      (fun a => (length_insertTrans b t a.trans).2) n p⟩

theorem gM_addTransition (n : CNfa) (p : Nat) (b : UInt8) (t : Nat) :
    wsum gM (addTransition n p b t) = wsum gM n :=
  wsum_modify_eq gM (fun st => { st with trans := insertTrans b t st.trans }) (fun _ => rfl) n p

/-! ## one pattern of `build_trie` -/

/-- the number of `alloc_transition` calls per new trie state: 1, or at most 2 when case folding -/
def foldC (fold : Bool) : Nat := if fold then 2 else 1

theorem foldC_pos (fold : Bool) : 0 < foldC fold := by unfold foldC; split <;> omega

theorem gT_newChild (fold : Bool) (n : CNfa) (prev : Nat) (b : UInt8) :
    wsum gT n ≤ wsum gT (newChild fold n prev b) ∧
      wsum gT (newChild fold n prev b) ≤ wsum gT n + foldC fold := by
  have hpush : wsum gT (n.push { fail := SU }) = wsum gT n := by rw [wsum_push]; rfl
  have a1 := gT_addTransition (n.push { fail := SU }) prev b n.size
  cases fold with
  | false => simp only [newChild, foldC, Bool.false_eq_true, if_false]; omega
  | true =>
    have a2 := gT_addTransition (addTransition (n.push { fail := SU }) prev b n.size) prev
      (oppositeAsciiCase b) n.size
    simp only [newChild, foldC, if_true]; omega

theorem gM_newChild (fold : Bool) (n : CNfa) (prev : Nat) (b : UInt8) :
    wsum gM (newChild fold n prev b) = wsum gM n := by
  have hpush : wsum gM (n.push { fail := SU }) = wsum gM n := by rw [wsum_push]; rfl
  cases fold <;> simp [newChild, gM_addTransition, hpush]

theorem addPattern_sizes (lf fold : Bool) :
    ∀ (pat : List UInt8) (n : CNfa) (prev : Nat) (saw : Bool) (n' : CNfa) (last : Nat),
      addPattern lf fold n prev saw pat = some (n', last) →
      n.size ≤ n'.size ∧ n'.size ≤ n.size + pat.length ∧
      wsum gT n ≤ wsum gT n' ∧ wsum gT n' ≤ wsum gT n + foldC fold * pat.length ∧
      wsum gM n' = wsum gM n
  | [], n, prev, saw, n', last, h => by
    simp only [addPattern, Option.some.injEq, Prod.mk.injEq] at h
    obtain ⟨rfl, _⟩ := h
    simp
  | b :: rest, n, prev, saw, n', last, h => by
    rw [addPattern_cons] at h
    have hc := foldC_pos fold
    simp only [List.length_cons, Nat.mul_add, Nat.mul_one]
    split at h
    · cases h
    · split at h
      · have ih := addPattern_sizes lf fold rest _ _ _ _ _ h
        omega
      · have ih := addPattern_sizes lf fold rest _ _ _ _ _ h
        rw [size_newChild, gM_newChild] at ih
        have := gT_newChild fold n prev b
        omega

/-- one iteration of the `'PATTERNS` loop -/
theorem trieStep_sizes (k : MatchKind) (fold : Bool) (n : CNfa) (x : List UInt8 × Nat) :
    n.size ≤ (trieStep k fold n x).size ∧ (trieStep k fold n x).size ≤ n.size + x.1.length ∧
    wsum gT n ≤ wsum gT (trieStep k fold n x) ∧
    wsum gT (trieStep k fold n x) ≤ wsum gT n + foldC fold * x.1.length ∧
    wsum gM n ≤ wsum gM (trieStep k fold n x) ∧ wsum gM (trieStep k fold n x) ≤ wsum gM n + 1 := by
  unfold trieStep
  split
  · simp
  · rename_i n' last h
    obtain ⟨h1, h2, h3, h4, h5⟩ := addPattern_sizes _ _ _ _ _ _ _ _ h
    rw [Array.size_modify]
    have m1 := wsum_modify_le gM (fun st => { st with matches_ := st.matches_ ++ [x.2] })
      (fun a => by simp [gM]) n' last
    have m2 := wsum_modify_ge gM (fun st => { st with matches_ := st.matches_ ++ [x.2] }) 1
      (fun a => by simp [gM]) n' last
    have m3 := wsum_modify_eq gT (fun st => { st with matches_ := st.matches_ ++ [x.2] })
      (fun _ => rfl) n' last
    rw [m3]
    refine ⟨h1, h2, h3, h4, by omega, by omega⟩

def totalLen (P : List (List UInt8)) : Nat := (P.map List.length).sum

theorem length_le_totalLen {P : List (List UInt8)} {p : List UInt8} (h : p ∈ P) :
    p.length ≤ totalLen P :=
  List.le_sum_map List.length h

theorem foldl_trieStep_sizes (k : MatchKind) (fold : Bool) :
    ∀ (xs : List (List UInt8 × Nat)) (n : CNfa),
      n.size ≤ (xs.foldl (trieStep k fold) n).size ∧
      (xs.foldl (trieStep k fold) n).size ≤ n.size + totalLen (xs.map Prod.fst) ∧
      wsum gT n ≤ wsum gT (xs.foldl (trieStep k fold) n) ∧
      wsum gT (xs.foldl (trieStep k fold) n) ≤ wsum gT n + foldC fold * totalLen (xs.map Prod.fst) ∧
      wsum gM n ≤ wsum gM (xs.foldl (trieStep k fold) n) ∧
      wsum gM (xs.foldl (trieStep k fold) n) ≤ wsum gM n + xs.length
  | [], n => by simp [totalLen]
  | x :: xs, n => by
    have h := trieStep_sizes k fold n x
    have ih := foldl_trieStep_sizes k fold xs (trieStep k fold n x)
    simp only [List.foldl_cons, totalLen, List.map_cons, List.sum_cons, List.length_cons,
      Nat.mul_add] at ih ⊢
    omega

theorem buildTrie_eq (k : MatchKind) (fold : Bool) (P : List (List UInt8)) :
    buildTrie k fold P = P.zipIdx.foldl (trieStep k fold) init := rfl

theorem init_size : init.size = 4 := rfl

theorem wsum_gT_init : wsum gT init = 768 := by decide +kernel

theorem wsum_gM_init : wsum gM init = 0 := by decide +kernel

theorem buildTrie_sizes (k : MatchKind) (fold : Bool) (P : List (List UInt8)) :
    4 ≤ (buildTrie k fold P).size ∧ (buildTrie k fold P).size ≤ 4 + totalLen P ∧
    769 ≤ sparseLen (buildTrie k fold P) ∧
    sparseLen (buildTrie k fold P) ≤ 769 + foldC fold * totalLen P ∧
    matchesLen (buildTrie k fold P) ≤ 1 + P.length := by
  have h := foldl_trieStep_sizes k fold P.zipIdx init
  rw [← buildTrie_eq, List.zipIdx_map_fst, init_size, wsum_gT_init, wsum_gM_init,
    List.length_zipIdx] at h
  rw [sparseLen_eq, matchesLen_eq]
  omega

/-! ## the phases after `build_trie` keep `states.len()` and only grow `matches` -/

def Grows (n0 n : CNfa) : Prop := n.size = n0.size ∧ wsum gM n0 ≤ wsum gM n

theorem Grows.refl (n : CNfa) : Grows n n := ⟨rfl, Nat.le_refl _⟩

theorem Grows.trans {a b c : CNfa} (h1 : Grows a b) (h2 : Grows b c) : Grows a c :=
  ⟨h2.1.trans h1.1, Nat.le_trans h1.2 h2.2⟩

theorem Grows.modify {a n : CNfa} {i : Nat} {f : CState → CState}
    (hf : ∀ st, gM st ≤ gM (f st)) (h : Grows a n) : Grows a (n.modify i f) :=
  h.trans ⟨Array.size_modify, wsum_modify_le gM f hf n i⟩

theorem Grows.copy {a n : CNfa} {src dst : Nat} (h : Grows a n) :
    Grows a (copyMatches n src dst) :=
  h.modify fun st => by simp [gM]

theorem Grows.modify_eq {a n : CNfa} {i : Nat} {f : CState → CState}
    (hf : ∀ st, (f st).matches_ = st.matches_) (h : Grows a n) : Grows a (n.modify i f) :=
  h.modify fun st => Nat.le_of_eq (congrArg List.length (hf st).symm)

theorem grows_setAnchoredStart (n : CNfa) : Grows n (setAnchoredStart n) :=
  Grows.copy (Grows.modify_eq (fun _ => rfl) (Grows.refl n))

theorem grows_addStartLoop (n : CNfa) : Grows n (addStartLoop n) :=
  Grows.modify_eq (fun _ => rfl) (Grows.refl n)

theorem grows_closeStartLoop (k : MatchKind) (n : CNfa) : Grows n (closeStartLoop k n) := by
  unfold closeStartLoop
  split
  · exact Grows.modify_eq (fun _ => rfl) (Grows.refl n)
  · exact Grows.refl n

theorem Grows.setFail {a n : CNfa} (h : Grows a n) (next f : Nat) :
    Grows a (n.modify next fun st => { st with fail := f }) :=
  h.modify_eq fun _ => rfl

theorem grows_fillState (lm sm us : Bool) (id : Nat) :
    ∀ (l : List (UInt8 × Nat)) (acc : CNfa × List Nat × List Nat) (a : CNfa),
      Grows a acc.1 → Grows a (fillState lm sm us id l acc).1
  | [], acc, a, h => by rw [fillState]; exact h
  | (b, next) :: rest, (n, queue, seen), a, h => by
    rw [fillState_cons]
    split
    · exact grows_fillState lm sm us id rest _ a h
    · apply grows_fillState lm sm us id rest _ a
      show Grows a (procChild lm sm n id b next)
      unfold procChild
      split
      · exact h.setFail next DEAD
      · exact (h.setFail next _).copy

theorem grows_fillStart (lm sm : Bool) :
    ∀ (l : List (UInt8 × Nat)) (acc : CNfa × List Nat × List Nat) (a : CNfa),
      Grows a acc.1 → Grows a (fillStart lm sm l acc).1
  | [], acc, a, h => by rw [fillStart]; exact h
  | (b, next) :: rest, (n, queue, seen), a, h => by
    rw [fillStart_cons]
    split
    · exact grows_fillStart lm sm rest _ a h
    · apply grows_fillStart lm sm rest _ a
      show Grows a (procStart lm sm n next)
      cases lm
      · exact h.copy
      · show Grows a (if (sm || isMatch n next) = true
          then n.modify next fun st => { st with fail := DEAD } else n)
        split
        · exact h.setFail next DEAD
        · exact h

theorem grows_bfs (lm sm us : Bool) :
    ∀ (fuel : Nat) (acc : CNfa × List Nat × List Nat) (a : CNfa),
      Grows a acc.1 → Grows a (bfs lm sm us fuel acc)
  | 0, (n, _, _), a, h => by rw [bfs]; exact h
  | fuel + 1, (n, [], seen), a, h => by rw [bfs]; exact h
  | fuel + 1, (n, id :: queue', seen), a, h => by
    rw [bfs]
    exact grows_bfs lm sm us fuel _ a (grows_fillState lm sm us id _ (n, queue', seen) a h)

theorem grows_fillFailure (k : MatchKind) (fold : Bool) (n : CNfa) :
    Grows n (fillFailure k fold n) := by
  unfold fillFailure
  simp only
  have h1 := grows_fillStart k.isLeftmost (isMatch n SU) (n.getD SU {}).trans (n, [], []) n
    (Grows.refl n)
  generalize fillStart k.isLeftmost (isMatch n SU) (n.getD SU {}).trans (n, [], []) = r at h1
  obtain ⟨n1, q1, s1⟩ := r
  exact grows_bfs _ _ _ _ (n1, q1, if fold = true then s1 else []) n h1

theorem grows_finishCompile (k : MatchKind) (fold : Bool) (t : CNfa) :
    Grows t (finishCompile k fold t) := by
  unfold finishCompile
  exact (((grows_setAnchoredStart t).trans (grows_addStartLoop _)).trans
    (grows_fillFailure k fold _)).trans (grows_closeStartLoop k _)

theorem size_compile (k : MatchKind) (fold : Bool) (P : List (List UInt8)) :
    (compile k fold P).size = (buildTrie k fold P).size :=
  (grows_finishCompile k fold _).1

theorem matchesLen_trie_le_compile (k : MatchKind) (fold : Bool) (P : List (List UInt8)) :
    matchesLen (buildTrie k fold P) ≤ matchesLen (compile k fold P) :=
  Nat.add_le_add_left (grows_finishCompile k fold (buildTrie k fold P)).2 1

theorem size_compile_bounds (k : MatchKind) (fold : Bool) (P : List (List UInt8)) :
    4 ≤ (compile k fold P).size ∧ (compile k fold P).size ≤ 4 + totalLen P := by
  rw [size_compile]
  exact ⟨(buildTrie_sizes k fold P).1, (buildTrie_sizes k fold P).2.1⟩

end AcVerif.BuildP
