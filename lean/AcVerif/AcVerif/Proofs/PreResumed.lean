import AcVerif.Proofs.PreTransparent
import AcVerif.Proofs.Std
import AcVerif.Engine.Iter
/-!
# C05 for resumed searches

* the non-overlapping iterator: for the ideal automaton read through a byte map (`(ideal …).comap g`),
  `findAt` with a sound prefilter is `findAt` without, pointwise (`findAt_transparent_comap`,
  `findIter_transparent_comap`);
* the stepwise overlapping search: what the overlapping loop needs from a prefilter
  (`PrefilterSoundOvl`), the loop with a prefilter on an automaton whose start state is flagged
  special (`ovlLoop_pre`), one call (`ovl_step_pre`), the call history (`calls_of_step`); the
  iterator is a function of the call history (`ovlIterAux_eq_yielded` in `Struct`).

The run with a prefilter and the run without do NOT stay in the same `OState` (after a jump the
position is ahead and the automaton state is a suffix of the other one), so everything is phrased
through `StdP.pending`: the list of matches that the *prefilter-free* calls would report from a
given state.  A call with the prefilter reports the head of that list and leaves a state whose
`pending` is the tail.
-/
namespace AcVerif

/-- What the overlapping loop needs from a prefilter.  The loop only reads `intoOption` of a
candidate: `none` ends the search, `some i` (a `PossibleStartOfMatch(i)` *or* the start of a
confirmed `Match`) lets it jump to `i`. -/
structure PrefilterSoundOvl {α : Type} (P : List (List α)) (pre : Prefilter α) : Prop where
  /-- `None`: no pattern occurs in the span -/
  none_sound : ∀ hay s e, e ≤ hay.length → s ≤ e → (pre hay s e).intoOption = none →
    ∀ m, ¬ IsOcc P hay s e m
  /-- `PossibleStartOfMatch(i)` / `Match(m)` with `i = m.start`: no occurrence of the span starts
  before `i` -/
  some_sound : ∀ hay s e i, e ≤ hay.length → s ≤ e → (pre hay s e).intoOption = some i →
    ∀ m, IsOcc P hay s e m → i ≤ m.start

/-- `PrefilterSoundOvl` for one haystack: `f = pre rawHay` is the prefilter as the loop calls it,
`hay` is the haystack the automaton effectively reads (cf. `PrefilterSoundAt`). -/
structure PrefilterSoundOvlAt {α : Type} (P : List (List α)) (f : Nat → Nat → Cand)
    (hay : List α) : Prop where
  none_sound : ∀ s e, e ≤ hay.length → s ≤ e → (f s e).intoOption = none →
    ∀ m, ¬ IsOcc P hay s e m
  some_sound : ∀ s e i, e ≤ hay.length → s ≤ e → (f s e).intoOption = some i →
    ∀ m, IsOcc P hay s e m → i ≤ m.start

theorem PrefilterSoundOvl.at {α : Type} {P : List (List α)} {pre : Prefilter α}
    (h : PrefilterSoundOvl P pre) (hay : List α) : PrefilterSoundOvlAt P (pre hay) hay :=
  ⟨h.none_sound hay, h.some_sound hay⟩

theorem PrefilterSoundOvl.of_at {α : Type} {P : List (List α)} {pre : Prefilter α}
    (h : ∀ hay, PrefilterSoundOvlAt P (pre hay) hay) : PrefilterSoundOvl P pre :=
  ⟨fun hay => (h hay).none_sound, fun hay => (h hay).some_sound⟩

/-- the form in which the theorems about `Aut.comap g` take it, for `g = id` -/
theorem PrefilterSoundOvl.at_id {α : Type} {P : List (List α)} {pre : Prefilter α}
    (h : PrefilterSoundOvl P pre) (hay : List α) : PrefilterSoundOvlAt P (pre hay) (hay.map id) :=
  (List.map_id hay).symm ▸ h.at hay

theorem PrefilterSoundAt.ovl {α : Type} {k : MatchKind} {P : List (List α)}
    {f : Nat → Nat → Cand} {hay : List α} (h : PrefilterSoundAt k P f hay)
    (hm : ∀ s e m, e ≤ hay.length → s ≤ e → f s e = .mtch m →
      ∀ m', IsOcc P hay s e m' → m.start ≤ m'.start) : PrefilterSoundOvlAt P f hay where
  none_sound := by
    intro s e he hse hc
    cases hp : f s e with
    | none => exact h.none_sound s e he hse hp
    | mtch m => rw [hp] at hc; cases hc
    | pos i => rw [hp] at hc; cases hc
  some_sound := by
    intro s e i he hse hc
    cases hp : f s e with
    | none => rw [hp] at hc; cases hc
    | mtch m => rw [hp] at hc; cases hc; exact hm s e m he hse hp
    | pos j => rw [hp] at hc; cases hc; exact (h.pos_sound s e _ he hse hp).2

theorem PrefilterSoundAt.ovl_of_leftmost {α : Type} {k : MatchKind} {P : List (List α)}
    {f : Nat → Nat → Cand} {hay : List α} (h : PrefilterSoundAt k P f hay)
    (hk : k = .lf ∨ k = .ll) : PrefilterSoundOvlAt P f hay := by
  refine h.ovl ?_
  intro s e m he hse hp m' hm'
  have hb := (h.mtch_sound s e m he hse hp).2 m' ⟨hm', fun h => by cases h⟩
  rcases hk with rfl | rfl
  · simp only [better, betterLF] at hb; omega
  · simp only [better, betterLL] at hb; omega

theorem PrefilterSound.ovl {α : Type} {k : MatchKind} {P : List (List α)} {pre : Prefilter α}
    (h : PrefilterSound k P pre)
    (hm : ∀ hay s e m, e ≤ hay.length → s ≤ e → pre hay s e = .mtch m →
      ∀ m', IsOcc P hay s e m' → m.start ≤ m'.start) : PrefilterSoundOvl P pre :=
  .of_at fun hay => (h.at hay).ovl (hm hay)

theorem PrefilterSound.ovl_of_leftmost {α : Type} {k : MatchKind} {P : List (List α)}
    {pre : Prefilter α} (h : PrefilterSound k P pre) (hk : k = .lf ∨ k = .ll) :
    PrefilterSoundOvl P pre :=
  .of_at fun hay => (h.at hay).ovl_of_leftmost hk

/-- with a single pattern the earliest-ending occurrence is the leftmost one -/
theorem PrefilterSound.ovl_of_single {α : Type} {k : MatchKind} {p : List α} {pre : Prefilter α}
    (h : PrefilterSound k [p] pre) : PrefilterSoundOvl [p] pre := by
  refine h.ovl ?_
  intro hay s e m he hse hp m' hm'
  obtain ⟨hocc, hb⟩ := h.mtch_sound hay s e m he hse hp
  have hb := hb m' ⟨hm', fun h => by cases h⟩
  have len : ∀ x : Mat, IsOcc [p] hay s e x → x.stop = x.start + p.length :=
    fun x hx => (PreP.isOcc_single.1 hx).2.2.1
  have l1 := len m hocc.1
  have l2 := len m' hm'
  cases k
  · simp only [better, betterStd] at hb; omega
  · simp only [better, betterLF] at hb; omega
  · simp only [better, betterLL] at hb; omega

end AcVerif

namespace AcVerif.PreP2
open AcVerif AcVerif.PreP AcVerif.StdP

/-! ## the non-overlapping iterator -/
section Iter
variable {α : Type} [DecidableEq α]

theorem findAt_transparent_comap (k : MatchKind) (P : List (List α)) (hne : ∀ p ∈ P, p ≠ [])
    (pre : Prefilter α) (sk : StartKind) (g : α → α) (i : Input α)
    (hs : PrefilterSoundAt k P (pre i.hay) (i.hay.map g))
    (he : k = .std ∨ i.earliest = false) (h : supportsAnch sk i.anch) :
    findAt ((ideal k P sk true).comap g) (some pre) i =
      findAt ((ideal k P sk false).comap g) none i := by
  funext st
  unfold findAt
  split
  · rename_i hst
    rw [transparent_comap k P hne pre sk g { i with s := st, valid := ⟨i.valid.1, hst⟩ } hs he h]
  · rfl

theorem findIter_transparent_comap (k : MatchKind) (P : List (List α)) (hne : ∀ p ∈ P, p ≠ [])
    (pre : Prefilter α) (sk : StartKind) (g : α → α) (i : Input α)
    (hs : PrefilterSoundAt k P (pre i.hay) (i.hay.map g))
    (he : k = .std ∨ i.earliest = false) (h : supportsAnch sk i.anch) :
    findIter ((ideal k P sk true).comap g) (some pre) i =
      findIter ((ideal k P sk false).comap g) none i := by
  unfold findIter
  rw [findAt_transparent_comap k P hne pre sk g i hs he h]
  rfl

end Iter

section Loop
variable {σ α : Type}

/-! ## without a prefilter the extra special flag is invisible -/

theorem ovlS_noPre {A0 A1 : Aut σ α} (h : SameButSpecial A0 A1) (s : Nat) (anch : Bool)
    (rest : List α) : ∀ (sid : σ) (at_ : Nat),
      ovlS A1 s anch sid at_ rest = ovlS A0 s anch sid at_ rest := by
  induction rest with
  | nil => intros; rfl
  | cons c rest ih =>
    intro sid at_
    simp only [ovlS, h.next, h.dead, h.isMatch, h.getMatch, ih]
    exact h.branch _ _ _ _

theorem ovlImp_noPre {A0 A1 : Aut σ α} (h : SameButSpecial A0 A1) (hstart : A1.start = A0.start)
    (i : Input α) (st : OState σ) : ovlImp A1 i Option.none st = ovlImp A0 i Option.none st := by
  unfold ovlImp
  simp only [hstart, h.isMatch, h.mpats, h.getMatch, ovlLoop_eq_ovlS, ovlS_noPre h]

theorem tryOvl_noPre {A0 A1 : Aut σ α} (h : SameButSpecial A0 A1) (hstart : A1.start = A0.start)
    (hkind : A1.kind = A0.kind) (pre : Option (Prefilter α)) (i : Input α)
    (hi : i.isDone = true ∨ i.anch = true) (st : OState σ) :
    tryFindOverlappingFwd A1 pre i st = tryFindOverlappingFwd A0 Option.none i st := by
  unfold tryFindOverlappingFwd
  rw [hkind, hstart]
  rcases hi with hd | ha
  · rw [hd]; rfl
  · simp only [ha, if_true, ovlImp_noPre h hstart]

theorem calls_of_tryEq (A1 : Aut σ α) (A0 : Aut σ α) (pre1 pre0 : Option (Prefilter α))
    (i : Input α)
    (h : ∀ st, tryFindOverlappingFwd A1 pre1 i st = tryFindOverlappingFwd A0 pre0 i st) :
    ∀ n st, ovlCalls A1 pre1 i n st = ovlCalls A0 pre0 i n st := by
  intro n
  induction n with
  | zero => intro st; rfl
  | succ n ih =>
    intro st
    simp only [ovlCalls, h st]
    cases tryFindOverlappingFwd A0 pre0 i st with
    | error e => rfl
    | ok st' => simp only [ih st']

/-! ## from "one call reports the head of `pending`" to the call history -/

theorem calls_of_step {σ1 σ0 : Type} (A1 : Aut σ1 α) (A0 : Aut σ0 α)
    (pre1 pre0 : Option (Prefilter α)) (i : Input α)
    (pend1 : OState σ1 → List Mat) (pend0 : OState σ0 → List Mat)
    (h1 : ∀ st, ∃ st', tryFindOverlappingFwd A1 pre1 i st = .ok st' ∧
      st'.mat = (pend1 st).head? ∧ pend1 st' = (pend1 st).tail)
    (h0 : ∀ st, ∃ st', tryFindOverlappingFwd A0 pre0 i st = .ok st' ∧
      st'.mat = (pend0 st).head? ∧ pend0 st' = (pend0 st).tail) :
    ∀ n st1 st0, pend1 st1 = pend0 st0 →
      ovlCalls A1 pre1 i n st1 = ovlCalls A0 pre0 i n st0 := by
  intro n
  induction n with
  | zero => intros; rfl
  | succ n ih =>
    intro st1 st0 hp
    obtain ⟨st1', e1, m1, t1⟩ := h1 st1
    obtain ⟨st0', e0, m0, t0⟩ := h0 st0
    simp only [ovlCalls, e1, e0]
    rw [m1, m0, hp, ih st1' st0' (by rw [t1, t0, hp])]

/-! ## the overlapping loop with a prefilter -/

/-- The loop on `A1` (start state `qs` flagged special) consulting the prefilter `p`, from ANY
state and position, reports the first match that the prefilter-free run on `A0` would report from
there, and leaves a state from which the prefilter-free run would report the remaining ones.
`Hnone` / `Hjump` say what the prefilter's verdict means for the prefilter-free run that sits in
the start state. -/
theorem ovlLoop_pre {A0 A1 : Aut σ α} {qs : σ} (hA : StdLike A0) (hF : StartFlagged A0 A1 qs)
    (i : Input α) (q0 : σ) (p : Prefilter α)
    (Hnone : ∀ at_, at_ < i.e → (p i.hay at_ i.e).intoOption = Option.none →
      allRep A0 i.s i.anch qs (at_ + 1) ((i.hay.take i.e).drop (at_ + 1)) = [] ∧
      allRep A0 i.s i.anch qs at_ ((i.hay.take i.e).drop at_) = [])
    (Hjump : ∀ at_ j, at_ < i.e → (p i.hay at_ i.e).intoOption = some j → at_ < j →
      allRep A0 i.s i.anch qs (at_ + 1) ((i.hay.take i.e).drop (at_ + 1)) =
        allRep A0 i.s i.anch qs j ((i.hay.take i.e).drop j)) :
    ∀ (q : σ) (at_ : Nat),
      (ovlLoop A1 i.hay i.s i.e i.valid.1 (some p) i.anch q at_).mat =
        (allRep A0 i.s i.anch q at_ ((i.hay.take i.e).drop at_)).head? ∧
      pending A0 i q0 (ovlLoop A1 i.hay i.s i.e i.valid.1 (some p) i.anch q at_) =
        (allRep A0 i.s i.anch q at_ ((i.hay.take i.e).drop at_)).tail := by
  intro q at_
  induction at_ using ScanP.upTo_induction i.e generalizing q with
  | stop at_ h =>
    rw [ovlLoop_done h, List.drop_take_nil h]
    simp [pending, allRep, List.drop_take_nil h]
  | step at_ h IH =>
    generalize hq' : A0.next i.anch q (i.hay[at_]'(Nat.lt_of_lt_of_le h i.valid.1)) = q'
    have hq1 : A1.next i.anch q (i.hay[at_]'(Nat.lt_of_lt_of_le h i.valid.1)) = q' := by
      rw [hF.next]; exact hq'
    rw [List.drop_take_cons h i.valid.1, allRep, hq']
    by_cases hq : q' = qs
    · subst hq
      rw [ovlLoop_step _ _ _ _ _ _ _ _ _ h hq1 (move_flagged_start hF ..),
        repAt_nomatch hA i.s i.anch hF.q0_match, List.nil_append]
      cases hc : (p i.hay at_ i.e).intoOption with
      | none =>
        obtain ⟨h1, h2⟩ := Hnone at_ h hc
        simp only [Move.halts, hc, Option.isNone_none, if_true]
        rw [h1]
        exact ⟨rfl, h2⟩
      | some j =>
        simp only [Move.halts, Move.resume, hc, Option.isNone_some, Option.getD_some,
          Bool.false_eq_true, if_false]
        by_cases hj : j > at_
        · rw [Nat.max_eq_left hj, Hjump at_ j h hc hj]
          exact IH j hj _
        · rw [Nat.max_eq_right (by omega)]
          exact IH (at_ + 1) (Nat.lt_succ_self _) _
    · rw [ovlLoop_step _ _ _ _ _ _ _ _ _ h hq1
        ((move_flagged hF _ _ _ _ _ _ _ hq).trans (move_stdLike hA ..))]
      cases hd : A0.isDead q' with
      | true =>
        rw [repAt_dead hA i.s i.anch hd, allRep_dead hA i.s i.anch hd]
        exact ⟨rfl, allRep_dead hA i.s i.anch hd _ _⟩
      | false =>
        cases hr : repAt A0 i.s i.anch q' (at_ + 1) with
        | nil => exact IH (at_ + 1) (Nat.lt_succ_self _) _
        | cons m r =>
          exact ⟨rfl, by simp only [Bool.false_eq_true, if_false, Move.halts, if_true, ovlPost,
            pending, repAt_cons hr, List.cons_append, List.tail_cons]⟩

theorem ovl_step_pre {A0 A1 : Aut σ α} (hA : StdLike A0) (h : SameButSpecial A0 A1)
    (hstart : A1.start = A0.start) (hk1 : A1.kind = .std) (i : Input α) (p : Prefilter α) {q0 : σ}
    (hq0 : A0.start i.anch = some q0) (hd : i.isDone = false) (hanch : i.anch = false)
    (hL : ∀ q at_,
      (ovlLoop A1 i.hay i.s i.e i.valid.1 (some p) i.anch q at_).mat =
        (allRep A0 i.s i.anch q at_ ((i.hay.take i.e).drop at_)).head? ∧
      pending A0 i q0 (ovlLoop A1 i.hay i.s i.e i.valid.1 (some p) i.anch q at_) =
        (allRep A0 i.s i.anch q at_ ((i.hay.take i.e).drop at_)).tail)
    (st : OState σ) :
    ∃ st', tryFindOverlappingFwd A1 (some p) i st = .ok st' ∧
      st'.mat = (pending A0 i q0 st).head? ∧ pending A0 i q0 st' = (pending A0 i q0 st).tail := by
  have hk : (A1.kind != MatchKind.std) = false := by simp [hk1]
  simp only [tryFindOverlappingFwd, hk, hd, hanch, Bool.false_eq_true, if_false]
  exact ovlImp_step hA h.isMatch h.mpats h.patLen i (some p) (hstart ▸ hq0) hL st

end Loop

end AcVerif.PreP2
