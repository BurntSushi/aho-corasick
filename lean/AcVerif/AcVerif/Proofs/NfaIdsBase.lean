import AcVerif.NfaIds
import AcVerif.Proofs.ShuffleFlags
import AcVerif.Proofs.DfaBase
import AcVerif.Proofs.Renum
/-!
# L1c-ids: the stored states are the image of the compiled states under `posOf`

For any `N` with `ShufOK N`: the state stored at `posOf N s` is `remapState (posOf N) (N[s])`
(`idStates_getD`), hence `follow` commutes with `posOf N` (`follow_ids`; `FAIL` is fixed), and so
does the whole `nextState` loop along any set of states `V` that lies inside the automaton and is
closed under the failure links the loop follows (`nextState_ids`).  The checked loop `NfaI.next?`
returns the same state whenever the hop counter shows that the fuel was not exhausted
(`next?_ids`).  `isMatch_all` / `isMatch_fail`: `is_match` by id range against the per-state match
list, at every id.

Namespace `L1cIdsP` (the `NfaIds*` files): the proofs about the noncontiguous NFA as it is stored,
`buildNfaIds` of `AcVerif/NfaIds.lean` (shuffled ids, flags by id range).  The shuffle is
`shuffleOrder` of `ContigModel.lean`, so its vocabulary is in namespace `L1eP`: `cOrder`, `cNa`,
`cPos`, `posOf`, `ShufOK` in `ShuffleDefs`, `shufOK` in `ShufflePerm`.
-/
namespace AcVerif.L1cIdsP
open AcVerif AcVerif.CNfa AcVerif.L1cP AcVerif.L1dP AcVerif.L1eP AcVerif.L1dIdsP

def idStates (N : CNfa) : Array CState :=
  (Array.range N.size).map fun i =>
    remapState (fun t => (cPos N).getD t 0) (N.getD ((cOrder N).getD i 0) {})

theorem buildNfaIds_states (N : CNfa) (hasPre : Bool) :
    (buildNfaIds N hasPre).states = idStates N := rfl

theorem buildNfaIds_startU (N : CNfa) (hasPre : Bool) : (buildNfaIds N hasPre).startU = cNa N - 2 :=
  rfl

theorem buildNfaIds_startA (N : CNfa) (hasPre : Bool) : (buildNfaIds N hasPre).startA = cNa N - 1 :=
  rfl

theorem buildNfaIds_maxMatch (N : CNfa) (hasPre : Bool) :
    (buildNfaIds N hasPre).maxMatchId = nfaMaxMatch N (cNa N) := rfl

theorem buildNfaIds_maxSpecial (N : CNfa) (hasPre : Bool) :
    (buildNfaIds N hasPre).maxSpecialId = nfaMaxSpecial N (cNa N) hasPre := rfl

theorem idStates_size (N : CNfa) : (idStates N).size = N.size := by simp [idStates]

theorem remapState_posOf (N : CNfa) (st : CState) :
    remapState (fun t => (cPos N).getD t 0) st = remapState (posOf N) st := rfl

section
variable {N : CNfa} (hS : ShufOK N)
include hS

theorem posOf_fail : posOf N FAIL = FAIL := hS.pos1

theorem posOf_dead : posOf N DEAD = DEAD := hS.pos0

theorem posOf_big {t : Nat} (ht : N.size ≤ t) : posOf N t = 0 := by
  unfold posOf
  exact Array.getD_of_size_le _ _ (by rw [hS.size_pos]; exact ht)

theorem posOf_eq_fail_iff (t : Nat) : posOf N t = FAIL ↔ t = FAIL := by
  constructor
  · intro e
    by_cases ht : t < N.size
    · by_cases h1 : t = 1
      · exact h1
      · exact absurd e (posOf_ne_one hS ht h1)
    · rw [posOf_big hS (by omega)] at e
      cases e
  · intro e; subst e; exact hS.pos1

theorem idStates_getD {s : Nat} (hs : s < N.size) :
    (idStates N).getD (posOf N s) {} = remapState (posOf N) (N.getD s {}) := by
  unfold idStates
  rw [Array.getD_map_range _ _ _ _ (show posOf N s < N.size from hS.pos_lt s hs), remapState_posOf]
  have eo : (cOrder N).getD (posOf N s) 0 = s := hS.order_pos s hs
  rw [eo]

theorem idStates_getElem? {s : Nat} (hs : s < N.size) :
    (idStates N)[posOf N s]? = some (remapState (posOf N) (N.getD s {})) := by
  rw [← idStates_getD hS hs]
  exact Array.getElem?_eq_some_getD _ _ (by rw [idStates_size]; exact hS.pos_lt s hs)

theorem follow_ids {s : Nat} (hs : s < N.size) (b : UInt8) :
    follow (idStates N) (posOf N s) b = posOf N (follow N s b) := by
  rw [follow_eq, follow_eq, idStates_getD hS hs]
  exact lookup_map (posOf N) _ b (Or.inl (posOf_fail hS))

theorem follow_ids_fail_iff {s : Nat} (hs : s < N.size) (b : UInt8) :
    follow (idStates N) (posOf N s) b = FAIL ↔ follow N s b = FAIL := by
  rw [follow_ids hS hs]; exact posOf_eq_fail_iff hS _

theorem fail_ids {s : Nat} (hs : s < N.size) :
    ((idStates N).getD (posOf N s) {}).fail = posOf N (N.getD s {}).fail := by
  rw [idStates_getD hS hs]; rfl

theorem mats_ids {s : Nat} (hs : s < N.size) :
    ((idStates N).getD (posOf N s) {}).matches_ = (N.getD s {}).matches_ := by
  rw [idStates_getD hS hs]; rfl

theorem nextState_ids {V : Nat → Prop} (anch : Bool) (b : UInt8)
    (hlt : ∀ s, V s → s < N.size)
    (hfail : anch = false → ∀ s, V s → follow N s b = FAIL → V (N.getD s {}).fail) :
    ∀ (fuel s hp : Nat), V s →
      nextState (idStates N) anch fuel (posOf N s) b hp =
        (posOf N (nextState N anch fuel s b hp).1, (nextState N anch fuel s b hp).2) := by
  intro fuel
  induction fuel with
  | zero => intro s hp _; rfl
  | succ fuel ih =>
    intro s hp hv
    have hs := hlt s hv
    by_cases hf : follow N s b = FAIL
    · have hf' := (follow_ids_fail_iff hS hs b).2 hf
      cases anch with
      | true =>
        rw [nextState_anch_fail _ fuel _ b hp hf', nextState_anch_fail N fuel s b hp hf]
        show (DEAD, hp) = (posOf N DEAD, hp)
        rw [posOf_dead hS]
      | false =>
        rw [nextState_go _ fuel _ b hp hf', nextState_go N fuel s b hp hf, fail_ids hS hs]
        exact ih _ _ (hfail rfl s hv hf)
    · have hf' : follow (idStates N) (posOf N s) b ≠ FAIL :=
        fun e => hf ((follow_ids_fail_iff hS hs b).1 e)
      rw [nextState_stop _ anch fuel _ b hp hf', nextState_stop N anch fuel s b hp hf,
        follow_ids hS hs]

end

/-! ## the checked loop -/

theorem next?_succ (m : NfaI) (anch : Bool) (fuel sid : Nat) (b : UInt8) :
    m.next? anch (fuel + 1) sid b =
      match m.states[sid]? with
      | none => none
      | some st =>
        if (lookup st.trans b != FAIL) = true then some (lookup st.trans b)
        else if anch = true then some DEAD
        else m.next? anch fuel st.fail b := rfl

theorem nextState_hops_le (n : CNfa) (anch : Bool) (b : UInt8) :
    ∀ (fuel s hp : Nat), (nextState n anch fuel s b hp).2 ≤ hp + fuel := by
  intro fuel
  induction fuel with
  | zero => intro s hp; exact Nat.le_refl _
  | succ fuel ih =>
    intro s hp
    by_cases hf : follow n s b = FAIL
    · cases anch with
      | true => rw [nextState_anch_fail n fuel s b hp hf]; exact Nat.le_add_right _ _
      | false =>
        rw [nextState_go n fuel s b hp hf]
        have := ih (n.getD s {}).fail (hp + 1)
        omega
    · rw [nextState_stop n anch fuel s b hp hf]; exact Nat.le_add_right _ _

section
variable {N : CNfa} (hS : ShufOK N)
include hS

/-- The hypothesis on the hop counter says that the unchecked loop on `N` returned before the fuel
ran out; every `states[·]` read along the way is in range (`hlt`), so `next?` is not `none`. -/
theorem next?_ids {V : Nat → Prop} (hasPre anch : Bool) (b : UInt8)
    (hlt : ∀ s, V s → s < N.size)
    (hfail : anch = false → ∀ s, V s → follow N s b = FAIL → V (N.getD s {}).fail) :
    ∀ (fuel s hp : Nat), V s → (nextState N anch fuel s b hp).2 < hp + fuel →
      (buildNfaIds N hasPre).next? anch fuel (posOf N s) b =
        some (posOf N (nextState N anch fuel s b hp).1) := by
  intro fuel
  induction fuel with
  | zero => intro s hp _ h; exact absurd h (Nat.lt_irrefl _)
  | succ fuel ih =>
    intro s hp hv hh
    have hs := hlt s hv
    rw [next?_succ, buildNfaIds_states, idStates_getElem? hS hs]
    have hl : lookup (remapState (posOf N) (N.getD s {})).trans b = posOf N (follow N s b) := by
      rw [← follow_ids hS hs, follow_eq, idStates_getD hS hs]
    show (if (lookup (remapState (posOf N) (N.getD s {})).trans b != FAIL) = true then _ else _) = _
    rw [hl]
    by_cases hf : follow N s b = FAIL
    · have e1 : ¬ (posOf N (follow N s b) != FAIL) = true := by
        rw [hf, posOf_fail hS]; simp
      rw [if_neg e1]
      cases anch with
      | true =>
        rw [if_pos rfl, nextState_anch_fail N fuel s b hp hf]
        show some DEAD = some (posOf N DEAD)
        rw [posOf_dead hS]
      | false =>
        rw [if_neg (by simp)]
        rw [nextState_go N fuel s b hp hf] at hh ⊢
        show (buildNfaIds N hasPre).next? false fuel (posOf N (N.getD s {}).fail) b = _
        exact ih _ (hp + 1) (hfail rfl s hv hf) (by omega)
    · have e1 : (posOf N (follow N s b) != FAIL) = true := by
        have : posOf N (follow N s b) ≠ FAIL := fun e => hf ((posOf_eq_fail_iff hS _).1 e)
        simpa using this
      rw [if_pos e1, nextState_stop N anch fuel s b hp hf]

end

/-! ## all ids, reachable or not: `is_match` by id range is the per-state flag, except at `FAIL` -/

section
variable {N : CNfa} (hS : ShufOK N) (hmm : CNfa.isMatch N SU = CNfa.isMatch N SA)
  (hd : (N.getD DEAD {}).matches_ = [])
include hS hmm hd

theorem isMatch_all (hasPre : Bool) {q : Nat} (hq : q < (buildNfaIds N hasPre).states.size)
    (h1 : q ≠ FAIL) :
    (buildNfaIds N hasPre).isMatch q = true ↔
      ((buildNfaIds N hasPre).states.getD q {}).matches_ ≠ [] := by
  rw [buildNfaIds_states, idStates_size] at hq
  have hs := hS.order_lt q hq
  have e : posOf N ((cOrder N).getD q 0) = q := hS.pos_order q hq
  have hs1 : (cOrder N).getD q 0 ≠ 1 := by
    intro e1
    rw [e1] at e
    have : posOf N 1 = 1 := hS.pos1
    rw [this] at e
    exact h1 e.symm
  have hfm := pos_le_maxMatch_iff hS hmm hs hs1
  rw [e] at hfm
  have em : ((buildNfaIds N hasPre).states.getD q {}).matches_ =
      (N.getD ((cOrder N).getD q 0) {}).matches_ := by
    rw [buildNfaIds_states]
    have := mats_ids hS hs
    rw [e] at this
    exact this
  rw [em]
  show (q != 0 && decide (q ≤ nfaMaxMatch N (cNa N))) = true ↔ _
  simp only [Bool.and_eq_true, bne_iff_ne, ne_eq, decide_eq_true_eq]
  rw [hfm]
  constructor
  · intro h; exact mats_ne_nil_of_isMatch h.2
  · intro h
    refine ⟨?_, ?_⟩
    · intro e0; rw [e0] at h; exact h hd
    · cases hm : CNfa.isMatch N ((cOrder N).getD q 0)
      · exact absurd (mats_eq_nil_of_not_isMatch hm) h
      · rfl

omit hmm hd in
/-- `is_match(FAIL)` is `true` (the "N.B." in `is_match`): `max_match_id ≥ 1` -/
theorem isMatch_fail (hasPre : Bool) : (buildNfaIds N hasPre).isMatch FAIL = true := by
  have := nfaMaxMatch_ge_one hS
  show (FAIL != 0 && decide (FAIL ≤ nfaMaxMatch N (cNa N))) = true
  rw [Bool.and_eq_true, decide_eq_true_eq]
  exact ⟨rfl, this⟩

end

end AcVerif.L1cIdsP
