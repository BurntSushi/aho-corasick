import AcVerif.Proofs.Struct
import AcVerif.Fold
/-!
# C05, generic part: the search loop with a prefilter versus the loop without

Two automata `A0` (prefilter-free flags) and `A1` (start state flagged special) that agree on
everything except `isSpecial` at one state `q0` (non-dead, non-match).  `SameButSpecial A0 A1` is
the agreement (same `next`, `isDead`, `isMatch`, `mpats`, `patLen`; dead and match states special in
both); `StartFlagged A0 A1 q0` adds: `A0.isSpecial` is exactly dead-or-match, `A1.isSpecial` differs
from it only at `q0`.  Both are stable under `comap`.  Anchored and empty-span searches never consult
the prefilter (`findImp_noPre`, `tryFind_noPre`).  In the other searches one iteration with the
prefilter on `A1` is a prefilter-free iteration on `A0` (`move_flagged`, `findLoop_flagged` /
`findLoop_free`) unless it enters `q0`, where it follows the prefilter's verdict
(`move_flagged_start`, `findLoop_flagged_start`, `follow`): the subject of `PreTransparent`.
-/
namespace AcVerif.PreP
open AcVerif AcVerif.ScanP
variable {σ α : Type}

/-! ## the span start is only read by the anchored filter -/

theorem findS_s_irrel (A : Aut σ α) (s s' : Nat) (earliest : Bool) (rest : List α) :
    ∀ (sid : σ) (at_ : Nat) (mat : Option Mat),
      findS A s false earliest sid at_ mat rest = findS A s' false earliest sid at_ mat rest := by
  induction rest with
  | nil => intros; rfl
  | cons c rest ih =>
    intro sid at_ mat
    simp only [findS, Bool.false_and, Bool.not_false, if_true, ih]

/-! ## without a prefilter the extra special flag is invisible -/

/-- the fields the search loops read agree, except `isSpecial` away from dead and match states
(no inclusion between the two flag sets is asked; `start` is compared separately) -/
structure SameButSpecial (A0 A1 : Aut σ α) : Prop where
  next : A1.next = A0.next
  dead : A1.isDead = A0.isDead
  isMatch : A1.isMatch = A0.isMatch
  mpats : A1.mpats = A0.mpats
  patLen : A1.patLen = A0.patLen
  special : ∀ q, (A0.isDead q || A0.isMatch q) = true → A0.isSpecial q = true ∧ A1.isSpecial q = true

theorem SameButSpecial.getMatch {A0 A1 : Aut σ α} (h : SameButSpecial A0 A1) (q : σ) (i at_ : Nat) :
    getMatch A1 q i at_ = getMatch A0 q i at_ := by
  simp only [AcVerif.getMatch, h.mpats, h.patLen]

/-- the loops only tell a special state from an ordinary one when it is dead or a match state -/
theorem SameButSpecial.branch {A0 A1 : Aut σ α} (h : SameButSpecial A0 A1) {ρ : Type} (q : σ)
    (D M X : ρ) :
    (if A1.isSpecial q then if A0.isDead q then D else if A0.isMatch q then M else X else X) =
      if A0.isSpecial q then if A0.isDead q then D else if A0.isMatch q then M else X else X := by
  by_cases hq : (A0.isDead q || A0.isMatch q) = true
  · rw [(h.special q hq).1, (h.special q hq).2]
  · rw [Bool.or_eq_true, not_or, Bool.not_eq_true, Bool.not_eq_true] at hq
    simp only [hq.1, hq.2, Bool.false_eq_true, if_false, ite_self]

theorem findS_noPre {A0 A1 : Aut σ α} (h : SameButSpecial A0 A1) (s : Nat) (anch earliest : Bool)
    (rest : List α) : ∀ (sid : σ) (at_ : Nat) (mat : Option Mat),
      findS A1 s anch earliest sid at_ mat rest = findS A0 s anch earliest sid at_ mat rest := by
  induction rest with
  | nil => intros; rfl
  | cons c rest ih =>
    intro sid at_ mat
    simp only [findS, h.next, h.dead, h.isMatch, h.getMatch, ih]
    exact h.branch _ _ _ _

theorem findImp_noPre {A0 A1 : Aut σ α} (h : SameButSpecial A0 A1)
    (hstart : A1.start = A0.start) (i : Input α) (anch ea : Bool) :
    findImp A1 i none anch ea = findImp A0 i none anch ea := by
  unfold findImp
  rw [hstart]
  cases A0.start i.anch with
  | none => rfl
  | some q => simp only [h.isMatch, h.getMatch, findLoop_eq_findS, findS_noPre h]

theorem tryFind_noPre {A0 A1 : Aut σ α} (h : SameButSpecial A0 A1) (hstart : A1.start = A0.start)
    (hkind : A1.kind = A0.kind) (pre : Option (Prefilter α)) (i : Input α)
    (hi : i.isDone = true ∨ i.anch = true) : tryFindFwd A1 pre i = tryFindFwd A0 none i := by
  unfold tryFindFwd
  rw [hkind, hstart]
  rcases hi with hd | ha
  · rw [hd]; rfl
  · simp only [ha, if_true, findImp_noPre h hstart]

theorem tryFindFwd_unanch (A : Aut σ α) (pre : Option (Prefilter α)) (i : Input α)
    (hi : ¬ (i.isDone = true ∨ i.anch = true)) :
    i.s ≤ i.e ∧ i.anch = false ∧
      tryFindFwd A pre i = findImp A i pre false (A.kind == .std || i.earliest) := by
  rw [not_or, Bool.not_eq_true, Bool.not_eq_true] at hi
  refine ⟨?_, hi.2, ?_⟩
  · have := hi.1
    simp only [Input.isDone, decide_eq_false_iff_not] at this
    omega
  · unfold tryFindFwd
    simp only [hi.1, hi.2, Bool.false_eq_true, if_false]

/-! ## with a prefilter: the same steps outside the start state -/

/-- what the loop does with the prefilter's verdict in the start state, having just consumed
`hay[at_]` -/
def follow (A : Aut σ α) (hay : List α) (s e : Nat) (he : e ≤ hay.length) (p : Prefilter α)
    (earliest : Bool) (q0 : σ) (at_ : Nat) (mat : Option Mat) : Option Mat :=
  match (p hay at_ e).intoOption with
  | Option.none => Option.none
  | some i =>
    if i > at_ then findLoop A hay s e he (some p) false earliest q0 i mat
    else findLoop A hay s e he (some p) false earliest q0 (at_ + 1) mat

/-- `A1` flags exactly one more state special than `A0`: the start state `q0` -/
structure StartFlagged (A0 A1 : Aut σ α) (q0 : σ) : Prop extends SameButSpecial A0 A1 where
  special0 : ∀ q, A0.isSpecial q = (A0.isDead q || A0.isMatch q)
  special1 : ∀ q, q ≠ q0 → A1.isSpecial q = A0.isSpecial q
  q0_special : A1.isSpecial q0 = true
  q0_dead : A0.isDead q0 = false
  q0_match : A0.isMatch q0 = false

theorem SameButSpecial.comap {A0 A1 : Aut σ α} (h : SameButSpecial A0 A1) (g : α → α) :
    SameButSpecial (A0.comap g) (A1.comap g) :=
  { h with next := congrArg (fun n anch q c => n anch q (g c)) h.next }

theorem StartFlagged.comap {A0 A1 : Aut σ α} {q0 : σ} (h : StartFlagged A0 A1 q0)
    (g : α → α) : StartFlagged (A0.comap g) (A1.comap g) q0 :=
  { h with toSameButSpecial := h.toSameButSpecial.comap g }

/-! ### the decision on the two automata -/
section body
variable {A0 A1 : Aut σ α} {q0 : σ} (hA : StartFlagged A0 A1 q0) (hay : List α)
  (s e : Nat) (p : Prefilter α) (anch : Bool) (q : σ) (at_ : Nat)
include hA

theorem move_free :
    move A0 hay s e none false q at_ =
      if A0.isDead q then .dead
      else if A0.isMatch q then .hit (getMatch A0 q 0 (at_ + 1)) else .next := by
  unfold move
  rw [hA.special0]
  cases A0.isDead q <;> cases A0.isMatch q <;> rfl

theorem move_flagged (hq : q ≠ q0) :
    move A1 hay s e (some p) anch q at_ = move A0 hay s e none anch q at_ := by
  unfold move
  rw [hA.special1 q hq, hA.special0, hA.dead, hA.isMatch, hA.getMatch]
  cases A0.isDead q <;> cases A0.isMatch q <;> rfl

theorem move_flagged_start :
    move A1 hay s e (some p) anch q0 at_ = .asked (p hay at_ e) := by
  unfold move
  rw [hA.q0_special, hA.dead, hA.isMatch, hA.q0_dead, hA.q0_match]
  rfl

end body

/-! ### one iteration of either `findLoop` -/
section step
variable {A0 A1 : Aut σ α} {q0 : σ} (hA : StartFlagged A0 A1 q0) (hay : List α) (s e : Nat)
  (he : e ≤ hay.length) (ea : Bool) (q : σ) (at_ : Nat) (mat : Option Mat) (h : at_ < e) (q' : σ)
  (hq' : A0.next false q (hay[at_]'(Nat.lt_of_lt_of_le h he)) = q')
include hA hq'

theorem findLoop_free :
    findLoop A0 hay s e he none false ea q at_ mat =
      if A0.isDead q' then mat
      else if A0.isMatch q' then
        if ea then some (getMatch A0 q' 0 (at_ + 1))
        else findLoop A0 hay s e he none false ea q' (at_ + 1) (some (getMatch A0 q' 0 (at_ + 1)))
      else findLoop A0 hay s e he none false ea q' (at_ + 1) mat := by
  rw [findLoop_step A0 hay s e he none false ea q at_ mat h hq' (move_free hA ..)]
  cases A0.isDead q' <;> cases A0.isMatch q' <;> cases ea <;> rfl

theorem findLoop_flagged (p : Prefilter α) (hne : q' ≠ q0) :
    findLoop A1 hay s e he (some p) false ea q at_ mat =
      if A0.isDead q' then mat
      else if A0.isMatch q' then
        if ea then some (getMatch A0 q' 0 (at_ + 1))
        else findLoop A1 hay s e he (some p) false ea q' (at_ + 1)
          (some (getMatch A0 q' 0 (at_ + 1)))
      else findLoop A1 hay s e he (some p) false ea q' (at_ + 1) mat := by
  rw [findLoop_step A1 hay s e he (some p) false ea q at_ mat h (by rw [hA.next]; exact hq')
    ((move_flagged hA _ _ _ _ _ _ _ hne).trans (move_free hA ..))]
  cases A0.isDead q' <;> cases A0.isMatch q' <;> cases ea <;> rfl

theorem findLoop_flagged_start (p : Prefilter α) (hq0 : q' = q0) :
    findLoop A1 hay s e he (some p) false ea q at_ mat = follow A1 hay s e he p ea q0 at_ mat := by
  subst hq0
  rw [findLoop_step A1 hay s e he (some p) false ea q at_ mat h (by rw [hA.next]; exact hq')
    (move_flagged_start hA ..)]
  unfold follow
  cases hi : (p hay at_ e).intoOption with
  | none => simp only [Move.halts, hi, Option.isNone_none, if_true]; rfl
  | some i =>
    simp only [Move.halts, Move.resume, findUpd, hi, Option.isNone_some, Option.getD_some,
      Bool.false_eq_true, if_false]
    by_cases hi' : i > at_
    · rw [if_pos hi', Nat.max_eq_left hi']
    · rw [if_neg hi', Nat.max_eq_right (Nat.le_succ_of_le (Nat.le_of_not_lt hi'))]

end step

end AcVerif.PreP
