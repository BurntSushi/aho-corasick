import AcVerif.Proofs.AlphabetClasses
import AcVerif.Proofs.BuildCheckedBase
import AcVerif.Proofs.ContigLayout
/-!
# C20: the checks of `densify`, of the contiguous NFA and of the DFA builder

* `contigOffsets` is the offsets table computed inside `buildContig` (`contigOffsets_eq`), hence the
  start of the state at shuffled position `i ≠ FAIL` is the prefix sum `offAt i`;
* all `StateID::new(dst.len())` tests pass iff the offset of the *last* state is below the limit
  (`contigAllocOk_iff_last`); in particular when `repr.len() ≤ limit + 1` (`contigAllocOk_of_repr`);
* a state is written with at most `259 + (number of its matches)` words, which bounds `repr.len()`
  (`repr_size_le`);
* the DFA table has at most `512·states.len()` entries (`buildDfaIds_shl_le`), from `stride2 ≤ 8`;
* `densify` allocates at most one row per state, and none for `dense_depth = 0`.
-/
namespace AcVerif.BuildP
open AcVerif AcVerif.CNfa AcVerif.L1eP AcVerif.L1dP

theorem contigOffsets_eq (n : CNfa) (dd : Nat) (bc : Bool) :
    contigOffsets n dd bc = cOffsets n dd bc := by
  unfold contigOffsets cOffsets cSizes cW cOrder clsOf ncOf
  rcases shuffleOrder n with ⟨o, na⟩
  rfl

theorem buildContig_startA (n : CNfa) (dd : Nat) (bc hp : Bool) :
    (buildContig n dd bc hp).startA = (contigOffsets n dd bc).getD ((shuffleOrder n).2 - 1) 0 := by
  rw [buildContig_eq, contigOffsets_eq]; rfl

theorem buildContig_repr_size (n : CNfa) (dd : Nat) (bc hp : Bool) :
    (buildContig n dd bc hp).repr.size = offAt n dd bc n.size := by
  rw [buildContig_eq]; exact cRepr_size n dd bc

theorem contigAllocOk_iff (L : Limits) (n : CNfa) (dd : Nat) (bc : Bool) :
    contigAllocOk L n dd bc = true ↔
      ∀ i, i < n.size → i ≠ 1 → offAt n dd bc i < L.stateIdLimit := by
  simp only [contigAllocOk, List.all_eq_true, List.mem_range, contigOffsets_eq, Bool.or_eq_true,
    beq_iff_eq, decide_eq_true_eq, FAIL]
  refine forall_congr' fun i => forall_congr' fun hi => ?_
  rw [cOffsets_getD n dd bc hi]
  by_cases h1 : i = 1 <;> simp [h1]

theorem contigAllocOk_iff_last (L : Limits) (n : CNfa) (dd : Nat) (bc : Bool) (h3 : 3 ≤ n.size) :
    contigAllocOk L n dd bc = true ↔ offAt n dd bc (n.size - 1) < L.stateIdLimit := by
  rw [contigAllocOk_iff]
  constructor
  · intro h; exact h (n.size - 1) (by omega) (by omega)
  · intro h i hi _
    have : offAt n dd bc i ≤ offAt n dd bc (n.size - 1) := psum_mono _ (by omega)
    omega

theorem contigAllocOk_of_repr (L : Limits) (n : CNfa) (dd : Nat) (bc hp : Bool)
    (h : (buildContig n dd bc hp).repr.size ≤ L.stateIdLimit + 1) :
    contigAllocOk L n dd bc = true := by
  rw [contigAllocOk_iff]
  intro i hi h1
  rw [buildContig_repr_size] at h
  have := offAt_lt n dd bc hi h1
  omega

/-! ## how long a written state can be -/

theorem wTail_length_le (st : CState) : (wTail st).length ≤ 1 + st.matches_.length := by
  unfold wTail
  split
  · simp
  · split
    · simp
    · simp only [List.length_cons]; omega

theorem u32Len_le (k : Nat) : u32Len k ≤ k / 4 + 1 := by
  unfold u32Len; split <;> omega

theorem writeState_length_le (classOf : UInt8 → Nat) (al : Nat) (st : CState) (f : Nat → Nat)
    (fd : Bool) (hal : al ≤ 256) :
    (writeState classOf al st f fd).length ≤ 259 + st.matches_.length := by
  have ht := wTail_length_le st
  rcases writeState_cases st fd with h | ⟨h1, _, b, t, h3, h4⟩ | ⟨h1, h2, h3⟩
  · rw [writeState_dense _ _ _ _ _ h]
    simp only [List.length_append, Array.length_toList, denseRow_size, List.length_cons,
      List.length_nil]
    omega
  · rw [writeState_one _ _ _ _ _ h1 b t h3 h4]
    simp only [List.length_cons, List.length_nil]; omega
  · rw [writeState_sparse _ _ _ _ _ h1 h2 h3]
    simp only [List.length_append, List.length_map, List.length_cons, List.length_nil]
    rw [chunks_length _ _ (by simp)]
    simp only [List.length_map]
    have := u32Len_le st.trans.length
    omega

theorem psum_le_mul (g : Nat → Nat) (c : Nat) :
    ∀ k, (∀ i, i < k → g i ≤ c) → psum g k ≤ c * k
  | 0, _ => by simp [psum]
  | k + 1, h => by
    have := psum_le_mul g c k (fun i hi => h i (by omega))
    have := h k (by omega)
    simp only [psum, Nat.mul_add, Nat.mul_one]
    omega

theorem sizeAt_le (n : CNfa) (dd : Nat) (bc : Bool) (c : Nat)
    (hc : ∀ sid, (n.getD sid {}).matches_.length ≤ c) (i : Nat) : sizeAt n dd bc i ≤ 259 + c := by
  unfold sizeAt
  split
  · omega
  · unfold cW
    have := writeState_length_le (clsOf n bc) (ncOf n bc) (n.getD ((cOrder n).getD i 0) {})
      (fun t => t) (decide ((storedDepths n).getD ((cOrder n).getD i 0) 0 < dd)) (ncOf_le n bc)
    have := hc ((cOrder n).getD i 0)
    omega

theorem repr_size_le (n : CNfa) (dd : Nat) (bc hp : Bool) (c : Nat)
    (hc : ∀ sid, (n.getD sid {}).matches_.length ≤ c) :
    (buildContig n dd bc hp).repr.size ≤ (259 + c) * n.size := by
  rw [buildContig_repr_size]
  exact psum_le_mul _ _ _ (fun i _ => sizeAt_le n dd bc c hc i)

/-! ## the DFA -/

theorem stride2Of_le (alen : Nat) : stride2Of alen ≤ 8 := by
  unfold stride2Of
  cases h : (List.range 9).find? fun k => decide (alen ≤ 2 ^ k) with
  | none => simp
  | some k =>
    have := List.mem_of_find?_eq_some h
    have := List.mem_range.1 this
    simp only [Option.getD_some]; omega

theorem buildDfaIds_stride2 (n : CNfa) (sk : StartKind) (bc hp : Bool) :
    (buildDfaIds n sk bc hp).stride2 = stride2Of (ncOf n bc) := by
  unfold buildDfaIds ncOf clsOf
  cases sk <;> rfl

theorem buildDfaIds_stateLen (n : CNfa) (sk : StartKind) (bc hp : Bool) :
    (buildDfaIds n sk bc hp).stateLen =
      match sk with
      | .both => 2 * n.size - 4
      | _ => n.size := by
  unfold buildDfaIds
  cases sk <;> rfl

theorem buildDfaIds_stride2_le (n : CNfa) (sk : StartKind) (bc hp : Bool) :
    (buildDfaIds n sk bc hp).stride2 ≤ 8 := by
  rw [buildDfaIds_stride2]; exact stride2Of_le _

/-- at most `2·states.len()` rows of stride at most 256 -/
theorem buildDfaIds_shl_le (n : CNfa) (sk : StartKind) (bc hp : Bool) :
    (buildDfaIds n sk bc hp).stateLen <<< (buildDfaIds n sk bc hp).stride2 ≤ 512 * n.size := by
  have hrows : (buildDfaIds n sk bc hp).stateLen ≤ 2 * n.size := by
    rw [buildDfaIds_stateLen]
    cases sk <;> simp only <;> omega
  have hstride : 2 ^ (buildDfaIds n sk bc hp).stride2 ≤ 2 ^ 8 :=
    Nat.pow_le_pow_right (by decide) (buildDfaIds_stride2_le n sk bc hp)
  rw [Nat.shiftLeft_eq]
  have := Nat.mul_le_mul hrows hstride
  omega

/-! ## the `densify` test -/

theorem denseCount_le (n : CNfa) (dd : Nat) : denseCount n dd ≤ n.size := by
  unfold denseCount
  have h1 := List.length_filter_le (fun r : Option (Array Nat) => r.isSome) (denseRows n dd).toList
  have h2 : (denseRows n dd).toList.length = n.size := by simp [denseRows]
  omega

theorem denseCount_zero (n : CNfa) : denseCount n 0 = 0 := by
  unfold denseCount
  rw [List.length_eq_zero_iff, List.filter_eq_nil_iff]
  intro r hr
  unfold denseRows at hr
  simp only [Array.toList_map, List.mem_map] at hr
  obtain ⟨sid, _, rfl⟩ := hr
  split <;> simp

theorem nncAlphabetLen_le (n : CNfa) : nncAlphabetLen n ≤ 256 :=
  L1dP.ncOf_le n true

theorem contigAllocOk_of_matches (L : Limits) (n : CNfa) (dd : Nat) (bc : Bool) (c : Nat)
    (hc : ∀ sid, (n.getD sid {}).matches_.length ≤ c)
    (h : (259 + c) * n.size ≤ L.stateIdLimit + 1) : contigAllocOk L n dd bc = true :=
  contigAllocOk_of_repr L n dd bc false (Nat.le_trans (repr_size_le n dd bc false c hc) h)

end AcVerif.BuildP
