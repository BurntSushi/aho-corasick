import AcVerif.DfaModel
import AcVerif.Proofs.CompilerRun
import AcVerif.Proofs.AlphabetClasses
/-!
# Byte classes, `sparse_iter`, and rows filled by `set!`

* `ClassOK N classOf nc`: all that the DFA builder needs of a class map: classes are `< nc`, and
  two *different* bytes of one class are both absent from the trie (`trieBytes N`).  Holds for
  the `ByteClassSet` classes (`classOK_marks`) and for singleton classes (`classOK_id`).
* `sparseIter_spec`: every emitted triple is `(rep, classOf rep, lookup rep)`, and the class of
  every byte is emitted.
* `foldSet`: a row filled by a sequence of `set!`s; `foldSet_keep` / `foldSet_some` give the entry
  of a class that no write / only writes of one value go to.

Namespace `L1dP` holds the proofs about `buildDfa` of `AcVerif/DfaModel.lean` (ids not premultiplied,
flags read off the NFA states).
-/
namespace AcVerif.L1dP
open AcVerif AcVerif.CNfa AcVerif.L1cP

theorem not_supportsAnch {sk : StartKind} {anch : Bool} (h : ¬ supportsAnch sk anch) :
    (sk = .unanchored ∧ anch = true) ∨ (sk = .anchored ∧ anch = false) := by
  unfold supportsAnch at h
  cases sk <;> cases anch <;> simp at h ⊢

/-! ## counting marks below a byte -/

theorem classOfMarks_mono (marks : List UInt8) {b b' : UInt8} (h : b.toNat ≤ b'.toNat) :
    classOfMarks marks b ≤ classOfMarks marks b' :=
  AlphaP.cnt_mono _ h

theorem no_mark_between (marks : List UInt8) {b b' : UInt8}
    (hc : classOfMarks marks b = classOfMarks marks b') (m : Nat) (h1 : b.toNat ≤ m)
    (h2 : m < b'.toNat) : marks.contains m.toUInt8 = false := by
  cases hm : marks.contains m.toUInt8 with
  | false => rfl
  | true =>
    rw [AlphaP.classOfMarks_eq_cnt, AlphaP.classOfMarks_eq_cnt] at hc
    have h3 := AlphaP.cnt_mono (fun m => marks.contains m.toUInt8) h1
    have h4 := AlphaP.cnt_mono (fun m => marks.contains m.toUInt8) (show m + 1 ≤ b'.toNat from h2)
    rw [AlphaP.cnt_succ, hm, if_pos rfl] at h4
    omega

theorem mem_marksOf_self {E : List UInt8} {b : UInt8} (h : b ∈ E) : b ∈ marksOf E := by
  unfold marksOf
  rw [List.mem_flatMap]
  refine ⟨b, h, ?_⟩
  split <;> simp

theorem mem_marksOf_pred {E : List UInt8} {b : UInt8} (h : b ∈ E) (h0 : 0 < b.toNat) :
    b - 1 ∈ marksOf E := by
  unfold marksOf
  rw [List.mem_flatMap]
  refine ⟨b, h, ?_⟩
  have : b > 0 := by
    show 0 < b
    rw [UInt8.lt_iff_toNat_lt]; simpa using h0
  rw [if_pos this]; simp

theorem toUInt8_toNat (b : UInt8) : b.toNat.toUInt8 = b := by simp

theorem toUInt8_pred (b : UInt8) (h : 0 < b.toNat) : (b.toNat - 1).toUInt8 = b - 1 := by
  apply UInt8.toNat_inj.1
  have := UInt8.toNat_lt b
  simp only [Nat.toUInt8, UInt8.toNat_ofNat']
  rw [UInt8.toNat_sub_of_le]
  · simp; omega
  · rw [UInt8.le_iff_toNat_le]; simp; omega

theorem class_marks_not_mem (E : List UInt8) {b b' : UInt8} (hlt : b.toNat < b'.toNat)
    (hc : classOfMarks (marksOf E) b = classOfMarks (marksOf E) b') : b ∉ E ∧ b' ∉ E := by
  constructor
  · intro hb
    have h := no_mark_between _ hc b.toNat (Nat.le_refl _) hlt
    rw [toUInt8_toNat] at h
    have : (marksOf E).contains b = true := by
      simpa using mem_marksOf_self hb
    rw [this] at h; cases h
  · intro hb
    have h0 : 0 < b'.toNat := by omega
    have h := no_mark_between _ hc (b'.toNat - 1) (by omega) (by omega)
    rw [toUInt8_pred _ h0] at h
    have : (marksOf E).contains (b' - 1) = true := by
      simpa using mem_marksOf_pred hb h0
    rw [this] at h; cases h

/-! ## the class map abstraction -/

structure ClassOK (N : CNfa) (classOf : UInt8 → Nat) (nc : Nat) : Prop where
  lt : ∀ b, classOf b < nc
  cong : ∀ b b', classOf b = classOf b' → b ≠ b' → b ∉ trieBytes N ∧ b' ∉ trieBytes N

theorem classOK_marks (N : CNfa) :
    ClassOK N (classOfMarks (marksOf (trieBytes N)))
      (classOfMarks (marksOf (trieBytes N)) 255 + 1) where
  lt := by
    intro b
    have : b.toNat ≤ (255 : UInt8).toNat := by
      have := UInt8.toNat_lt b
      show b.toNat ≤ 255
      omega
    have := classOfMarks_mono (marksOf (trieBytes N)) this
    omega
  cong := by
    intro b b' hc hne
    have hn : b.toNat ≠ b'.toNat := fun e => hne (UInt8.toNat_inj.1 e)
    by_cases hlt : b.toNat < b'.toNat
    · exact class_marks_not_mem _ hlt hc
    · have := class_marks_not_mem (trieBytes N) (b := b') (b' := b) (by omega) hc.symm
      exact ⟨this.2, this.1⟩

theorem classOK_id (N : CNfa) : ClassOK N (fun b => b.toNat) ((255 : UInt8).toNat + 1) where
  lt := by
    intro b
    have := UInt8.toNat_lt b
    show b.toNat < 255 + 1
    omega
  cong := by
    intro b b' hc hne
    exact absurd (UInt8.toNat_inj.1 hc) hne

/-! ## `sparse_iter` -/

/-- the walk of `sparseIter`, over an arbitrary list of byte numbers -/
def siWalk (f : UInt8 → Nat) (classOf : UInt8 → Nat) (l : List Nat)
    (acc : List (UInt8 × Nat × Nat) × Option Nat) : List (UInt8 × Nat × Nat) × Option Nat :=
  l.foldl (fun acc i =>
    if acc.2 != some (classOf i.toUInt8) then
      (acc.1 ++ [(i.toUInt8, classOf i.toUInt8, f i.toUInt8)], some (classOf i.toUInt8))
    else acc) acc

theorem foldl_congr' {α β : Type} (f g : β → α → β) (l : List α)
    (h : ∀ acc x, f acc x = g acc x) (b : β) : l.foldl f b = l.foldl g b := by
  have : f = g := funext fun acc => funext fun x => h acc x
  rw [this]

theorem sparseIter_eq (trans : List (UInt8 × Nat)) (classOf : UInt8 → Nat) :
    sparseIter trans classOf = (siWalk (lookup trans) classOf (List.range 256) ([], none)).1 := by
  unfold sparseIter siWalk
  refine congrArg Prod.fst (foldl_congr' _ _ _ ?_ _)
  intro acc i
  simp only [lookup]
  cases trans.find? (fun x => x.1 == i.toUInt8) <;> rfl

structure SI (f : UInt8 → Nat) (classOf : UInt8 → Nat) (seen : List Nat)
    (acc : List (UInt8 × Nat × Nat) × Option Nat) : Prop where
  wf : ∀ x ∈ acc.1, x.2.1 = classOf x.1 ∧ x.2.2 = f x.1
  last : ∀ c, acc.2 = some c → ∃ x ∈ acc.1, x.2.1 = c
  cover : ∀ i ∈ seen, ∃ x ∈ acc.1, x.2.1 = classOf i.toUInt8

theorem siWalk_SI (f : UInt8 → Nat) (classOf : UInt8 → Nat) (l : List Nat) :
    ∀ (seen : List Nat) (acc : List (UInt8 × Nat × Nat) × Option Nat), SI f classOf seen acc →
      SI f classOf (seen ++ l) (siWalk f classOf l acc) := by
  induction l with
  | nil => intro seen acc h; simpa [siWalk] using h
  | cons i l ih =>
    intro seen acc h
    have hstep : SI f classOf (seen ++ [i])
        (if acc.2 != some (classOf i.toUInt8) then
          (acc.1 ++ [(i.toUInt8, classOf i.toUInt8, f i.toUInt8)], some (classOf i.toUInt8))
        else acc) := by
      have hnew : ∀ c, classOf i.toUInt8 = c →
          ∃ x ∈ acc.1 ++ [(i.toUInt8, classOf i.toUInt8, f i.toUInt8)], x.2.1 = c :=
        fun c hc => ⟨_, List.mem_append_right _ (List.mem_singleton.2 rfl), hc⟩
      split
      · refine ⟨?_, fun c hc => hnew c (Option.some.inj hc), ?_⟩
        · intro x hx
          rcases List.mem_append.1 hx with hx | hx
          · exact h.wf x hx
          · rw [List.mem_singleton.1 hx]; exact ⟨rfl, rfl⟩
        · intro j hj
          rcases List.mem_append.1 hj with hj | hj
          · obtain ⟨x, hx, hxc⟩ := h.cover j hj
            exact ⟨x, List.mem_append_left _ hx, hxc⟩
          · rw [List.mem_singleton.1 hj]; exact hnew _ rfl
      · next hc =>
        refine ⟨h.wf, h.last, ?_⟩
        intro j hj
        rcases List.mem_append.1 hj with hj | hj
        · exact h.cover j hj
        · rw [List.mem_singleton.1 hj]; exact h.last _ (by simpa using hc)
    have := ih (seen ++ [i]) _ hstep
    rw [List.append_assoc] at this
    exact this

theorem sparseIter_spec (trans : List (UInt8 × Nat)) (classOf : UInt8 → Nat) :
    (∀ x ∈ sparseIter trans classOf, x.2.1 = classOf x.1 ∧ x.2.2 = lookup trans x.1) ∧
      ∀ b : UInt8, ∃ x ∈ sparseIter trans classOf, x.2.1 = classOf b := by
  have h0 : SI (lookup trans) classOf [] ([], none) :=
    ⟨(by intro x hx; cases hx), (by intro c hc; cases hc), (by intro i hi; cases hi)⟩
  have h := siWalk_SI (lookup trans) classOf (List.range 256) [] _ h0
  rw [sparseIter_eq]
  refine ⟨h.wf, ?_⟩
  intro b
  have := h.cover b.toNat (by simpa using UInt8.toNat_lt b)
  rw [toUInt8_toNat] at this
  exact this

/-! ## rows filled by `set!` -/

def foldSet {ι : Type} (cls : ι → Nat) (act : ι → Option Nat) (l : List ι) (row : Array Nat) :
    Array Nat :=
  l.foldl (fun row x => match act x with | some v => row.set! (cls x) v | none => row) row

theorem foldSet_cons {ι : Type} (cls : ι → Nat) (act : ι → Option Nat) (x : ι) (l : List ι)
    (row : Array Nat) :
    foldSet cls act (x :: l) row =
      foldSet cls act l (match act x with | some v => row.set! (cls x) v | none => row) := rfl

theorem foldSet_size {ι : Type} (cls : ι → Nat) (act : ι → Option Nat) (l : List ι)
    (row : Array Nat) : (foldSet cls act l row).size = row.size := by
  induction l generalizing row with
  | nil => rfl
  | cons x l ih =>
    rw [foldSet_cons, ih]
    split
    · simp [Array.set!]
    · rfl

theorem foldSet_keep {ι : Type} (cls : ι → Nat) (act : ι → Option Nat) (c d : Nat) (l : List ι) :
    ∀ (row : Array Nat), (∀ x ∈ l, cls x = c → act x = none) →
      (foldSet cls act l row).getD c d = row.getD c d := by
  induction l with
  | nil => intro row _; rfl
  | cons x l ih =>
    intro row hall
    rw [foldSet_cons, ih _ (fun y hy => hall y (List.mem_cons_of_mem _ hy))]
    by_cases hx : cls x = c
    · rw [hall x List.mem_cons_self hx]
    · split
      · rw [Array.getD_set!, if_neg (fun h => hx h.1)]
      · rfl

theorem foldSet_stay {ι : Type} (cls : ι → Nat) (act : ι → Option Nat) (c d v : Nat) (l : List ι) :
    ∀ (row : Array Nat), (∀ x ∈ l, cls x = c → act x = some v) → row.getD c d = v →
      (foldSet cls act l row).getD c d = v := by
  induction l with
  | nil => intro row _ h; exact h
  | cons x l ih =>
    intro row hall h
    rw [foldSet_cons]
    apply ih _ (fun y hy => hall y (List.mem_cons_of_mem _ hy))
    by_cases hx : cls x = c
    · rw [hall x List.mem_cons_self hx]
      simp only
      rw [Array.getD_set!]
      split
      · rfl
      · exact h
    · split
      · rw [Array.getD_set!, if_neg (fun h => hx h.1)]; exact h
      · exact h

theorem foldSet_some {ι : Type} (cls : ι → Nat) (act : ι → Option Nat) (c d v : Nat) (l : List ι) :
    ∀ (row : Array Nat), c < row.size → (∀ x ∈ l, cls x = c → act x = some v) →
      (∃ x ∈ l, cls x = c) → (foldSet cls act l row).getD c d = v := by
  induction l with
  | nil => intro row _ _ hex; obtain ⟨x, hx, _⟩ := hex; cases hx
  | cons x l ih =>
    intro row hc hall hex
    have hall' : ∀ y ∈ l, cls y = c → act y = some v :=
      fun y hy => hall y (List.mem_cons_of_mem _ hy)
    rw [foldSet_cons]
    by_cases hx : cls x = c
    · rw [hall x List.mem_cons_self hx]
      simp only
      apply foldSet_stay cls act c d v l _ hall'
      rw [Array.getD_set!, if_pos ⟨hx, hc⟩]
    · apply ih _ _ hall'
      · obtain ⟨y, hy, hyc⟩ := hex
        rcases List.mem_cons.1 hy with e | e
        · subst e; exact absurd hyc hx
        · exact ⟨y, e, hyc⟩
      · split
        · simpa [Array.set!] using hc
        · exact hc

end AcVerif.L1dP
