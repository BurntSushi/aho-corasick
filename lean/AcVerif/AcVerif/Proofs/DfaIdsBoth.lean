import AcVerif.Proofs.DfaBothRows
import AcVerif.Proofs.DfaIxSim
/-!
# `finish_build_both_starts`: the remap tables and the interleaved rows in closed form, over a
placement

Both loops run over `0 .. n.size` and append one block per position: one entry for the positions
`0`, `1` (dead, fail), `na - 2`, `na - 1` (the start states), two (unanchored, anchored) for every
other (`foldl_append_blocks`).  `cntB na i` is the number of DFA state indices handed out before
position `i`, `idxB na anch p` the index of the copy of position `p` that the mode `anch` uses.

`Place n order pos na` says which state the loop meets where; `Place.rem` and `Place.rows` give the
id of a state and the row and match list at its index, `Place.both_ixSim` the simulation.  The
stored DFA is the placement `(cOrder n, posOf n, cNa n)` with stride `2 ^ stride2`
(`DfaIdsBothSim`), the DFA of `DfaModel.lean` the placement `(Array.range n.size, id, 4)` with
stride `1` (`DfaBoth`).
-/
namespace AcVerif.L1dIdsP
open AcVerif AcVerif.CNfa AcVerif.L1cP AcVerif.L1dP AcVerif.L1eP

/-- positions that get one DFA id -/
abbrev sgl (na i : Nat) : Prop := i < 2 ∨ i + 2 = na ∨ i + 1 = na

def cntB (na i : Nat) : Nat :=
  if i ≤ 2 then i else if i + 2 ≤ na then 2 * i - 2 else if i + 1 = na then 2 * na - 5 else 2 * i - 4

/-- the index of the anchored (or only) copy of position `i` -/
def iA (na i : Nat) : Nat := if sgl na i then cntB na i else cntB na i + 1

theorem cntB_cases (na i : Nat) :
    (i ≤ 2 ∧ cntB na i = i) ∨ (2 < i ∧ i + 2 ≤ na ∧ cntB na i = 2 * i - 2) ∨
      (2 < i ∧ i + 1 = na ∧ cntB na i = 2 * na - 5) ∨ (2 < i ∧ na ≤ i ∧ cntB na i = 2 * i - 4) := by
  unfold cntB
  split
  · exact Or.inl ⟨‹_›, rfl⟩
  split
  · exact Or.inr (Or.inl ⟨by omega, ‹_›, rfl⟩)
  split
  · exact Or.inr (Or.inr (Or.inl ⟨by omega, ‹_›, rfl⟩))
  · exact Or.inr (Or.inr (Or.inr ⟨by omega, by omega, rfl⟩))

theorem cntB_succ {na : Nat} (h4 : 4 ≤ na) (i : Nat) :
    cntB na (i + 1) = cntB na i + if sgl na i then 1 else 2 := by
  have a := cntB_cases na i
  have b := cntB_cases na (i + 1)
  unfold sgl
  split <;> omega

theorem cntB_mono {na : Nat} (h4 : 4 ≤ na) {i j : Nat} (h : i ≤ j) : cntB na i ≤ cntB na j := by
  induction j with
  | zero => rw [Nat.le_zero.1 h]; exact Nat.le_refl _
  | succ j ih =>
    rcases Nat.le_succ_iff.1 h with h | h
    · exact Nat.le_trans (ih h) (by rw [cntB_succ h4]; exact Nat.le_add_right _ _)
    · rw [h]; exact Nat.le_refl _

theorem cntB_zero (na : Nat) : cntB na 0 = 0 := rfl

theorem cntB_eq_zero_iff {na : Nat} (i : Nat) : cntB na i = 0 ↔ i = 0 := by
  have := cntB_cases na i
  omega

theorem cntB_size {na sz : Nat} (h4 : 4 ≤ na) (h : na ≤ sz) : cntB na sz = 2 * sz - 4 := by
  have := cntB_cases na sz
  omega

theorem cntB_le_two_mul {na : Nat} {i : Nat} (h : 2 ≤ i) : cntB na i ≤ 2 * i - 2 := by
  have := cntB_cases na i
  omega

theorem cntB_ge_two {na : Nat} (h4 : 4 ≤ na) {i : Nat} (h : 2 ≤ i) : 2 ≤ cntB na i := by
  have := cntB_cases na i
  omega

theorem iA_eq {na : Nat} (h4 : 4 ≤ na) (i : Nat) : iA na i = cntB na (i + 1) - 1 := by
  rw [cntB_succ h4]
  unfold iA
  split <;> omega

theorem iA_ge (na i : Nat) : cntB na i ≤ iA na i := by
  unfold iA; split <;> omega

theorem iA_lt {na : Nat} (h4 : 4 ≤ na) (i : Nat) : iA na i < cntB na (i + 1) := by
  rw [cntB_succ h4]
  unfold iA
  split <;> omega

theorem slot_le_iff {na : Nat} (h4 : 4 ≤ na) {p m x : Nat} (h1 : cntB na p ≤ x)
    (h2 : x < cntB na (p + 1)) : x ≤ iA na m ↔ p ≤ m := by
  have hm := iA_lt h4 m
  have hm' := iA_eq h4 m
  constructor
  · intro h
    apply Nat.le_of_not_lt
    intro e
    have := cntB_mono h4 (show m + 1 ≤ p from e)
    omega
  · intro h
    have := cntB_mono h4 (show p + 1 ≤ m + 1 by omega)
    omega

theorem slot_inj {na : Nat} (h4 : 4 ≤ na) {p q x : Nat} (h1 : cntB na p ≤ x)
    (h2 : x < cntB na (p + 1)) (h3 : cntB na q ≤ x) (h4' : x < cntB na (q + 1)) : p = q := by
  apply Nat.le_antisymm <;> apply Nat.le_of_not_lt <;> intro e
  · have := cntB_mono h4 (show q + 1 ≤ p from e); omega
  · have := cntB_mono h4 (show p + 1 ≤ q from e); omega

/-! ## the loop conditions as propositions -/

theorem dead_or_fail_iff (i : Nat) : ((i == DEAD) = true ∨ (i == FAIL) = true) ↔ i < 2 := by
  simp only [DEAD, FAIL, beq_iff_eq]
  omega

theorem beq_sub_iff {na c : Nat} (h : c ≤ na) (i : Nat) : (i == na - c) = true ↔ i + c = na := by
  rw [beq_iff_eq]
  omega

/-! ## the remap tables -/

def remFoldB (na st m : Nat) : Array Nat × Array Nat × Nat :=
  (List.range m).foldl (idsRemStep na st) (#[], #[], 0)

theorem remFoldB_succ (na st m : Nat) :
    remFoldB na st (m + 1) = idsRemStep na st (remFoldB na st m) m := by
  unfold remFoldB
  rw [List.range_succ, List.foldl_append]
  rfl

theorem idsRemStep_cases {na : Nat} (h4 : 4 ≤ na) (st : Nat) (acc : Array Nat × Array Nat × Nat)
    (i : Nat) :
    idsRemStep na st acc i =
      (acc.1.push (if i + 1 = na then 0 else acc.2.2),
        acc.2.1.push (if i + 2 = na then 0 else if sgl na i then acc.2.2 else acc.2.2 + st),
        acc.2.2 + if sgl na i then st else 2 * st) := by
  unfold idsRemStep sgl
  simp only [Bool.or_eq_true, dead_or_fail_iff, beq_sub_iff (show 2 ≤ na by omega),
    beq_sub_iff (show 1 ≤ na by omega)]
  by_cases h0 : i < 2
  · rw [if_pos h0, if_neg (by omega), if_neg (by omega), if_pos (Or.inl h0), if_pos (Or.inl h0)]
  rw [if_neg h0]
  by_cases h2 : i + 2 = na
  · rw [if_pos h2, if_neg (by omega), if_pos h2, if_pos (Or.inr (Or.inl h2))]
  rw [if_neg h2, if_neg h2]
  by_cases h3 : i + 1 = na
  · rw [if_pos h3, if_pos h3, if_pos (Or.inr (Or.inr h3)), if_pos (Or.inr (Or.inr h3))]
  · rw [if_neg h3, if_neg h3, if_neg (by omega), if_neg (by omega)]

/-- `remap_unanchored` at position `i` -/
def vU (na st i : Nat) : Nat := if i + 1 = na then 0 else cntB na i * st

/-- `remap_anchored` at position `i` -/
def vA (na st i : Nat) : Nat := if i + 2 = na then 0 else iA na i * st

theorem remFoldB_eq {na : Nat} (h4 : 4 ≤ na) (st m : Nat) :
    remFoldB na st m =
      ((Array.range m).map (vU na st), (Array.range m).map (vA na st), cntB na m * st) := by
  induction m with
  | zero => simp [remFoldB, cntB_zero]
  | succ m ih =>
    have hA : (if m + 2 = na then 0 else if sgl na m then cntB na m * st
        else cntB na m * st + st) = vA na st m := by
      unfold vA iA
      split
      · rfl
      · split
        · rfl
        · rw [Nat.add_mul, Nat.one_mul]
    have hN : cntB na m * st + (if sgl na m then st else 2 * st) = cntB na (m + 1) * st := by
      rw [cntB_succ h4, Nat.add_mul]
      split
      · rw [Nat.one_mul]
      · rfl
    rw [remFoldB_succ, ih, idsRemStep_cases h4, Array.range_succ, Array.map_append,
      Array.map_append]
    simp only [hA, hN, Array.push_eq_append, List.map_toArray, List.map_cons, List.map_nil]
    rfl

theorem remFoldB_valU {na : Nat} (h4 : 4 ≤ na) (st : Nat) {m i : Nat} (h : i < m) :
    (remFoldB na st m).1.getD i 0 = vU na st i := by
  rw [remFoldB_eq h4]
  exact Array.getD_map_range _ _ _ _ h

theorem remFoldB_valA {na : Nat} (h4 : 4 ≤ na) (st : Nat) {m i : Nat} (h : i < m) :
    (remFoldB na st m).2.1.getD i 0 = vA na st i := by
  rw [remFoldB_eq h4]
  exact Array.getD_map_range _ _ _ _ h

/-! ## the interleaved rows / match lists -/

theorem foldl_append_blocks {β : Type} (blk : Nat → Array β) (pos : Nat → Nat) (h0 : pos 0 = 0)
    (hs : ∀ i, pos (i + 1) = pos i + (blk i).size) (d : β) (m : Nat) :
    ((List.range m).foldl (fun a i => a ++ blk i) #[]).size = pos m ∧
      ∀ i j, i < m → j < (blk i).size → pos i + j < pos m ∧
        ((List.range m).foldl (fun a i => a ++ blk i) #[]).getD (pos i + j) d = (blk i).getD j d := by
  induction m with
  | zero => exact ⟨by simp [h0], fun i j hi => by omega⟩
  | succ m ih =>
    rw [List.range_succ, List.foldl_append]
    simp only [List.foldl_cons, List.foldl_nil]
    generalize (List.range m).foldl (fun a i => a ++ blk i) #[] = a at ih
    obtain ⟨hsz, hget⟩ := ih
    refine ⟨by rw [Array.size_append, hsz, hs], fun i j hi hj => ?_⟩
    rw [hs m]
    by_cases him : i < m
    · obtain ⟨hlt, hv⟩ := hget i j him hj
      exact ⟨by omega, by rw [Array.getD_append_left _ _ _ (hsz ▸ hlt), hv]⟩
    · have : i = m := by omega
      subst this
      exact ⟨by omega, by rw [← hsz, Array.getD_append_right]⟩


section
variable (n : CNfa) (classOf : UInt8 → Nat) (nc na : Nat) (order : Array Nat) (remU remA : Nat → Nat)

def rowsFoldB (m : Nat) : Array (Array Nat) × Array (List Nat) :=
  (List.range m).foldl (idsRowsStep n classOf nc na order remU remA) (#[], #[])

theorem rowsFoldB_succ (m : Nat) :
    rowsFoldB n classOf nc na order remU remA (m + 1) =
      idsRowsStep n classOf nc na order remU remA (rowsFoldB n classOf nc na order remU remA m) m := by
  unfold rowsFoldB
  rw [List.range_succ, List.foldl_append]
  rfl

def rowsAt (i : Nat) : Array (Array Nat) :=
  if sgl na i then
    #[if i < 2 then Array.replicate nc 0
      else idsStartRow n classOf nc (if i + 2 = na then remU else remA) (order.getD i 0)]
  else #[idsURow n classOf nc remU (order.getD i 0), idsARow n classOf nc remA (order.getD i 0)]

def msAt (i : Nat) : Array (List Nat) :=
  if sgl na i then #[if i < 2 then [] else (n.getD (order.getD i 0) {}).matches_]
  else #[(n.getD (order.getD i 0) {}).matches_, (n.getD (order.getD i 0) {}).matches_]

theorem idsRowsStep_eq (h4 : 4 ≤ na) (acc : Array (Array Nat) × Array (List Nat)) (i : Nat) :
    idsRowsStep n classOf nc na order remU remA acc i =
      (acc.1 ++ rowsAt n classOf nc na order remU remA i, acc.2 ++ msAt n na order i) := by
  unfold idsRowsStep rowsAt msAt sgl
  simp only [Bool.or_eq_true, dead_or_fail_iff, beq_sub_iff (show 2 ≤ na by omega),
    beq_sub_iff (show 1 ≤ na by omega)]
  by_cases h0 : i < 2
  · rw [if_pos h0, if_pos (Or.inl h0), if_pos (Or.inl h0), if_pos h0, if_pos h0,
      Array.push_eq_append, Array.push_eq_append]
  rw [if_neg h0, if_neg h0, if_neg h0]
  by_cases hs : i + 2 = na ∨ i + 1 = na
  · rw [if_pos hs, if_pos (Or.inr hs), if_pos (Or.inr hs), Array.push_eq_append,
      Array.push_eq_append]
  · rw [if_neg hs, if_neg (by omega), if_neg (by omega)]
    simp only [Array.push_eq_append, Array.append_assoc]
    rfl

theorem rowsAt_size (i : Nat) :
    (rowsAt n classOf nc na order remU remA i).size = if sgl na i then 1 else 2 := by
  unfold rowsAt; split <;> rfl

theorem msAt_size (i : Nat) : (msAt n na order i).size = if sgl na i then 1 else 2 := by
  unfold msAt; split <;> rfl

theorem rowsFoldB_eq (h4 : 4 ≤ na) (m : Nat) :
    rowsFoldB n classOf nc na order remU remA m =
      ((List.range m).foldl (fun a i => a ++ rowsAt n classOf nc na order remU remA i) #[],
        (List.range m).foldl (fun a i => a ++ msAt n na order i) #[]) := by
  induction m with
  | zero => rfl
  | succ m ih =>
    rw [rowsFoldB_succ, ih, idsRowsStep_eq n classOf nc na order remU remA h4, List.range_succ,
      List.foldl_append, List.foldl_append]
    rfl

theorem rowsFoldB_get (h4 : 4 ≤ na) {m p : Nat} (hp : p < m) {j : Nat}
    (hj : j < if sgl na p then 1 else 2) :
    (rowsFoldB n classOf nc na order remU remA m).1.getD (cntB na p + j) #[] =
        (rowsAt n classOf nc na order remU remA p).getD j #[] ∧
      (rowsFoldB n classOf nc na order remU remA m).2.getD (cntB na p + j) [] =
        (msAt n na order p).getD j [] := by
  rw [rowsFoldB_eq n classOf nc na order remU remA h4]
  exact ⟨((foldl_append_blocks _ (cntB na) rfl (fun i => by rw [rowsAt_size, cntB_succ h4]) #[]
      m).2 p j hp (by rw [rowsAt_size]; exact hj)).2,
    ((foldl_append_blocks _ (cntB na) rfl (fun i => by rw [msAt_size, cntB_succ h4]) [] m).2 p j
      hp (by rw [msAt_size]; exact hj)).2⟩

theorem rowsFoldB_sgl (h4 : 4 ≤ na) {m p : Nat} (hp : p < m) (hs : sgl na p) :
    (rowsFoldB n classOf nc na order remU remA m).1.getD (cntB na p) #[] =
        (if p < 2 then Array.replicate nc 0
          else idsStartRow n classOf nc (if p + 2 = na then remU else remA) (order.getD p 0)) ∧
      (rowsFoldB n classOf nc na order remU remA m).2.getD (cntB na p) [] =
        if p < 2 then [] else (n.getD (order.getD p 0) {}).matches_ := by
  have r := rowsFoldB_get n classOf nc na order remU remA h4 hp (j := 0)
    (by rw [if_pos hs]; exact Nat.one_pos)
  unfold rowsAt msAt at r
  rw [if_pos hs, if_pos hs] at r
  exact r

theorem rowsFoldB_node (h4 : 4 ≤ na) {m p : Nat} (hp : p < m) (hs : ¬ sgl na p) :
    ((rowsFoldB n classOf nc na order remU remA m).1.getD (cntB na p) #[] =
        idsURow n classOf nc remU (order.getD p 0) ∧
      (rowsFoldB n classOf nc na order remU remA m).2.getD (cntB na p) [] =
        (n.getD (order.getD p 0) {}).matches_) ∧
    ((rowsFoldB n classOf nc na order remU remA m).1.getD (cntB na p + 1) #[] =
        idsARow n classOf nc remA (order.getD p 0) ∧
      (rowsFoldB n classOf nc na order remU remA m).2.getD (cntB na p + 1) [] =
        (n.getD (order.getD p 0) {}).matches_) := by
  have r0 := rowsFoldB_get n classOf nc na order remU remA h4 hp (j := 0)
    (by rw [if_neg hs]; decide)
  have r1 := rowsFoldB_get n classOf nc na order remU remA h4 hp (j := 1)
    (by rw [if_neg hs]; decide)
  unfold rowsAt msAt at r0 r1
  rw [if_neg hs, if_neg hs] at r0 r1
  exact ⟨r0, r1⟩

end

/-! ## the index of a position in a mode -/

def idxB (na : Nat) : Bool → Nat → Nat
  | true, p => iA na p
  | false, p => cntB na p

theorem idxB_ge (na : Nat) (anch : Bool) (p : Nat) : cntB na p ≤ idxB na anch p := by
  cases anch
  · exact Nat.le_refl _
  · exact iA_ge na p

theorem idxB_lt {na : Nat} (h4 : 4 ≤ na) (anch : Bool) (p : Nat) :
    idxB na anch p < cntB na (p + 1) := by
  cases anch
  · show cntB na p < _
    rw [cntB_succ h4]; split <;> omega
  · exact iA_lt h4 p

theorem idxB_sgl {na p : Nat} (hs : sgl na p) (anch : Bool) : idxB na anch p = cntB na p := by
  cases anch
  · rfl
  · exact if_pos hs

theorem idxB_eq_zero_iff {na : Nat} (anch : Bool) (p : Nat) : idxB na anch p = 0 ↔ p = 0 := by
  constructor
  · intro e
    have := idxB_ge na anch p
    exact (cntB_eq_zero_iff (na := na) p).1 (by omega)
  · intro e
    rw [e, idxB_sgl (Or.inl (by decide))]; rfl

theorem idxB_eq_cntB_iff {na : Nat} (h4 : 4 ≤ na) (anch : Bool) {p q : Nat} (hq : sgl na q) :
    idxB na anch p = cntB na q ↔ p = q := by
  constructor
  · intro e
    have := cntB_succ h4 q
    rw [if_pos hq] at this
    exact slot_inj h4 (idxB_ge na anch p) (idxB_lt h4 anch p) (Nat.le_of_eq e.symm) (by omega)
  · intro e
    rw [e, idxB_sgl hq]

/-! ## placements -/

structure Place (n : CNfa) (order : Array Nat) (pos : Nat → Nat) (na : Nat) : Prop where
  na_ge : 4 ≤ na
  pos_lt : ∀ s, s < n.size → pos s < n.size
  order_pos : ∀ s, s < n.size → order.getD (pos s) 0 = s
  kind : ∀ s, s < n.size → s ≠ 1 →
    (s = 0 ∧ pos s = 0) ∨ (s = 2 ∧ pos s + 2 = na) ∨ (s = 3 ∧ pos s + 1 = na) ∨
      (4 ≤ s ∧ 2 ≤ pos s ∧ ¬ sgl na (pos s))

section
variable {n : CNfa} {order : Array Nat} {pos : Nat → Nat} {na : Nat} (hP : Place n order pos na)
include hP

theorem Place.pos_iff {s : Nat} (hs : s < n.size) (h1 : s ≠ 1) :
    (pos s = 0 ↔ s = 0) ∧ (pos s + 2 = na ↔ s = 2) ∧ (pos s + 1 = na ↔ s = 3) := by
  have h4 := hP.na_ge
  rcases hP.kind s hs h1 with h | h | h | ⟨_, _, h⟩
  · omega
  · omega
  · omega
  · unfold sgl at h; omega

theorem Place.rem (st : Nat) {anch : Bool} {s : Nat} (hs : s < n.size) (h1 : s ≠ 1)
    (ho : s ≠ startOf (!anch)) :
    (if anch then (remFoldB na st n.size).2.1 else (remFoldB na st n.size).1).getD (pos s) 0 =
      idxB na anch (pos s) * st := by
  obtain ⟨_, hu, ha⟩ := hP.pos_iff hs h1
  cases anch
  · exact (remFoldB_valU hP.na_ge _ (hP.pos_lt s hs)).trans (if_neg fun e => ho (ha.1 e))
  · exact (remFoldB_valA hP.na_ge _ (hP.pos_lt s hs)).trans (if_neg fun e => ho (hu.1 e))

theorem Place.rows (classOf : UInt8 → Nat) (nc : Nat) (remG : Bool → Nat → Nat) {anch : Bool}
    {s : Nat} (hs : s < n.size) (h1 : s ≠ 1) (ho : s ≠ startOf (!anch)) :
    (rowsFoldB n classOf nc na order (remG false) (remG true) n.size).1.getD
        (idxB na anch (pos s)) #[] = rowOf n classOf nc anch (remG anch) s ∧
      (rowsFoldB n classOf nc na order (remG false) (remG true) n.size).2.getD
        (idxB na anch (pos s)) [] = if s = 0 then [] else (n.getD s {}).matches_ := by
  have h4 := hP.na_ge
  have hp : pos s < n.size := hP.pos_lt s hs
  have eo : order.getD (pos s) 0 = s := hP.order_pos s hs
  have single := fun sg => rowsFoldB_sgl n classOf nc na order (remG false) (remG true) h4 hp sg
  rcases hP.kind s hs h1 with ⟨e, p⟩ | ⟨e, p⟩ | ⟨e, p⟩ | ⟨e, p, ns⟩
  · -- dead
    have sg : sgl na (pos s) := Or.inl (by omega)
    have r := single sg
    have p2 : pos s < 2 := by omega
    rw [if_pos p2, if_pos p2] at r
    rw [idxB_sgl sg, if_pos e, rowOf_dead _ _ _ _ _ e]
    exact r
  · -- the unanchored start state, remapped by `remap_unanchored`
    have ea : anch = false := by cases anch; rfl; exact absurd e ho
    have sg : sgl na (pos s) := Or.inr (Or.inl p)
    have r := single sg
    have p2 : ¬ pos s < 2 := by omega
    rw [if_neg p2, if_neg p2, if_pos p, eo] at r
    rw [idxB_sgl sg, if_neg (show ¬ s = 0 by omega), ea, rowOf_start _ _ _ _ _ e]
    exact r
  · -- the anchored start state, remapped by `remap_anchored`
    have ea : anch = true := by cases anch; exact absurd e ho; rfl
    have sg : sgl na (pos s) := Or.inr (Or.inr p)
    have r := single sg
    have p2 : ¬ pos s < 2 := by omega
    rw [if_neg p2, if_neg p2, if_neg (show ¬ pos s + 2 = na by omega), eo] at r
    rw [idxB_sgl sg, if_neg (show ¬ s = 0 by omega), ea, rowOf_start _ _ _ _ _ e]
    exact r
  · -- a trie node: the unanchored copy, then the anchored copy
    have r := rowsFoldB_node n classOf nc na order (remG false) (remG true) h4 hp ns
    rw [eo] at r
    rw [rowOf_node _ _ _ _ _ e, if_neg (show ¬ s = 0 by omega)]
    cases anch
    · exact r.1
    · have ei : idxB na true (pos s) = cntB na (pos s) + 1 := if_neg ns
      rw [ei]
      exact r.2

end

/-! ## the simulation at the indices `idxB na anch (pos s)` -/

def remP (pos : Nat → Nat) (na W n : Nat) (a : Bool) (t : Nat) : Nat :=
  (if a then (remFoldB na W n).2.1 else (remFoldB na W n).1).getD (pos t) 0

theorem Place.both_ixSim {f : UInt8 → UInt8} {k : MatchKind} {Q : PatSet UInt8}
    {L : List (List UInt8)} {N : CNfa} {order : Array Nat} {pos : Nat → Nat} {na : Nat}
    {cls : UInt8 → Nat} {nc : Nat} (hP : Place N order pos na) (h : NfaSpec f k Q L N)
    (hC : ClassOK N cls nc) (W : Nat) (anch : Bool) :
    IxSim N L anch cls W
      (rowsFoldB N cls nc na order (remP pos na W N.size false) (remP pos na W N.size true)
        N.size).1
      (rowsFoldB N cls nc na order (remP pos na W N.size false) (remP pos na W N.size true)
        N.size).2
      (cntB na (na - 2)) (cntB na (na - 1)) (fun s => idxB na anch (pos s))
      (remP pos na W N.size anch) := by
  have h4 := hP.na_ge
  have hid : ∀ s, LvA L anch s → remP pos na W N.size anch s = idxB na anch (pos s) * W :=
    fun s hv => hP.rem W (h.LvA_lt_size hv) (h.LvA_ne_fail hv) (h.LvA_ne_other_start hv)
  have hrows := fun s (hv : LvA L anch s) => hP.rows cls nc (remP pos na W N.size)
    (h.LvA_lt_size hv) (h.LvA_ne_fail hv) (h.LvA_ne_other_start hv)
  have hpos := fun s (hv : LvA L anch s) => hP.pos_iff (h.LvA_lt_size hv) (h.LvA_ne_fail hv)
  have hd : LvA L anch 0 := LvA.of_Rel (q := .dead) rfl
  refine ⟨hid, ?_, ?_, fun s hv => (idxB_eq_zero_iff anch _).trans (hpos s hv).1, ?_, ?_⟩
  · intro s hv b
    have h0 : remP pos na W N.size anch 0 = 0 := by
      rw [hid 0 hd, (idxB_eq_zero_iff anch _).2 ((hpos 0 hd).1.2 rfl), Nat.zero_mul]
    rw [(hrows s hv).1]
    exact h.rowOf_entry hC anch _ h0 hv b
  · intro s hv
    rw [(hrows s hv).2]
    by_cases e : s = 0
    · rw [if_pos e, e]; exact h.mats_dead.symm
    · rw [if_neg e]
  · cases anch
    · show cntB na (na - 2) = cntB na (pos 2)
      have e : pos 2 + 2 = na := (hpos 2 (LvA_start L false)).2.1.2 rfl
      rw [show pos 2 = na - 2 by omega]
    · show cntB na (na - 1) = iA na (pos 3)
      have e : pos 3 + 1 = na := (hpos 3 (LvA_start L true)).2.2.2 rfl
      rw [show pos 3 = na - 1 by omega, iA, if_pos (Or.inr (Or.inr (by omega)))]
  · intro s hv _
    obtain ⟨_, hu, ha⟩ := hpos s hv
    have ho := h.LvA_ne_other_start hv
    rw [idxB_eq_cntB_iff h4 anch (Or.inr (Or.inl (by omega))),
      idxB_eq_cntB_iff h4 anch (Or.inr (Or.inr (by omega))),
      show pos s = na - 2 ↔ pos s + 2 = na by omega, show pos s = na - 1 ↔ pos s + 1 = na by omega,
      hu, ha]
    cases anch
    · exact ⟨fun e => e.resolve_right ho, Or.inl⟩
    · exact ⟨fun e => e.resolve_left ho, Or.inr⟩

end AcVerif.L1dIdsP
