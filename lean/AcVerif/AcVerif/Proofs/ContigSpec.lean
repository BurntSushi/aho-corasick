import AcVerif.Proofs.ContigDefs
import AcVerif.Proofs.CompilerRun
/-!
# L1e proofs: the compiled NFA meets `NfaSpec` and the list-level facts `FX`

`FX` is carried through the compiler's phases: `FX_of_FI` (it holds after `fillFailure`, from the
invariant `FI` and `PBg_startPhase`), `FX_closeSU` / `FX_closeStartLoop` (the last phase keeps it).
`compile_specX` gives one node list `L` with `NfaSpec`, `FX` and `L.Nodup` for `compile k fold P`.
`length_of_full`: a transition list with an entry for every byte has at least 256 entries, so the
dead and the two start states exceed the 127 of the sparse form and are written dense.
-/
namespace AcVerif.L1eP
open AcVerif AcVerif.CNfa AcVerif.L1cP

theorem FX_of_FI {fold : Bool} {k : MatchKind} {Q : PatSet UInt8} {L : List (List UInt8)}
    {nT n : CNfa} {pend : List (List UInt8)} (hT : TIg fold nT L Q [])
    (h : FI k Q L (startPhase nT) n pend) : FX L n := by
  have hB := PBg_startPhase hT
  have h4 : 4 ≤ nT.size := by rw [hT.size]; omega
  refine { sorted := ?_, nofail := ?_, fullSU := ?_, fullSA := ?_ }
  · intro sid; rw [h.trans]; exact hB.sorted sid
  · intro u hu x hx; rw [h.trans] at hx; exact hB.nofail u hu x hx
  · intro b; rw [h.trans]; exact hB.full b
  · intro b
    rw [h.trans, getD_startPhase nT h4, if_neg (by simp [SA, SU]), if_pos rfl]
    exact hT.full b

theorem FX_closeSU {L : List (List UInt8)} {n : CNfa} (hSU : SU < n.size)
    (hnode : ∀ u, u ∈ L → nu L u ≠ SU) (h : FX L n) : FX L (closeSU n) := by
  have hget := getD_closeSU n hSU
  refine { sorted := ?_, nofail := ?_, fullSU := ?_, fullSA := ?_ }
  · intro sid
    rw [hget]
    by_cases e : sid = SU
    · rw [if_pos e]
      exact sorted_map (fun t => if t == SU then DEAD else t) (h.sorted SU)
    · rw [if_neg e]; exact h.sorted sid
  · intro u hu x hx
    rw [hget, if_neg (hnode u hu)] at hx
    exact h.nofail u hu x hx
  · intro b
    obtain ⟨t, ht⟩ := h.fullSU b
    rw [hget, if_pos rfl]
    exact ⟨if t == SU then DEAD else t, List.mem_map.2 ⟨(b, t), ht, rfl⟩⟩
  · intro b
    rw [hget, if_neg (by simp [SA, SU])]
    exact h.fullSA b

theorem FX_closeStartLoop {L : List (List UInt8)} {n : CNfa} (k : MatchKind) (hSU : SU < n.size)
    (hnode : ∀ u, u ∈ L → nu L u ≠ SU) (h : FX L n) : FX L (closeStartLoop k n) := by
  rw [closeStartLoop_eq]
  by_cases hc : (k.isLeftmost && isMatch n SU) = true
  · rw [if_pos hc]; exact FX_closeSU hSU hnode h
  · rw [if_neg hc]; exact h

/-- the compiled automaton meets `NfaSpec` and the list-level facts `FX`, for the same node list
`L`, which has no duplicates -/
theorem compile_specX (k : MatchKind) (fold : Bool) (P : List (List UInt8)) :
    ∃ L, NfaSpec (foldIf fold) k (patSet k (P.map (List.map (foldIf fold)))) L (compile k fold P) ∧
      FX L (compile k fold P) ∧ L.Nodup := by
  obtain ⟨L, hT⟩ := buildTrie_specG k fold P
  have hB := PBg_startPhase hT
  obtain ⟨pend, hF, hall⟩ := fillFailure_specG (k := k) hB
  refine ⟨L, NfaSpec_of_FI hB hF hall, ?_, hB.nodup⟩
  show FX L (closeStartLoop k (fillFailure k fold (startPhase (buildTrie k fold P))))
  apply FX_closeStartLoop k
  · rw [hF.size, hB.size]; simp [SU]
  · intro u hu
    have := nu_ge (L := L) (hB.ne_nil hu)
    simp only [SU]; omega
  · exact FX_of_FI hT hF

/-! ## full lists are long -/

theorem length_of_keys : ∀ n, n ≤ 256 → ∀ l : List UInt8,
    (∀ i, i < n → UInt8.ofNat i ∈ l) → n ≤ l.length := by
  intro n
  induction n with
  | zero => intro _ l _; exact Nat.zero_le _
  | succ n ih =>
    intro hn l hl
    have hx : UInt8.ofNat n ∈ l := hl n (Nat.lt_succ_self n)
    have hlen := List.length_erase_of_mem hx
    have hpos : 0 < l.length := List.length_pos_of_mem hx
    have := ih (by omega) (l.erase (UInt8.ofNat n)) (by
      intro i hi
      refine (List.mem_erase_of_ne ?_).2 (hl i (by omega))
      intro e
      have := congrArg UInt8.toNat e
      simp only [UInt8.toNat_ofNat'] at this
      omega)
    omega

theorem length_of_full (l : List (UInt8 × Nat)) (h : ∀ b : UInt8, ∃ t, (b, t) ∈ l) :
    256 ≤ l.length := by
  have := length_of_keys 256 (Nat.le_refl _) (l.map Prod.fst) (by
    intro i _
    obtain ⟨t, ht⟩ := h (UInt8.ofNat i)
    exact List.mem_map.2 ⟨_, ht, rfl⟩)
  rwa [List.length_map] at this

end AcVerif.L1eP
