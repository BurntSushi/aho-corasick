import AcVerif.Proofs.NfaMemCompileAbs
import AcVerif.Proofs.CompilerBfs
import AcVerif.Proofs.NfaMemStep
/-!
# The shape of the automaton when the failure phase begins; the first loop with an inert set

`FP` is the static shape of the automaton when `fill_failure_transitions` starts (`FP_start`, from
the trie shape `TI`).  `fillStartU_inert`: the inert `QueuedSet` that the crate gives the first loop
of `fill_failure_transitions` when `fold = false` behaves like the real one `CNfa.fillStart`
consults – without case folding the start state's targets are pairwise different (`FP.distinct`);
`fillFailure_eq_U` states the phase with that loop (`fillStartU`).
-/
namespace AcVerif.MemC
open AcVerif AcVerif.CNfa AcVerif.L1cP

structure FP (fold : Bool) (n : CNfa) (d : Nat → Nat) : Prop where
  size4 : 4 ≤ n.size
  d0 : ∀ s, s < 4 → d s = 0
  dpos : ∀ s, 4 ≤ s → s < n.size → 1 ≤ d s ∧ d s + 3 ≤ s
  edge : ∀ s x, x ∈ (n.getD s {}).trans →
    x.2 < n.size ∧ (4 ≤ x.2 → d x.2 = d s + 1) ∧ (4 ≤ s → 4 ≤ x.2) ∧ (s = 2 → x.2 = 2 ∨ 4 ≤ x.2)
  /-- the unanchored start and the dead state have a transition on every byte -/
  fullSU : ∀ b, follow n 2 b ≠ FAIL
  fullDead : ∀ b, follow n 0 b ≠ FAIL
  distinct : fold = false → Distinct (n.getD 2 {}).trans

/-! ## the two start-state phases -/

/-- the rewrite of `add_unanchored_start_state_loop` -/
def loopT (l : List (UInt8 × Nat)) : List (UInt8 × Nat) :=
  l.map fun (b, t) => (b, if t == FAIL then SU else t)

theorem mem_loopT {l : List (UInt8 × Nat)} (hl : ∀ y ∈ l, y.2 = 1 ∨ 4 ≤ y.2) {x : UInt8 × Nat}
    (hx : x ∈ loopT l) : x.2 = 2 ∨ 4 ≤ x.2 ∧ x ∈ l := by
  obtain ⟨⟨y1, y2⟩, hy, rfl⟩ := List.mem_map.1 hx
  rcases hl _ hy with e | e
  · exact Or.inl (by simp only at e ⊢; rw [e]; rfl)
  · simp only at e ⊢
    have hne : ¬ (y2 == FAIL) = true := fun h => by
      rw [beq_iff_eq.1 h] at e; exact absurd e (by decide)
    rw [if_neg hne]
    exact Or.inr ⟨e, hy⟩

theorem keys_loopT (l : List (UInt8 × Nat)) : (loopT l).map (·.1) = l.map (·.1) := by
  unfold loopT
  rw [List.map_map]
  exact List.map_congr_left fun x _ => rfl

theorem FP_start {fold : Bool} {n : CNfa} {d : Nat → Nat} (h : TI fold n d) :
    FP fold (addStartLoop (setAnchoredStart n)) d := by
  have hg : ∀ s, (addStartLoop (setAnchoredStart n)).getD s {} =
      if s = 2 then { n.getD 2 {} with trans := loopT (n.getD 2 {}).trans }
      else if s = 3 then
        { trans := (n.getD 2 {}).trans, fail := DEAD,
          matches_ := (n.getD 3 {}).matches_ ++ (n.getD 2 {}).matches_ }
      else n.getD s {} := getD_startPhase n h.size4
  have hsz : (addStartLoop (setAnchoredStart n)).size = n.size := size_startPhase n
  have h4 := h.size4
  have hg2 : ((addStartLoop (setAnchoredStart n)).getD 2 {}).trans = loopT (n.getD 2 {}).trans := by
    rw [hg, if_pos rfl]
  have hg3 : ((addStartLoop (setAnchoredStart n)).getD 3 {}).trans = (n.getD 2 {}).trans := by
    rw [hg, if_neg (by decide), if_pos rfl]
  have hgo : ∀ s, s ≠ 2 → s ≠ 3 → (addStartLoop (setAnchoredStart n)).getD s {} = n.getD s {} :=
    fun s e2 e3 => by rw [hg, if_neg e2, if_neg e3]
  have hmem2 := @mem_loopT _ fun y hy => (h.edge 2 y hy).2.2.2 rfl
  refine {
    size4 := by rw [hsz]; exact h4
    d0 := h.d0
    dpos := fun s hs4 hs => h.dpos s hs4 (by rw [hsz] at hs; exact hs)
    edge := fun s x hx => ?_, fullSU := fun b => ?_, fullDead := fun b => ?_
    distinct := fun hf => ?_ }
  · rw [hsz]
    by_cases e2 : s = 2
    · rw [e2, hg2] at hx
      rw [e2]
      rcases hmem2 hx with a | ⟨a, hy⟩
      · rw [a]; exact ⟨by omega, fun h => absurd h (by decide), fun h => absurd h (by decide),
          fun _ => Or.inl rfl⟩
      · exact ⟨(h.edge 2 x hy).1, (h.edge 2 x hy).2.1, fun _ => a, fun _ => Or.inr a⟩
    · by_cases e3 : s = 3
      · rw [e3, hg3] at hx
        obtain ⟨a1, a2, _, _⟩ := h.edge 2 x hx
        rw [e3]
        refine ⟨a1, fun hx4 => ?_, fun h => absurd h (by decide), fun h => absurd h (by decide)⟩
        rw [a2 hx4, h.d0 2 (by decide), h.d0 3 (by decide)]
      · rw [hgo s e2 e3] at hx
        obtain ⟨a1, a2, a3, _⟩ := h.edge s x hx
        exact ⟨a1, a2, a3, fun e => absurd e e2⟩
  · rw [follow_eq]
    have hm := lookup_mem_of_key (l := ((addStartLoop (setAnchoredStart n)).getD 2 {}).trans)
      (b := b) (by rw [hg2, keys_loopT, h.keysSU]; exact mem_keys_fullTrans 0 b)
    rw [hg2] at hm ⊢
    intro e
    rw [e] at hm
    exact (hmem2 hm).elim (fun a : FAIL = 2 => absurd a (by decide))
      fun a => absurd (show 4 ≤ FAIL from a.1) (by decide)
  · rw [follow_eq, hgo 0 (by decide) (by decide), h.dead, lookup_fullTrans]
    decide
  · rw [hg2]
    unfold loopT Distinct
    rw [List.pairwise_map]
    refine (h.distinct hf).imp fun {x y} hxy e => ?_
    -- equal new targets: both were `FAIL`, or neither and they were equal before
    simp only [FAIL, SU, beq_iff_eq] at e ⊢
    split at e <;> split at e
    · rw [if_pos ‹_›]; decide
    · rw [if_pos ‹_›]; decide
    · rw [if_neg ‹_›, e]; decide
    · rw [if_neg ‹_›]; exact hxy e

/-! ## the first loop with an explicit `QueuedSet` mode -/

theorem size_copyMatches (n : CNfa) (src dst : Nat) : (copyMatches n src dst).size = n.size := by
  unfold copyMatches; rw [Array.size_modify]

theorem procStart_true (sim : Bool) (n : CNfa) (next : Nat) :
    procStart true sim n next =
      if (sim || isMatch n next) = true then n.modify next fun st => { st with fail := DEAD }
      else n := rfl

theorem procStart_false (sim : Bool) (n : CNfa) (next : Nat) :
    procStart false sim n next = copyMatches n SU next := by unfold procStart; exact if_pos rfl

theorem size_procStart (lm sim : Bool) (n : CNfa) (next : Nat) :
    (procStart lm sim n next).size = n.size := by
  cases lm with
  | true => rw [procStart_true]; split <;> simp
  | false => rw [procStart_false]; exact size_copyMatches ..

/-- `CNfa.fillStart` with the `QueuedSet` switched on or off (`fillStart` has it always on) -/
def fillStartU (useSeen lm sim : Bool) :
    List (UInt8 × Nat) → CNfa × List Nat × List Nat → CNfa × List Nat × List Nat
  | [], acc => acc
  | (_, next) :: rest, (n, queue, seen) =>
    if next == SU || (useSeen && seen.contains next) then
      fillStartU useSeen lm sim rest (n, queue, seen)
    else
      fillStartU useSeen lm sim rest
        (procStart lm sim n next, queue ++ [next], if useSeen then next :: seen else seen)

theorem fillStartU_true (lm sim : Bool) (l : List (UInt8 × Nat)) :
    ∀ acc, fillStartU true lm sim l acc = fillStart lm sim l acc := by
  induction l with
  | nil => intro acc; rfl
  | cons x rest ih =>
    intro acc
    obtain ⟨b, next⟩ := x
    obtain ⟨n, queue, seen⟩ := acc
    rw [fillStart_cons, fillStartU]
    simp only [Bool.true_and, if_true]
    split
    · exact ih _
    · exact ih _

/-- **the inert set of the first loop is as good as a real one** when the non-start targets of
the start state are pairwise different (no case folding) -/
theorem fillStartU_inert (lm sim : Bool) (l : List (UInt8 × Nat)) :
    ∀ (n : CNfa) (queue seen : List Nat), Distinct l → (∀ x ∈ l, x.2 = 2 ∨ 4 ≤ x.2) →
      (∀ s ∈ seen, 4 ≤ s ∧ ∀ x ∈ l, x.2 ≠ s) →
      (fillStartU false lm sim l (n, queue, [])).1 = (fillStart lm sim l (n, queue, seen)).1 ∧
      (fillStartU false lm sim l (n, queue, [])).2.1 = (fillStart lm sim l (n, queue, seen)).2.1 ∧
      (fillStartU false lm sim l (n, queue, [])).2.2 = [] := by
  induction l with
  | nil => intro n queue seen _ _ _; exact ⟨rfl, rfl, rfl⟩
  | cons x rest ih =>
    intro n queue seen hd ht hs
    obtain ⟨b, next⟩ := x
    have hd' := List.pairwise_cons.1 hd
    have ht' : ∀ x ∈ rest, x.2 = 2 ∨ 4 ≤ x.2 := fun x hx => ht x (List.mem_cons_of_mem _ hx)
    have hs' : ∀ s ∈ seen, 4 ≤ s ∧ ∀ x ∈ rest, x.2 ≠ s :=
      fun s hs0 => ⟨(hs s hs0).1, fun x hx => (hs s hs0).2 x (List.mem_cons_of_mem _ hx)⟩
    rw [fillStart_cons, fillStartU]
    simp only [Bool.false_and, Bool.or_false, Bool.false_eq_true, if_false]
    have hnc : seen.contains next = false := by
      rw [Bool.eq_false_iff]
      intro hc
      have hm : next ∈ seen := by simpa using hc
      exact (hs next hm).2 (b, next) List.mem_cons_self rfl
    rw [hnc, Bool.or_false]
    by_cases e : (next == SU) = true
    · rw [if_pos e, if_pos e]
      exact ih n queue seen hd'.2 ht' hs'
    · rw [if_neg e, if_neg e]
      have hn4 : 4 ≤ next := by
        rcases ht (b, next) List.mem_cons_self with h2 | h4
        · exact absurd (by simpa [SU] using h2) e
        · exact h4
      refine ih _ _ (next :: seen) hd'.2 ht' ?_
      intro s hs0
      rcases List.mem_cons.1 hs0 with e' | e'
      · subst e'
        refine ⟨hn4, fun x hx exs => ?_⟩
        have := hd'.1 x hx exs.symm
        simp only at this
        omega
      · exact hs' s e'

theorem fillFailure_eq_U (k : MatchKind) (fold : Bool) {n : CNfa} {d : Nat → Nat}
    (hP : FP fold n d) :
    fillFailure k fold n =
      bfs k.isLeftmost (isMatch n SU) fold
        (fillStartU fold k.isLeftmost (isMatch n SU) (n.getD SU {}).trans (n, [], [])).1.size
        (fillStartU fold k.isLeftmost (isMatch n SU) (n.getD SU {}).trans (n, [], [])) := by
  unfold fillFailure
  cases fold with
  | true =>
    simp only [if_true]
    rw [fillStartU_true]
  | false =>
    simp only [Bool.false_eq_true, if_false]
    obtain ⟨h1, h2, h3⟩ := fillStartU_inert k.isLeftmost (isMatch n SU) (n.getD SU {}).trans n [] []
      (hP.distinct rfl) (fun x hx => (hP.edge 2 x hx).2.2.2 rfl) (fun s hs => by cases hs)
    generalize fillStartU false k.isLeftmost (isMatch n SU) (n.getD SU {}).trans (n, [], []) = r
      at h1 h2 h3
    generalize fillStart k.isLeftmost (isMatch n SU) (n.getD SU {}).trans (n, [], []) = r'
      at h1 h2
    obtain ⟨r1, r2, r3⟩ := r
    obtain ⟨r1', r2', r3'⟩ := r'
    simp only at h1 h2 h3 ⊢
    subst h1; subst h2; subst h3
    rfl

end AcVerif.MemC
