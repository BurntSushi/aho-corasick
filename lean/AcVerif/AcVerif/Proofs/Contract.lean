import AcVerif.Proofs.SearchEquiv
/-!
# The `Automaton` contract along `SearchEquiv`

`Aut.ContractAt A q` (the clauses of the trait contract that speak of the observation at `q`: all
but the `is_start` clause) and `Aut.DeadAbsorbing`.  An automaton record with `SearchEquiv` to one
that has them has them at every state reached from a start state (`SearchEquiv.contractAt`,
`SearchEquiv.dead_absorbing`); the ideal automaton is dead-absorbing (`ideal_deadAbsorbing`).
`Theorems/C16All` proves `ContractAt` at every state of the ideal automaton, so that a layer gets
C16 from its one `*_searchEquiv`.
-/
namespace AcVerif
variable {σ τ α : Type}

def Aut.ContractAt (A : Aut σ α) (q : σ) : Prop :=
  ((A.isDead q = true ∨ A.isMatch q = true) → A.isSpecial q = true) ∧
  (A.isMatch q = true ↔ A.mpats q ≠ []) ∧
  ¬ (A.isDead q = true ∧ A.isMatch q = true) ∧
  (∀ p ∈ A.mpats q, p < A.patternsLen)

def Aut.DeadAbsorbing (A : Aut σ α) (anch : Bool) : Prop :=
  ∀ q, A.isDead q = true → ∀ v, A.isDead (A.runFrom anch q v) = true

/-- `special ⇒ dead ∨ match ∨ start`, for the shape the flag has in every automaton record:
`!d && m` is the record's `is_match` (the match flag `m` off the dead state), `s` its `is_start` -/
theorem special_cases {d m hasPre s : Bool} (h : (d || m || (hasPre && s)) = true) :
    d = true ∨ (!d && m) = true ∨ s = true := by
  cases d <;> cases m <;> cases hasPre <;> cases s <;> simp_all

namespace SearchEquiv
variable {A : Aut σ α} {B : Aut τ α} {anch : Bool} {s0 : σ}

/-- the contract speaks of the observation only, so it holds wherever `B` has it -/
theorem contractAt (h : SearchEquiv A B) (hn : A.patternsLen = B.patternsLen)
    (hB : ∀ q, B.ContractAt q) (hs : A.start anch = some s0) (w : List α) :
    A.ContractAt (A.runFrom anch s0 w) := by
  obtain ⟨b, _, ho⟩ := (h.start anch).of_start hs
  have h' := ho.after w
  unfold Aut.ContractAt
  rw [h'.dead, h'.isMatch, h'.special, h'.mpats, hn]
  exact hB _

theorem dead_absorbing (h : SearchEquiv A B) (hB : B.DeadAbsorbing anch)
    (hs : A.start anch = some s0) (w v : List α) (hd : A.isDead (A.runFrom anch s0 w) = true) :
    A.isDead (A.runFrom anch s0 (w ++ v)) = true := by
  obtain ⟨b, _, ho⟩ := (h.start anch).of_start hs
  rw [(ho.after (w ++ v)).dead, Aut.runFrom_append]
  exact hB _ ((ho.after w).dead ▸ hd) v

end SearchEquiv

section ideal
variable [DecidableEq α] (k : MatchKind) (P : List (List α)) (sk : StartKind) (hasPre : Bool)

theorem ideal_deadAbsorbing (anch : Bool) (g : α → α) :
    ((ideal k P sk hasPre).comap g).DeadAbsorbing anch := by
  intro q hq v
  obtain rfl : q = .dead := by simpa using (show (q == St.dead) = true from hq)
  have : ((ideal k P sk hasPre).comap g).runFrom anch .dead v = .dead := by
    induction v with
    | nil => rfl
    | cons c v ih => exact ih
  rw [this]
  rfl

end ideal

end AcVerif
