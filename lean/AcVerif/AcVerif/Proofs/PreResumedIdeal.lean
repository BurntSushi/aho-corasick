import AcVerif.Proofs.PreResumed
import AcVerif.Theorems.SpecUnique
/-!
# C05 for the stepwise overlapping search, on the ideal standard automaton

What the prefilter-free run reports from the start state at position `a` is *the* overlapping
enumeration of the span `[a, e]` (`restart_overlapList`, an instance of
`StdP.isOverlapList_allMatches`).  Hence the verdict of a `PrefilterSoundOvl` prefilter about
the remaining span determines it: `None` makes it empty, `some j` makes it the enumeration of
`[j, e]` (`IsOverlapList_unique`).  These are the two hypotheses of `ovlLoop_pre`.

As in `PreTransparent.lean` everything is proved for the automaton `(ideal …).comap g` reading
the haystack through a byte map `g`, with the prefilter reading the raw haystack and sound
relative to the mapped one (`PrefilterSoundOvlAt`); `g = id` is the plain statement,
`g = foldByte` the case-insensitive searcher.
-/
namespace AcVerif.PreP2
open AcVerif AcVerif.PreP AcVerif.StdP

section Generic
variable {σ α : Type}

/-- the span start is only read by the anchored filter -/
theorem allRep_s_irrel (A : Aut σ α) (s s' : Nat) (rest : List α) :
    ∀ (q : σ) (at_ : Nat), allRep A s false q at_ rest = allRep A s' false q at_ rest := by
  induction rest with
  | nil => intros; rfl
  | cons c rest ih =>
    intro q at_
    have hok : okPid A s false (at_ + 1) = okPid A s' false (at_ + 1) := by
      funext pid; simp [okPid]
    simp only [allRep, repAt, hok, ih]

theorem repAt_comap (A : Aut σ α) (g : α → α) (s : Nat) (anch : Bool) (q : σ) (at_ : Nat) :
    repAt (A.comap g) s anch q at_ = repAt A s anch q at_ := rfl

theorem allRep_comap (A : Aut σ α) (g : α → α) (s : Nat) (anch : Bool) (rest : List α) :
    ∀ (q : σ) (at_ : Nat),
      allRep (A.comap g) s anch q at_ rest = allRep A s anch q at_ (rest.map g) := by
  induction rest with
  | nil => intros; rfl
  | cons c rest ih =>
    intro q at_
    simp only [allRep, List.map_cons, repAt_comap, ih]
    rfl

theorem stdLike_comap {A : Aut σ α} (h : StdLike A) (g : α → α) : StdLike (A.comap g) :=
  { h with dead_next := fun anch q c hq => h.dead_next anch q (g c) hq }

end Generic

variable {α : Type} [DecidableEq α]

theorem restart_overlapList (P : List (List α)) (hne : ∀ p ∈ P, p ≠ []) (sk : StartKind)
    (hay : List α) (s a e : Nat) (he : e ≤ hay.length) (hae : a ≤ e) :
    IsOverlapList P hay a e false
      (allRep (ideal .std P sk false) s false (.at []) a ((hay.take e).drop a)) := by
  let i' : Input α := ⟨hay, a, e, false, false, ⟨he, by omega⟩⟩
  have hd : i'.isDone = false := by simp [Input.isDone, i']; omega
  have hm : (ideal .std P sk false).mpats (.at []) = [] :=
    LmP.out_nil .std (LmP.patSet_ne_nil (k := .std) hne)
  have := isOverlapList_allMatches P sk i' hd
  simp only [allMatches, hm, List.map_nil, List.nil_append, i'] at this
  rw [allRep_s_irrel _ s a]
  exact this

theorem restart_nil (P : List (List α)) (hne : ∀ p ∈ P, p ≠ []) (sk : StartKind)
    (hay : List α) (s a e : Nat) (he : e ≤ hay.length)
    (hno : ∀ m, ¬ IsOcc P hay a e m) :
    allRep (ideal .std P sk false) s false (.at []) a ((hay.take e).drop a) = [] := by
  by_cases hae : a ≤ e
  · have h := restart_overlapList P hne sk hay s a e he hae
    rw [List.eq_nil_iff_forall_not_mem]
    intro m hm
    exact hno m ((h.2 m).1 hm).1
  · rw [List.drop_take_nil (by omega)]; rfl

theorem restart_jump (P : List (List α)) (hne : ∀ p ∈ P, p ≠ []) (sk : StartKind)
    (hay : List α) (s a j e : Nat) (he : e ≤ hay.length) (hae : a ≤ e) (haj : a ≤ j)
    (hlo : ∀ m, IsOcc P hay a e m → j ≤ m.start) :
    allRep (ideal .std P sk false) s false (.at []) a ((hay.take e).drop a) =
      allRep (ideal .std P sk false) s false (.at []) j ((hay.take e).drop j) := by
  by_cases hje : j ≤ e
  · have h1 := restart_overlapList P hne sk hay s a e he hae
    have h2 := restart_overlapList P hne sk hay s j e he hje
    exact IsOverlapList_unique P hay a e false _ _ h1
      ((IsEnum.congr (isOccA_shift_iff hlo haj) _).2 h2)
  · rw [List.drop_take_nil (s := j) (by omega)]
    exact restart_nil P hne sk hay s a e he (no_occ_past hje hlo)

theorem ovl_step_pre_ideal (P : List (List α)) (hne : ∀ p ∈ P, p ≠ []) (pre : Prefilter α)
    (sk : StartKind) (g : α → α) (i : Input α)
    (hs : PrefilterSoundOvlAt P (pre i.hay) (i.hay.map g)) (h : supportsAnch sk i.anch)
    (hd : i.isDone = false) (hanch : i.anch = false) (st : OState (St α)) :
    ∃ st', tryFindOverlappingFwd ((ideal .std P sk true).comap g) (some pre) i st = .ok st' ∧
      st'.mat = (pending ((ideal .std P sk false).comap g) i (.at []) st).head? ∧
      pending ((ideal .std P sk false).comap g) i (.at []) st' =
        (pending ((ideal .std P sk false).comap g) i (.at []) st).tail := by
  have he' : i.e ≤ (i.hay.map g).length := by simpa using i.valid.1
  have hA := stdLike_comap (stdLike_ideal P sk) g
  refine ovl_step_pre hA ((sameButSpecial_ideal .std P sk).comap g) rfl rfl i pre
    (LmP.start_root .std P false h) hd hanch (fun q at_ => ?_) st
  refine ovlLoop_pre hA ((startFlagged_ideal .std P hne sk).comap g) i (.at []) pre ?_ ?_ q at_
  · intro a ha hc
    rw [hanch, allRep_comap, allRep_comap, ← MiscP.drop_take_map, ← MiscP.drop_take_map]
    have hno := hs.none_sound a i.e he' (by omega) hc
    exact ⟨restart_nil P hne sk (i.hay.map g) i.s (a + 1) i.e he'
        (fun m hm => hno m (MiscP.isOcc_mono hm (by omega))),
      restart_nil P hne sk (i.hay.map g) i.s a i.e he' hno⟩
  · intro a j ha hc hj
    rw [hanch, allRep_comap, allRep_comap, ← MiscP.drop_take_map, ← MiscP.drop_take_map]
    have hlo := hs.some_sound a i.e j he' (by omega) hc
    exact restart_jump P hne sk (i.hay.map g) i.s (a + 1) j i.e he' (by omega) (by omega)
      (fun m hm => hlo m (MiscP.isOcc_mono hm (by omega)))

theorem ovlCalls_transparent_comap (P : List (List α)) (hne : ∀ p ∈ P, p ≠ [])
    (pre : Prefilter α) (sk : StartKind) (g : α → α) (i : Input α)
    (hs : PrefilterSoundOvlAt P (pre i.hay) (i.hay.map g)) (h : supportsAnch sk i.anch)
    (n : Nat) (st : OState (St α)) :
    ovlCalls ((ideal .std P sk true).comap g) (some pre) i n st =
      ovlCalls ((ideal .std P sk false).comap g) none i n st := by
  by_cases hi : i.isDone = true ∨ i.anch = true
  · exact calls_of_tryEq _ _ _ _ i
      (tryOvl_noPre ((sameButSpecial_ideal .std P sk).comap g) rfl rfl (some pre) i hi) n st
  · rw [not_or, Bool.not_eq_true, Bool.not_eq_true] at hi
    exact calls_of_step _ _ _ _ i _ _
      (ovl_step_pre_ideal P hne pre sk g i hs h hi.1 hi.2)
      (ovl_step (stdLike_comap (stdLike_ideal P sk) g) i (LmP.start_root .std P false h) hi.1)
      n st st rfl

theorem ovlIterAux_transparent_comap (P : List (List α)) (hne : ∀ p ∈ P, p ≠ [])
    (pre : Prefilter α) (sk : StartKind) (g : α → α) (i : Input α)
    (hs : PrefilterSoundOvlAt P (pre i.hay) (i.hay.map g)) (h : supportsAnch sk i.anch)
    (fuel : Nat) (st : OState (St α)) :
    ovlIterAux ((ideal .std P sk true).comap g) (some pre) i fuel st =
      ovlIterAux ((ideal .std P sk false).comap g) none i fuel st := by
  rw [ovlIterAux_eq_yielded, ovlIterAux_eq_yielded, ovlCalls_transparent_comap P hne pre sk g i hs h]

end AcVerif.PreP2
