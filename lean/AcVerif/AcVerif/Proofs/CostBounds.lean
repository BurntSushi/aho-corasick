import AcVerif.Cost
import AcVerif.Fold
import AcVerif.Engine.Overlap
import AcVerif.CostOverlap
import AcVerif.Proofs.LmBasic
import AcVerif.Proofs.SweepLoops
/-!
# C19: bounded work per haystack byte (helpers)

Namespace `CostP` holds the step-counting model of the overlapping search (`ovlCost`,
`ovlCallsCost`, `ovlIterCost`, in `CostOverlap.lean` / `CostOverlapIter.lean`) and the lemmas about
the counters `Cost.transitions` / `Cost.fails` of it and of `findCost` (`Cost.lean`).

`blocked_child` (how `blocked` moves from a node to its child) is read twice: at compile time as
`lmFail_step`, at search time as `stepLm_link` / `next_link`.  `hops_potential` is the classical
amortisation of Aho-Corasick: one `next_state` call from node `u` that follows `h` failure links
ends in a node of depth at most `|u| + 1 - h`.  `walk_eq_of_le`: the failure chain written out link
by link (`walk`) ends in the closed-form `Ideal.next` after `hops` links, so the counter `hops` of
`Cost.lean` counts the links of that chain.  `sweep_transitions_ge/_le/_at`, `sweep_fails`,
`sweep_anchored`: the counters of a run of `sweep` accumulating `costUpd`; `findCost_fst`,
`findCost_snd`, `ovlCost_fst`, `ovlCost_bounds` carry them to the two loops (`Theorems/C19.lean`).
The potential is `St.depth` (`odepth` for the state stored in an `OState`).  `ovlLoop_at_le`: with
a prefilter that answers inside the span (`PreInSpan`) the overlapping loop ends inside it.
-/
namespace AcVerif

def St.depth {α : Type} : St α → Nat
  | .dead => 0
  | .at u => u.length

namespace CostP
open AcVerif.LmP AcVerif.ScanP
set_option linter.unusedSectionVars false
variable {α : Type} [DecidableEq α]

@[simp] theorem depth_dead : (St.dead : St α).depth = 0 := rfl
@[simp] theorem depth_at (u : List α) : (St.at u).depth = u.length := rfl

/-! ## one `next_state` call -/

/-- when `u ++ [c]` is not a trie node, the target is computed from the failure node of `u` -/
theorem lsp_snoc_of_not_isPref {Q : PatSet α} {a : α} {t : List α} {c : α}
    (h : ¬ isPref Q (a :: t ++ [c]) = true) :
    lsp Q (a :: t ++ [c]) = lsp Q (lsp Q t ++ [c]) := by
  have : lsp Q (a :: t ++ [c]) = lsp Q (t ++ [c]) := by
    show lsp Q (a :: (t ++ [c])) = _
    rw [lsp]; exact if_neg h
  rw [this]; exact lsp_step Q t c

theorem blocked_mono {Q : PatSet α} {u : List α} {i j : Nat} (hij : i ≤ j)
    (h : blocked Q u i = true) : blocked Q u j = true := by
  rw [blocked_iff] at h ⊢
  obtain ⟨st, hst, hq⟩ := h
  exact ⟨st, Nat.lt_of_lt_of_le hst hij, hq⟩

/-- occurrences starting inside a suffix `v` of `u` are occurrences in `v` -/
theorem blocked_suffix {Q : PatSet α} {u v : List α} (hs : v <:+ u) (j : Nat)
    (hnb : blocked Q u (u.length - v.length) = false) :
    blocked Q u (u.length - v.length + j) = blocked Q v j := by
  have hnb' := blocked_eq_false hnb
  rw [Bool.eq_iff_iff, blocked_iff, blocked_iff]
  constructor
  · rintro ⟨st, hst, q, hq, hp⟩
    have hge : u.length - v.length ≤ st := by
      apply Nat.le_of_not_lt
      intro hlt
      exact hnb' st hlt q hq hp
    refine ⟨st - (u.length - v.length), by omega, q, hq, ?_⟩
    rw [← drop_of_suffix hs]
    have : st - (u.length - v.length) + (u.length - v.length) = st := by omega
    rw [this]; exact hp
  · rintro ⟨st, hst, q, hq, hp⟩
    refine ⟨st + (u.length - v.length), by omega, q, hq, ?_⟩
    rw [drop_of_suffix hs]; exact hp

/-- occurrences in `u` before the start of its suffix `v`, or starting inside `v` -/
theorem blocked_add_suffix {Q : PatSet α} {u v : List α} (hs : v <:+ u) (j : Nat) :
    blocked Q u (u.length - v.length + j) =
      (blocked Q u (u.length - v.length) || blocked Q v j) := by
  cases hb : blocked Q u (u.length - v.length)
  · rw [blocked_suffix hs j hb, Bool.false_or]
  · rw [blocked_mono (Nat.le_add_right _ _) hb, Bool.true_or]


/-! ## the leftmost failure link of a child -/

/-- an occurrence that starts before the failure target of `a :: t ++ [b]` ends before `b` -/
theorem blocked_snoc {Q : PatSet α} {a : α} {t : List α} {b : α}
    (h : idsOf Q (a :: t ++ [b]) = []) :
    blocked Q (a :: t ++ [b]) ((a :: t ++ [b]).length - (lsp Q (t ++ [b])).length) =
      blocked Q (a :: t) ((a :: t).length + 1 - (lsp Q (t ++ [b])).length) := by
  rw [show (a :: t ++ [b]).length = (a :: t).length + 1 by simp, Bool.eq_iff_iff, blocked_iff,
    blocked_iff]
  refine exists_congr fun st => and_congr_right fun hst => exists_congr fun q =>
    and_congr_right fun hq => ?_
  rw [List.length_cons] at hst
  rw [show a :: t ++ [b] = (a :: t) ++ [b] from rfl,
    List.drop_append_of_le_length (by rw [List.length_cons]; omega), List.prefix_concat_iff]
  refine ⟨fun hp => hp.resolve_left fun he => ?_, Or.inr⟩
  cases st with
  | zero => exact idsOf_eq_nil_iff.1 h q hq he
  | succ st =>
    rw [List.drop_succ_cons, ← List.drop_append_of_le_length (by omega)] at he
    have hpre : isPref Q ((t ++ [b]).drop st) = true := by
      rw [← he]; exact isPref_of_mem hq
    have := (lsp_max (List.drop_suffix st (t ++ [b])) hpre).length_le
    simp only [List.length_drop, List.length_append, List.length_singleton] at this
    omega

theorem blocked_child {Q : PatSet α} {a : α} {t : List α} {b : α}
    (h : idsOf Q (a :: t ++ [b]) = []) :
    blocked Q (a :: t ++ [b]) ((a :: t ++ [b]).length - (lsp Q (t ++ [b])).length) =
      (blocked Q (a :: t) ((a :: t).length - (lsp Q t).length) ||
        blocked Q (lsp Q t) ((lsp Q t).length + 1 - (lsp Q (t ++ [b])).length)) := by
  have hs : lsp Q t <:+ a :: t := (lsp_suffix Q t).trans (List.suffix_cons a t)
  have hvl : (lsp Q t).length ≤ t.length := lsp_length_le Q t
  have hwl : (lsp Q (t ++ [b])).length ≤ (lsp Q t).length + 1 := by
    rw [lsp_step]
    have := lsp_length_le Q (lsp Q t ++ [b]); simpa using this
  have hD : (a :: t).length + 1 - (lsp Q (t ++ [b])).length =
      (a :: t).length - (lsp Q t).length +
        ((lsp Q t).length + 1 - (lsp Q (t ++ [b])).length) := by
    simp only [List.length_cons]; omega
  rw [blocked_snoc h, hD, blocked_add_suffix hs]

/-- the leftmost failure link of a child, from the failure link of its parent -/
theorem lmFail_step {Q : PatSet α} {a : α} {t : List α} {b : α}
    (h : idsOf Q (a :: t ++ [b]) = []) :
    (if blocked Q (a :: t) ((a :: t).length - (lsp Q t).length) then St.dead
      else stepLm Q (lsp Q t) b)
      = if blocked Q (a :: t ++ [b]) ((a :: t ++ [b]).length - (lsp Q (t ++ [b])).length)
        then St.dead
        else St.at (lsp Q (t ++ [b])) := by
  rw [blocked_child h, stepLm_eq, ← lsp_step]
  cases blocked Q (a :: t) ((a :: t).length - (lsp Q t).length) <;> simp


/-- the leftmost transition of a node on a byte without goto, through the node's failure link:
the same computation as `lmFail_step`, read at search time -/
theorem stepLm_link {Q : PatSet α} {a : α} {t : List α} {c : α}
    (hp : ¬ isPref Q (a :: t ++ [c]) = true) :
    stepLm Q (a :: t) c =
      if blocked Q (a :: t) ((a :: t).length - (lsp Q t).length) then .dead
      else stepLm Q (lsp Q t) c := by
  have h0 := idsOf_nil_of_not_isPref (Bool.eq_false_iff.2 hp)
  rw [lmFail_step h0, blocked_snoc h0, stepLm_eq, lsp_snoc_of_not_isPref hp, ← lsp_step]

section
variable (k : MatchKind) (Q : PatSet α) (c : α)

/-! `Ideal.next` case by case, as the failure chain sees it. -/

theorem next_of_isPref {u : List α} (hp : isPref Q (u ++ [c]) = true) :
    Ideal.next k Q false (.at u) c = .at (u ++ [c]) := by
  cases k <;> simp only [Ideal.next, Bool.false_eq_true, if_false, stepStd, stepLm, if_pos hp,
    lsp_of_isPref hp]

/-- no goto on `c`: the transition is that of the failure link, the dead state or the node
`lsp Q t` -/
theorem next_link {a : α} {t : List α} (hp : ¬ isPref Q (a :: t ++ [c]) = true) :
    Ideal.next k Q false (.at (a :: t)) c =
      if (k != .std && blocked Q (a :: t) ((a :: t).length - (lsp Q t).length)) = true then .dead
      else Ideal.next k Q false (.at (lsp Q t)) c := by
  cases k with
  | std =>
    rw [if_neg (by simp)]
    simp only [Ideal.next, Bool.false_eq_true, if_false, stepStd]
    rw [lsp_snoc_of_not_isPref hp, ← lsp_step]
  | lf => exact stepLm_link hp
  | ll => exact stepLm_link hp

end

section
variable (k : MatchKind) (Q : PatSet α) (c : α)

/-! `hops` case by case: a node with a goto on `c`, the root, a node whose failure link is
followed. -/

theorem hops_of_isPref {u : List α} (hp : isPref Q (u ++ [c]) = true) :
    ∀ fuel, hops k Q c fuel u = 0
  | 0 => rfl
  | fuel + 1 => by rw [hops, if_pos hp]

theorem hops_nil : ∀ fuel, hops k Q c fuel [] = 0
  | 0 => rfl
  | fuel + 1 => by
    rw [hops]
    by_cases hp : isPref Q ([] ++ [c]) = true
    · rw [if_pos hp]
    · rw [if_neg hp, if_pos rfl]

theorem hops_cons {a : α} {t : List α} (hp : ¬ isPref Q (a :: t ++ [c]) = true) (fuel : Nat) :
    hops k Q c (fuel + 1) (a :: t) =
      if (k != .std && blocked Q (a :: t) ((a :: t).length - (lsp Q t).length)) = true then 1
      else 1 + hops k Q c fuel (lsp Q t) := by
  rw [hops, if_neg hp, if_neg (List.cons_ne_nil a t)]
  rfl

/-- the potential lemma: following `h` failure links from `u` on byte `c` ends in a node of depth
at most `|u| + 1 - h` (the node reached is `lsp Q (u ++ [c])`, or the dead state) -/
theorem hops_potential (k : MatchKind) (Q : PatSet α) (c : α) :
    ∀ (fuel : Nat) (u : List α), u.length ≤ fuel →
      (lsp Q (u ++ [c])).length + hops k Q c fuel u ≤ u.length + 1
  | 0, u, hu => by
    have : u = [] := List.eq_nil_of_length_eq_zero (by omega)
    subst this
    exact lsp_length_le Q ([] ++ [c])
  | fuel + 1, [], _ => by
    rw [hops_nil]
    exact lsp_length_le Q ([] ++ [c])
  | fuel + 1, a :: t, hu => by
    have hle := lsp_length_le Q (a :: t ++ [c])
    rw [List.length_append] at hle
    by_cases hp : isPref Q (a :: t ++ [c]) = true
    · rw [hops_of_isPref k Q c hp]
      exact hle
    · rw [hops_cons k Q c hp, lsp_snoc_of_not_isPref hp]
      have hle2 := lsp_length_le Q (lsp Q t ++ [c])
      rw [List.length_append] at hle2
      have hvl := lsp_length_le Q t
      have ih := hops_potential k Q c fuel (lsp Q t) (by simp at hu; omega)
      simp only [List.length_cons, List.length_nil] at hle2 ⊢
      split <;> omega

theorem hops_fuel :
    ∀ (f1 f2 : Nat) (u : List α), u.length ≤ f1 → u.length ≤ f2 →
      hops k Q c f1 u = hops k Q c f2 u
  | _, _, [], _, _ => by rw [hops_nil, hops_nil]
  | f1 + 1, f2 + 1, a :: t, h1, h2 => by
    by_cases hp : isPref Q (a :: t ++ [c]) = true
    · rw [hops_of_isPref k Q c hp, hops_of_isPref k Q c hp]
    · have hvl := lsp_length_le Q t
      simp only [List.length_cons] at h1 h2
      rw [hops_cons k Q c hp, hops_cons k Q c hp,
        hops_fuel f1 f2 (lsp Q t) (by omega) (by omega)]

end

theorem depth_next_le (k : MatchKind) (Q : PatSet α) (u : List α) (c : α) :
    (Ideal.next k Q false (.at u) c).depth ≤ (lsp Q (u ++ [c])).length := by
  by_cases hp : isPref Q (u ++ [c]) = true
  · rw [next_of_isPref k Q c hp, lsp_of_isPref hp]
    exact Nat.le_refl _
  · cases k
    · exact Nat.le_refl _
    all_goals
      simp only [Ideal.next, Bool.false_eq_true, if_false, stepLm, if_neg hp]
      split
      · exact Nat.zero_le _
      · exact Nat.le_refl _

theorem step_potential (k : MatchKind) (Q : PatSet α) (q : St α) (c : α) :
    (Ideal.next k Q false q c).depth + Ideal.hops k Q false q c ≤ q.depth + 1 := by
  cases q with
  | dead => simp [Ideal.next, Ideal.hops]
  | «at» u =>
    have h1 := depth_next_le k Q u c
    have h2 := hops_potential k Q c u.length u (Nat.le_refl _)
    simp only [Ideal.hops, Bool.false_eq_true, if_false, depth_at]
    omega

theorem step_anchored (k : MatchKind) (Q : PatSet α) (q : St α) (c : α) :
    Ideal.hops k Q true q c = 0 := by
  cases q <;> simp [Ideal.hops]

theorem depth_next_anchored_le (k : MatchKind) (Q : PatSet α) (q : St α) (c : α) :
    (Ideal.next k Q true q c).depth ≤ q.depth + 1 := by
  cases q with
  | dead => simp [Ideal.next]
  | «at» u =>
    simp only [Ideal.next, if_true, stepAnch]
    split <;> simp

theorem step_potential' (k : MatchKind) (Q : PatSet α) (anch : Bool) (q : St α) (c : α) :
    (Ideal.next k Q anch q c).depth + Ideal.hops k Q anch q c ≤ q.depth + 1 := by
  cases anch with
  | false => exact step_potential k Q q c
  | true => rw [step_anchored]; exact depth_next_anchored_le k Q q c

/-! ## the failure chain computes `Ideal.next` -/

/-- the failure chain of one `next_state` call, with the state it ends in: the node that has a
goto on `c` (then take it), the root (then take the root's own transition), or the dead state -/
def walk (k : MatchKind) (Q : PatSet α) (c : α) : Nat → List α → St α × Nat
  | 0, _ => (Ideal.next k Q false (.at []) c, 0)
  | fuel + 1, u =>
    if isPref Q (u ++ [c]) then (.at (u ++ [c]), 0)
    else if u = [] then (Ideal.next k Q false (.at []) c, 0)
    else
      let v := failStd Q u
      if k != .std && blocked Q u (u.length - v.length) then (.dead, 1)
      else ((walk k Q c fuel v).1, 1 + (walk k Q c fuel v).2)

section
variable (k : MatchKind) (Q : PatSet α) (c : α)

theorem walk_eq_of_le :
    ∀ (fuel : Nat) (u : List α), u.length ≤ fuel →
      walk k Q c fuel u = (Ideal.next k Q false (.at u) c, hops k Q c fuel u)
  | 0, u, hu => by
    have : u = [] := List.eq_nil_of_length_eq_zero (by omega)
    subst this; rfl
  | fuel + 1, [], _ => by
    rw [walk, hops_nil]
    by_cases hp : isPref Q ([] ++ [c]) = true
    · rw [if_pos hp, next_of_isPref k Q c hp]
    · rw [if_neg hp, if_pos rfl]
  | fuel + 1, a :: t, hu => by
    by_cases hp : isPref Q (a :: t ++ [c]) = true
    · rw [walk, if_pos hp, hops_of_isPref k Q c hp, next_of_isPref k Q c hp]
    · rw [walk, if_neg hp, if_neg (List.cons_ne_nil a t), hops_cons k Q c hp]
      show (if (k != .std && blocked Q (a :: t) ((a :: t).length - (lsp Q t).length)) = true
        then (St.dead, 1)
        else ((walk k Q c fuel (lsp Q t)).1, 1 + (walk k Q c fuel (lsp Q t)).2)) = _
      have hvl : (lsp Q t).length ≤ t.length := lsp_length_le Q t
      rw [next_link k Q c hp]
      by_cases hb : (k != .std && blocked Q (a :: t) ((a :: t).length - (lsp Q t).length)) = true
      · rw [if_pos hb, if_pos hb, if_pos hb]
      · rw [if_neg hb, if_neg hb, if_neg hb, walk_eq_of_le fuel (lsp Q t) (by simp at hu; omega)]

end

section
variable {k : MatchKind} {Q : PatSet α} {A : Aut (St α) α} {g : α → α} {hay : List α} {s e : Nat}
  {he : e ≤ hay.length} {pre : Option (Prefilter α)} {anch stop earliest : Bool} {sid : St α}
  {at_ : Nat} {mat : Option Mat} {cost : Cost}

/-! ## the counters of a run

`findCost` and `ovlCost` are `sweep` accumulating `costUpd` (`findCost_eq_sweep`,
`ovlCost_eq_sweep`), with or without a stop at the first match: what is proved of the counters of a
run holds of both. -/

theorem sweep_transitions_ge :
    cost.transitions ≤
      (sweep A hay s e he pre anch stop (costUpd k Q g anch) sid at_ cost).acc.transitions :=
  sweep_ind (P := fun _ _ c r => c.transitions ≤ r.acc.transitions)
    (fun _ _ _ _ => Nat.le_refl _) (fun _ _ c _ _ _ _ _ _ => Nat.le_succ c.transitions)
    (fun _ _ c _ _ _ _ _ _ _ h => Nat.le_trans (Nat.le_succ c.transitions) h) sid at_ cost

/-- every transition consumes a position of the span -/
theorem sweep_transitions_le :
    (sweep A hay s e he pre anch stop (costUpd k Q g anch) sid at_ cost).acc.transitions ≤
      cost.transitions + (e - at_) :=
  sweep_ind (P := fun _ a c r => r.acc.transitions ≤ c.transitions + (e - a))
    (fun _ _ _ _ => Nat.le_add_right _ _)
    (fun _ _ _ _ _ h _ _ _ => Nat.add_le_add_left (Nat.sub_pos_of_lt h) _)
    (fun _ a c _ mv _ h _ _ _ ih => Nat.le_trans ih (by
      show c.transitions + 1 + _ ≤ _
      rw [Nat.add_assoc, Nat.add_comm 1]
      exact Nat.add_le_add_left (Nat.sub_lt_sub_left h (mv.lt_resume a)) _))
    sid at_ cost

/-- … up to the position the run ends at -/
theorem sweep_transitions_at {r : Swept (St α) Cost}
    (hr : sweep A hay s e he pre anch stop (costUpd k Q g anch) sid at_ cost = r) :
    r.acc.transitions + at_ ≤ cost.transitions + r.at_ + 1 :=
  hr ▸ sweep_ind (P := fun _ a c r => r.acc.transitions + a ≤ c.transitions + r.at_ + 1)
    (fun _ _ _ _ => Nat.le_succ _)
    (fun _ _ _ _ _ _ _ _ _ => Nat.le_of_eq (Nat.add_right_comm _ _ _))
    (fun _ a c _ mv r _ _ _ _ ih => Nat.add_right_comm c.transitions 1 r.at_ ▸
      Nat.le_of_succ_le_succ (Nat.le_trans (Nat.add_le_add_left (mv.lt_resume a) _) ih))
    sid at_ cost

/-- The amortised bound, for any automaton whose `next` is `Ideal.next` after the byte map `g`:
the failure hops are paid for by depth, `fails' + depth(sid') ≤ fails + depth(sid) +
(transitions' - transitions)`; the depth of the final state is left over for a resumption. -/
theorem sweep_fails (hA : ∀ anch q c, A.next anch q c = Ideal.next k Q anch q (g c))
    {r : Swept (St α) Cost}
    (hr : sweep A hay s e he pre anch stop (costUpd k Q g anch) sid at_ cost = r) :
    r.acc.fails + r.sid.depth + cost.transitions ≤ cost.fails + sid.depth + r.acc.transitions := by
  have hp : ∀ q b, (A.next anch q b).depth + Ideal.hops k Q anch q (g b) ≤ q.depth + 1 :=
    fun q b => hA anch q b ▸ step_potential' k Q anch q (g b)
  exact hr ▸ sweep_ind (P := fun q _ c r =>
      r.acc.fails + r.sid.depth + c.transitions ≤ c.fails + q.depth + r.acc.transitions)
    (fun _ _ _ _ => Nat.le_refl _)
    (fun q _ c b _ _ _ _ _ => by have := hp q b; dsimp only [costUpd]; omega)
    (fun q _ c b _ r _ _ _ _ h => by have := hp q b; dsimp only [costUpd] at h; omega)
    sid at_ cost

theorem sweep_anchored :
    (sweep A hay s e he pre true stop (costUpd k Q g true) sid at_ cost).acc.fails = cost.fails :=
  sweep_ind (P := fun _ _ c r => r.acc.fails = c.fails) (fun _ _ _ _ => rfl)
    (fun q _ c b _ _ _ _ _ => by dsimp only [costUpd]; rw [step_anchored, Nat.add_zero])
    (fun q _ c b _ r _ _ _ _ hr => by
      dsimp only [costUpd] at hr; rw [hr, step_anchored, Nat.add_zero])
    sid at_ cost

/-! ## the search loop with counters -/

/-- the counters are ghost state: the first component of `findCost` is `findLoop` -/
theorem findCost_fst :
    (findCost k Q A g hay s e he pre anch earliest sid at_ mat cost).1 =
      findLoop A hay s e he pre anch earliest sid at_ mat := by
  rw [findCost_eq_sweep, findLoop_eq_sweep]
  exact congrArg findPost (sweep_map Prod.fst (fun _ _ _ _ _ => rfl) ..)

theorem findCost_snd :
    (findCost k Q A g hay s e he pre anch earliest sid at_ mat cost).2 =
      (sweep A hay s e he pre anch earliest (costUpd k Q g anch) sid at_ cost).acc := by
  rw [findCost_eq_sweep]
  exact congrArg Swept.acc (sweep_map Prod.snd (fun _ _ _ _ _ => rfl) sid at_ (mat, cost))

theorem findCost_fails_le (hA : ∀ anch q c, A.next anch q c = Ideal.next k Q anch q (g c))
    {r : Option Mat × Cost}
    (hr : findCost k Q A g hay s e he pre anch earliest sid at_ mat cost = r) :
    r.2.fails + cost.transitions ≤ cost.fails + sid.depth + r.2.transitions := by
  rw [← hr, findCost_snd]
  exact Nat.le_trans (Nat.add_le_add_right (Nat.le_add_right _ _) _) (sweep_fails hA rfl)

/-! ## the overlapping loop stays inside the span -/

def PreInSpan (pre : Option (Prefilter α)) : Prop :=
  ∀ p, pre = some p → ∀ (hay : List α) (a e i : Nat), (p hay a e).intoOption = some i → i ≤ e

theorem preInSpan_none : PreInSpan (Option.none : Option (Prefilter α)) := by
  intro p hp; cases hp

theorem ovlLoop_at_le {σ : Type} (A : Aut σ α) (hpre : PreInSpan pre) (sid : σ) (at_ : Nat) :
    (ovlLoop A hay s e he pre anch sid at_).at_ ≤ max at_ e := by
  rw [ovlLoop_eq_sweep, ovlPost_at]
  refine sweep_ind (P := fun _ a _ r => r.at_ ≤ max a e)
    (fun _ _ _ _ => Nat.le_max_left _ _) (fun _ _ _ _ _ _ _ _ _ => Nat.le_max_left _ _) ?_
    sid at_ ()
  intro q a x b mv r h _ hmv _ ih
  have : mv.resume a ≤ e := by
    cases mv with
    | asked c =>
      obtain ⟨_, _, _, p, hp, rfl⟩ := of_move_eq_asked hmv
      dsimp only [Move.resume]
      cases hi : (p hay a e).intoOption with
      | none => exact Nat.max_le.2 ⟨Nat.zero_le _, h⟩
      | some i => exact Nat.max_le.2 ⟨hpre p hp hay a e i hi, h⟩
    | _ => exact h
  rw [Nat.max_eq_right this] at ih
  exact Nat.le_trans ih (Nat.le_max_right _ _)

/-! ## the overlapping loop with counters -/

/-- the counters are ghost state -/
theorem ovlCost_fst :
    (ovlCost k Q A g hay s e he pre anch sid at_ cost).1 =
      ovlLoop A hay s e he pre anch sid at_ := by
  rw [ovlCost_eq_sweep, ovlLoop_eq_sweep]
  exact congrArg ovlPost (sweep_map (fun _ => ()) (fun _ _ _ _ _ => rfl) sid at_ cost)

/-- depth of the state stored in an `OverlappingState` (0 when none is stored) -/
def odepth (st : OState (St α)) : Nat :=
  match st.id with
  | some q => q.depth
  | Option.none => 0

theorem odepth_ovlPost {ρ : Type} (r : Swept (St α) ρ) : odepth (ovlPost r) = r.sid.depth := by
  unfold odepth; rw [ovlPost_id]

/-- One call of the overlapping loop, entered with counters `cost` in the state `sid` at position
`at_`: the transition counter only grows; every transition consumes a position
(`transitions' - transitions ≤ at' + 1 - at`); and the failure hops are paid for by depth, the
depth of the stored state being carried over to the next call. -/
theorem ovlCost_bounds (hA : ∀ anch q c, A.next anch q c = Ideal.next k Q anch q (g c))
    {r : OState (St α) × Cost} (hr : ovlCost k Q A g hay s e he pre anch sid at_ cost = r) :
    cost.transitions ≤ r.2.transitions ∧
    r.2.transitions + at_ ≤ cost.transitions + r.1.at_ + 1 ∧
    r.2.fails + odepth r.1 + cost.transitions ≤ cost.fails + sid.depth + r.2.transitions := by
  rw [← hr, ovlCost_eq_sweep]
  dsimp only
  rw [ovlPost_at, odepth_ovlPost]
  exact ⟨sweep_transitions_ge, sweep_transitions_at rfl, sweep_fails hA rfl⟩

end

/-! ## the per-call counters are ghost state of the stepwise overlapping search -/

theorem ovlImpCost_fst (k : MatchKind) (Q : PatSet α) (A : Aut (St α) α) (g : α → α) (i : Input α)
    (pre : Option (Prefilter α)) (st : OState (St α)) :
    (ovlImpCost k Q A g i pre st).map (·.1) = ovlImp A i pre st := by
  unfold ovlImpCost ovlImp
  cases st.id with
  | none =>
    cases A.start i.anch with
    | none => rfl
    | some sid =>
      simp only []
      split
      · rfl
      · simp only [Except.map, ovlCost_fst]
  | some sid =>
    cases st.nextIdx with
    | none => simp only [Except.map, ovlCost_fst]
    | some idx =>
      simp only []
      split
      · rfl
      · simp only [Except.map, ovlCost_fst]

/-- the model's per-call counters belong to exactly the call sequence of the engine -/
theorem tryOvlCost_fst (k : MatchKind) (Q : PatSet α) (A : Aut (St α) α) (g : α → α)
    (pre : Option (Prefilter α)) (i : Input α) (st : OState (St α)) :
    (tryOvlCost k Q A g pre i st).map (·.1) = tryFindOverlappingFwd A pre i st := by
  unfold tryOvlCost tryFindOverlappingFwd
  dsimp only
  by_cases hk : (A.kind != .std) = true
  · rw [if_pos hk, if_pos hk]; rfl
  rw [if_neg hk, if_neg hk]
  by_cases hd : i.isDone = true
  · rw [if_pos hd, if_pos hd]
    cases A.start i.anch <;> rfl
  rw [if_neg hd, if_neg hd]
  by_cases ha : i.anch = true
  · rw [if_pos ha, if_pos ha]; exact ovlImpCost_fst ..
  · rw [if_neg ha, if_neg ha]; exact ovlImpCost_fst ..

end CostP
end AcVerif
