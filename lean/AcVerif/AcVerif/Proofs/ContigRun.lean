import AcVerif.Proofs.ContigSim
import AcVerif.Proofs.NfaLive
/-!
# L1e proofs: the simulation `q = cNewId N dd bc s`

For any `N` with a set of states `V` that is closed under `next_state` (`NLive`) and whose
transition lists the contiguous builder can store (`CLive`): one `next_state` call of the
contiguous NFA `M = cBuild N dd bc hasPre` on `cNewId N dd bc s` is `cNewId N dd bc` of one call of
`N` on `s`, with the same number of failure links followed (`contig_step`); so `M` is `N` with its
states renamed (`contig_renames`), the runs correspond (`contig_run`) and the start states are
observationally equivalent (`contig_obsEquiv`).
-/
namespace AcVerif.L1eP
open AcVerif AcVerif.CNfa AcVerif.L1cP AcVerif.L1dP AcVerif.L1dIdsP AcVerif.L1cIdsP

section
variable {N : CNfa} {anch : Bool} {V : Nat → Prop} (hL : NLive N anch V) {bc : Bool}
  (hC : CLive N bc V) (dd : Nat) (hasPre : Bool)
include hL hC

/-- one step of the automaton records: the loop of `N` returns before its fuel `N.size + 1` runs
out, so the fuel `repr.size + 1 ≥ N.size` of `M` gives the same result -/
theorem contig_step {s : Nat} (hv : V s) (b : UInt8) :
    (cBuild N dd bc hasPre).nextState anch ((cBuild N dd bc hasPre).repr.size + 1)
        (cNewId N dd bc s) b (0, 0) =
      (cNewId N dd bc (nextState N anch (N.size + 1) s b 0).1,
        (nextState N anch (N.size + 1) s b 0).2) := by
  have hsz : N.size ≤ (cBuild N dd bc hasPre).repr.size :=
    size_le_repr N dd bc (by have := hC.four; omega)
  rw [hC.nextState dd hasPre anch b (fun ha s hv => hL.failV ha s b hv) _ s 0 0 hv,
    nextState_fuel N anch b (N.size + 1) ((cBuild N dd bc hasPre).repr.size + 1) s 0
      (by rw [Nat.zero_add]; exact hL.hops s b hv) (by omega)]

theorem contig_start :
    (if anch then (cBuild N dd bc hasPre).startA else (cBuild N dd bc hasPre).startU) =
      cNewId N dd bc (startOf anch) := by
  cases anch
  · exact startU_eq hC.shuf dd bc hasPre
  · exact startA_eq hC.shuf dd bc hasPre

variable (k : MatchKind) (P : List (List UInt8))

theorem contig_renames :
    Renames (N.toAut k P hasPre) ((cBuild N dd bc hasPre).toAut k P hasPre) anch V
      (cNewId N dd bc) :=
  ⟨fun s c => hL.step s c, fun s c hv => by rw [toAut_next, contig_step hL hC dd hasPre hv c]; rfl⟩

theorem contig_run (w : List UInt8) : ∀ s, V s →
    V ((N.toAut k P hasPre).runFrom anch s w) ∧
      ((cBuild N dd bc hasPre).toAut k P hasPre).runFrom anch (cNewId N dd bc s) w =
        cNewId N dd bc ((N.toAut k P hasPre).runFrom anch s w) :=
  fun _ hv => (contig_renames hL hC dd hasPre k P).run w hv

theorem contig_obsEquiv (hlen : ∀ s, V s → (N.getD s {}).matches_.length < 2147483648) :
    ObsEquiv ((cBuild N dd bc hasPre).toAut k P hasPre) (N.toAut k P hasPre) false anch
      (cNewId N dd bc (startOf anch)) (startOf anch) :=
  (contig_renames hL hC dd hasPre k P).obsEquiv
    (fun s hv => hC.obs dd hasPre hL.mm hL.dead_mats k P hv (hlen s hv)) hL.start

end

end AcVerif.L1eP
