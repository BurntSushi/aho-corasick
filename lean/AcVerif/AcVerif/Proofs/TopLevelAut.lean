import AcVerif.Proofs.TopLevelRef
import AcVerif.Proofs.Layers
import AcVerif.Proofs.NfaIdsDense
import AcVerif.Proofs.DenseRows
import AcVerif.Theorems.C20Build
/-!
# Capstone proofs: every searcher `AhoCorasickBuilder::build` can return is the reference automaton

`built_searchEquiv`: for every configuration, every pattern list (`P.length < 2^31`, the bound of
L1e) and each of the three kinds, the automaton record of `buildUnchecked cfg P kind` – the
noncontiguous NFA as stored *reading through its dense rows* (`nnc_toAutD`), the contiguous NFA, the
DFA – has the match kind and pattern lengths of the reference automaton
`refAut cfg.fold cfg.matchKind P sk cfg.hasPre` and a start state observationally equivalent to its
start state (flags and ordered match lists after every input); `sk` (`autSk`) is `both` for the two
NFAs and the configured start kind for the DFA.  It is `L1cIdsG_searchEquiv`, `L1eG_searchEquiv`,
`L1dIdsG_searchEquiv` of `Proofs/Layers.lean`, each for both settings of `ascii_case_insensitive`.
Hence every engine transfers.
-/
namespace AcVerif.TopP
open AcVerif AcVerif.CNfa AcVerif.L1cP AcVerif.L1cIdsP AcVerif.DenseP

/-- the start kinds `start_state` of the built automaton supports: both for the NFAs
(noncontiguous.rs / contiguous.rs `start_state`), the configured kind for the DFA -/
def autSk : AcKind → StartKind → StartKind
  | .dfa, sk => sk
  | _, _ => .both

theorem supports_autSk (kd : AcKind) {sk : StartKind} {a : Bool} (h : supportsAnch sk a) :
    supportsAnch (autSk kd sk) a := by
  cases kd
  · exact Or.inl rfl
  · exact Or.inl rfl
  · exact h

/-! ## the metadata fields -/

theorem toAut_kind (b : Built) (cfg : BuildCfg) (P : List (List UInt8)) :
    (b.toAut cfg P).kind = cfg.matchKind := by cases b <;> rfl

theorem toAut_patLen (b : Built) (cfg : BuildCfg) (P : List (List UInt8)) (pid : Nat) :
    (b.toAut cfg P).patLen pid = (P.getD pid []).length := by cases b <;> rfl

theorem toAut_minLen (b : Built) (cfg : BuildCfg) (P : List (List UInt8)) :
    (b.toAut cfg P).minLen = (P.map List.length).foldl min 18446744073709551615 := by
  cases b <;> rfl

theorem toAut_maxLen (b : Built) (cfg : BuildCfg) (P : List (List UInt8)) :
    (b.toAut cfg P).maxLen = (P.map List.length).foldl max 0 := by cases b <;> rfl

theorem toAut_patternsLen (b : Built) (cfg : BuildCfg) (P : List (List UInt8)) :
    (b.toAut cfg P).patternsLen = P.length := by cases b <;> rfl

/-! ## the three kinds -/

/-- the record that reads transitions through the stored dense rows is the record that scans the
stored sparse lists -/
theorem nnc_toAutD (f : Bool) (k : MatchKind) (P : List (List UInt8)) (dd : Nat) (hp : Bool) :
    (buildNfaIds (CNfa.compile k f P) hp).toAutD (nncClasses k f P)
        (buildDenseIds (CNfa.compile k f P) dd) k P hp =
      (buildNfaIds (CNfa.compile k f P) hp).toAut k P hp := by
  obtain ⟨L, _, hL⟩ := L1cIdsG_live k f P false
  exact toAutD_stored hL.shuf hp dd (followD_compile k f P dd) k P

theorem built_searchEquiv (cfg : BuildCfg) (P : List (List UInt8)) (hP : P.length < 2147483648)
    (kd : AcKind) :
    SearchEquiv ((buildUnchecked cfg P kd).toAut cfg P)
      (refAut cfg.fold cfg.matchKind P (autSk kd cfg.startKind) cfg.hasPre) := by
  rw [refAut_eq, specPats_eq]
  cases kd
  · have h := L1cIdsG_searchEquiv cfg.matchKind cfg.fold P cfg.hasPre
    rw [← nnc_toAutD _ _ _ cfg.nncDenseDepth] at h
    exact h
  · exact L1eG_searchEquiv cfg.matchKind cfg.fold P cfg.hasPre cfg.byteClasses cfg.contigDenseDepth
      hP
  · exact L1dIdsG_searchEquiv cfg.matchKind cfg.fold P cfg.startKind cfg.byteClasses cfg.hasPre

theorem buildUnchecked_kind (cfg : BuildCfg) (P : List (List UInt8)) (kd : AcKind) :
    (buildUnchecked cfg P kd).kind = kd := by cases kd <;> rfl

end AcVerif.TopP
