import AcVerif.Proofs.ContigStep
import AcVerif.Proofs.ContigIds
import AcVerif.Proofs.Renum
/-!
# L1e proofs: the flags by id range, the start ids, observations at the states of a set `V` with
`CLive`

The new ids of the contiguous NFA are ordered like the shuffled positions, also against the entries
of the offset table (`cNewId_le_offs_iff`); the start ids and the two thresholds are entries of that
table (`startU_eq`, `startA_eq`, `maxMatchId_eq`, `maxSpecialId_eq`), so `cNewId` is a `RangeId`
(`rangeId_cNewId`, `ShuffleFlags`) and the tests by id range are the flags of the state
(`isMatch_newId`, `isStart_newId`).  With the match list decoded from the stored slice
(`CLive.matchList`, by `decode_matches`), `cBuild N dd bc hasPre` at the id `cNewId N dd bc s` makes
the observation of `N` at `s` for every `s` of `V` (`CLive.obs`); `CLive.special_iff` is the
`is_special` contract there.
-/
namespace AcVerif.L1eP
open AcVerif AcVerif.CNfa AcVerif.L1cP AcVerif.L1dP

/-! ## the new ids against the offset table -/

section
variable {n : CNfa} (hS : ShufOK n) (dd : Nat) (bc hasPre : Bool)
include hS

/-- the new ids are ordered like the positions; this includes the comparison with the table entry
of `FAIL` (which is `1`, below every offset but that of the dead state) -/
theorem cNewId_le_offs_iff {s : Nat} (hs : s < n.size) (h1 : s ≠ 1) {p : Nat} (hp : p < n.size) :
    cNewId n dd bc s ≤ (cOffsets n dd bc).getD p 0 ↔ posOf n s ≤ p := by
  have hp1 := posOf_ne_one hS hs h1
  rw [cOffsets_getD n dd bc hp, cNewId_eq hS dd bc hs h1]
  by_cases e : p = 1
  · subst e
    rw [if_pos rfl]
    by_cases e0 : posOf n s = 0
    · rw [e0]; exact ⟨fun _ => Nat.zero_le _, fun _ => Nat.zero_le _⟩
    · have := offAt_lt n dd bc (show 0 < posOf n s by omega) (by omega)
      exact ⟨fun h => by omega, fun h => by omega⟩
  · rw [if_neg e]
    exact offAt_le_iff n dd bc e

theorem startU_eq : (cBuild n dd bc hasPre).startU = cNewId n dd bc SU := by
  show (cOffsets n dd bc).getD (cNa n - 2) 0 = (cOffsets n dd bc).getD ((cPos n).getD 2 0) 0
  rw [hS.posSU]

theorem startA_eq : (cBuild n dd bc hasPre).startA = cNewId n dd bc SA := by
  show (cOffsets n dd bc).getD (cNa n - 1) 0 = (cOffsets n dd bc).getD ((cPos n).getD 3 0) 0
  rw [hS.posSA]

omit hS in
theorem maxMatchId_eq :
    (cBuild n dd bc hasPre).maxMatchId = (cOffsets n dd bc).getD (nfaMaxMatch n (cNa n)) 0 := by
  show (if CNfa.isMatch n SA then _ else _) = _
  unfold nfaMaxMatch
  split <;> rfl

omit hS in
theorem maxSpecialId_eq :
    (cBuild n dd bc hasPre).maxSpecialId =
      (cOffsets n dd bc).getD (nfaMaxSpecial n (cNa n) hasPre) 0 := by
  show (if hasPre then _ else if CNfa.isMatch n SA then _ else _) = _
  unfold nfaMaxSpecial nfaMaxMatch
  split
  · rfl
  · split <;> rfl

theorem rangeId_cNewId {s : Nat} (hs : s < n.size) (h1 : s ≠ 1) :
    RangeId n (fun p => (cOffsets n dd bc).getD p 0) s (cNewId n dd bc s) :=
  ⟨hs, h1, fun _ hp => cNewId_le_offs_iff hS dd bc hs h1 hp, cNewId_zero_iff hS dd bc hs h1⟩

end

section
variable {N : CNfa} (dd : Nat) (bc hasPre : Bool)

theorem isMatch_newId (hS : ShufOK N) (hmm : CNfa.isMatch N SU = CNfa.isMatch N SA) {s : Nat}
    (hs : s < N.size) (h1 : s ≠ 1) :
    (cNewId N dd bc s != 0 && decide (cNewId N dd bc s ≤ (cBuild N dd bc hasPre).maxMatchId)) =
      (s != DEAD && CNfa.isMatch N s) :=
  (rangeId_cNewId hS dd bc hs h1).isMatch hS hmm (maxMatchId_eq dd bc hasPre)

theorem isStart_newId (hS : ShufOK N) {s : Nat} (hs : s < N.size) (h1 : s ≠ 1) :
    (cNewId N dd bc s == (cBuild N dd bc hasPre).startU ||
      cNewId N dd bc s == (cBuild N dd bc hasPre).startA) = (s == SU || s == SA) := by
  have h4 := hS.na_ge
  have h5 := hS.na_le
  rw [startU_eq hS, startA_eq hS, Bool.eq_iff_iff]
  simp only [Bool.or_eq_true, beq_iff_eq]
  exact or_congr
    ⟨cNewId_inj hS dd bc hs h1 (show SU < N.size by simp only [SU]; omega) (by decide),
      congrArg _⟩
    ⟨cNewId_inj hS dd bc hs h1 (show SA < N.size by simp only [SA]; omega) (by decide),
      congrArg _⟩

variable {bc} {V : Nat → Prop} (hC : CLive N bc V)
include hC

theorem CLive.matchList {s : Nat} (hv : V s) (hm : (N.getD s {}).matches_ ≠ [])
    (hlen : (N.getD s {}).matches_.length < 2147483648) :
    (cBuild N dd bc hasPre).matchList (cNewId N dd bc s) = (N.getD s {}).matches_ := by
  rw [matchList_eq]
  exact decode_matches hm hlen (hC.slice dd hv)

theorem CLive.mats_ne_nil (hmm : CNfa.isMatch N SU = CNfa.isMatch N SA) (k : MatchKind)
    (P : List (List UInt8)) {s : Nat} (hv : V s)
    (hm : ((cBuild N dd bc hasPre).toAut k P hasPre).isMatch (cNewId N dd bc s) = true) :
    (N.getD s {}).matches_ ≠ [] := by
  have e := isMatch_newId dd bc hasPre hC.shuf hmm (hC.lt s hv) (hC.ne1 s hv)
  rw [show (_ && _) = true from hm] at e
  exact mats_ne_nil_of_isMatch (Bool.and_eq_true_iff.1 e.symm).2

theorem CLive.obs (hmm : CNfa.isMatch N SU = CNfa.isMatch N SA)
    (hd : (N.getD DEAD {}).matches_ = []) (k : MatchKind) (P : List (List UInt8)) {s : Nat}
    (hv : V s) (hlen : (N.getD s {}).matches_.length < 2147483648) :
    ((cBuild N dd bc hasPre).toAut k P hasPre).obs false (cNewId N dd bc s) =
      (N.toAut k P hasPre).obs false s := by
  have hS := hC.shuf
  have hR := rangeId_cNewId hS dd bc (hC.lt s hv) (hC.ne1 s hv)
  have hm := isMatch_newId dd bc hasPre hS hmm (hC.lt s hv) (hC.ne1 s hv)
  show Obs.mk _ _ _ _ = Obs.mk _ _ _ _
  simp only [ContigM.toAut, CNfa.toAut, Bool.false_eq_true, if_false]
  rw [hR.isSpecial hS hmm (maxSpecialId_eq dd bc hasPre), hR.isDead, hm,
    mpats_of_isMatch rfl hd fun hc =>
      hC.matchList dd hasPre hv (mats_ne_nil_of_isMatch (Bool.and_eq_true_iff.1 hc).2) hlen]

theorem CLive.special_iff (hmm : CNfa.isMatch N SU = CNfa.isMatch N SA) (k : MatchKind)
    (P : List (List UInt8)) {s : Nat} (hv : V s) :
    let A := (cBuild N dd bc hasPre).toAut k P hasPre
    A.isSpecial (cNewId N dd bc s) = true ↔
      (A.isDead (cNewId N dd bc s) = true ∨ A.isMatch (cNewId N dd bc s) = true ∨
        (hasPre = true ∧ A.isStart (cNewId N dd bc s) = true)) := by
  have hS := hC.shuf
  have hs := hC.lt s hv
  have h1 := hC.ne1 s hv
  have hR := rangeId_cNewId hS dd bc hs h1
  intro A
  rw [toAut_isSpecial, toAut_isDead, toAut_isMatch, toAut_isStart]
  exact special_iff_of_flags (hR.isSpecial hS hmm (maxSpecialId_eq dd bc hasPre)) hR.isDead
    (isMatch_newId dd bc hasPre hS hmm hs h1) fun _ => by rw [isStart_newId dd bc hasPre hS hs h1]

end

end AcVerif.L1eP
