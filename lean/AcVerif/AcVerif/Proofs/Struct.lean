import AcVerif.Proofs.SweepLoops
import AcVerif.Proofs.ListArray
import AcVerif.Engine.Recipe
/-!
# Structural forms of the prefilter-free loops

`findLoop` / `ovlLoop` recurse on `e - at`.  Without a prefilter the position
only ever advances by one, so they equal structural recursions `findS` / `ovlS` over the
remaining slice `(hay.take e).drop at` (`findLoop_eq_findS`, `ovlLoop_eq_ovlS`).  These forms
are what the correctness proofs reason about; one iteration of them is a distinction on `move`
without prefilter (`findS_cons`, `ovlS_cons`; `move_none_cases` lists what it can be).
`tryFindFwd_findS` is the whole prefilter-free `tryFindFwd` from its start state in terms of
`findS`.  The overlapping iterator is `yielded` of the call history (`ovlIterAux_eq_yielded`), so
facts about it are facts about `ovlCalls`.  Last, `EngP.findS_eq_recipeLoop`: unanchored `findS` is
the loop the `Automaton` trait documents for its users (`recipeLoop`; used by C16).
-/
namespace AcVerif
open ScanP
variable {σ α : Type} (A : Aut σ α) (hay : List α) (s e : Nat) (he : e ≤ hay.length)

def findS (A : Aut σ α) (s : Nat) (anch earliest : Bool) (sid : σ) (at_ : Nat)
    (mat : Option Mat) : List α → Option Mat
  | [] => mat
  | c :: rest =>
    let sid := A.next anch sid c
    if A.isSpecial sid then
      if A.isDead sid then mat
      else if A.isMatch sid then
        let m := getMatch A sid 0 (at_ + 1)
        if !(anch && decide (m.start > s)) then
          if earliest then some m else findS A s anch earliest sid (at_ + 1) (some m) rest
        else findS A s anch earliest sid (at_ + 1) mat rest
      else findS A s anch earliest sid (at_ + 1) mat rest
    else findS A s anch earliest sid (at_ + 1) mat rest

/-- `findS` runs the same iteration, prefilter-free (`hay` and `e` are then not read) -/
theorem findS_cons (anch earliest : Bool) (sid : σ) (at_ : Nat) (mat : Option Mat) (c : α)
    (rest : List α) {q : σ} {mv : Move} (hq : A.next anch sid c = q)
    (hmv : move A hay s e none anch q at_ = mv) :
    findS A s anch earliest sid at_ mat (c :: rest) =
      if mv.halts earliest then findPost ⟨q, at_, findUpd mat mv, some mv⟩
      else findS A s anch earliest q (at_ + 1) (findUpd mat mv) rest := by
  subst hq hmv
  rw [findS]
  refine (loopBody_halts (pre := none) (hay := hay) (e := e) earliest
    (fun mv => findPost ⟨A.next anch sid c, at_, findUpd mat mv, some mv⟩)
    (fun mv j => findS A s anch earliest (A.next anch sid c) j (findUpd mat mv) rest)).trans ?_
  rw [move_none_resume]

theorem findLoop_eq_findS (anch earliest : Bool) (sid : σ) (at_ : Nat) (mat : Option Mat) :
    findLoop A hay s e he Option.none anch earliest sid at_ mat =
      findS A s anch earliest sid at_ mat ((hay.take e).drop at_) := by
  induction at_ using upTo_induction e generalizing sid mat with
  | stop a h => rw [findLoop_done h, List.drop_take_nil h]; rfl
  | step a h ih =>
    rw [findLoop_step A hay s e he _ anch earliest sid a mat h rfl rfl, List.drop_take_cons h he,
      findS_cons A hay s e anch earliest sid a mat _ _ rfl rfl, move_none_resume,
      ih _ (Nat.lt_succ_self a)]

/-- `tryFindFwd` without a prefilter, from the start state: the early returns, then the structural
loop (the two calls of `findImp` are one) -/
theorem tryFindFwd_findS (i : Input α) {q0 : σ} (hq0 : A.start i.anch = some q0) :
    tryFindFwd A none i = .ok
      (if i.isDone then none
        else if A.isMatch q0 then
          if (A.kind == .std || i.earliest) then some (getMatch A q0 0 i.s)
          else findS A i.s i.anch (A.kind == .std || i.earliest) q0 i.s
            (some (getMatch A q0 0 i.s)) ((i.hay.take i.e).drop i.s)
        else findS A i.s i.anch (A.kind == .std || i.earliest) q0 i.s none
          ((i.hay.take i.e).drop i.s)) := by
  have h : tryFindFwd A none i = if i.isDone then .ok none
      else findImp A i none i.anch (A.kind == .std || i.earliest) := by
    unfold tryFindFwd
    rw [hq0]
    cases i.anch <;> rfl
  rw [h, findImp, hq0]
  simp only [findLoop_eq_findS]
  cases i.isDone <;> cases A.isMatch q0 <;> cases (A.kind == MatchKind.std || i.earliest) <;> rfl

theorem tryFindFwd_nostart (pre : Option (Prefilter α)) (i : Input α)
    (hs : A.start i.anch = none) : tryFindFwd A pre i =
      .error (if i.anch then .invalidInputAnchored else .invalidInputUnanchored) := by
  unfold tryFindFwd findImp
  simp only [hs]
  split
  · rfl
  · split <;> rfl

def ovlS (A : Aut σ α) (s : Nat) (anch : Bool) (sid : σ) (at_ : Nat) : List α → OState σ
  | [] => { mat := Option.none, id := some sid, at_ := at_, nextIdx := Option.none }
  | c :: rest =>
    let sid := A.next anch sid c
    if A.isSpecial sid then
      if A.isDead sid then { mat := Option.none, id := some sid, at_ := at_, nextIdx := Option.none }
      else if A.isMatch sid then
        let m := getMatch A sid 0 (at_ + 1)
        if !(anch && decide (m.start > s)) then
          { mat := some m, id := some sid, at_ := at_, nextIdx := some 1 }
        else ovlS A s anch sid (at_ + 1) rest
      else ovlS A s anch sid (at_ + 1) rest
    else ovlS A s anch sid (at_ + 1) rest

theorem ovlS_cons (anch : Bool) (sid : σ) (at_ : Nat) (c : α) (rest : List α) {q : σ}
    {mv : Move} (hq : A.next anch sid c = q) (hmv : move A hay s e none anch q at_ = mv) :
    ovlS A s anch sid at_ (c :: rest) =
      if mv.halts true then ovlPost ⟨q, at_, (), some mv⟩ else ovlS A s anch q (at_ + 1) rest := by
  subst hq hmv
  rw [ovlS]
  refine (loopBody_halts (pre := none) (hay := hay) (e := e) true
    (fun mv => ovlPost ⟨A.next anch sid c, at_, (), some mv⟩)
    (fun _ j => ovlS A s anch (A.next anch sid c) j rest)).trans ?_
  rw [move_none_resume]

theorem ovlLoop_eq_ovlS (anch : Bool) (sid : σ) (at_ : Nat) :
    ovlLoop A hay s e he Option.none anch sid at_ =
      ovlS A s anch sid at_ ((hay.take e).drop at_) := by
  induction at_ using upTo_induction e generalizing sid with
  | stop a h => rw [ovlLoop_done h, List.drop_take_nil h]; rfl
  | step a h ih =>
    rw [ovlLoop_step A hay s e he _ anch sid a h rfl rfl, List.drop_take_cons h he,
      ovlS_cons A hay s e anch sid a _ _ rfl rfl, move_none_resume, ih _ (Nat.lt_succ_self a)]

/-- Also on a done input (`s > e`) `tryFindFwd` asks for the start state before it returns
`none`; it fails if the requested anchoring mode is not supported. -/
theorem tryFindFwd_done (pre : Option (Prefilter α)) (i : Input α) (hd : i.isDone = true)
    {q0 : σ} (hq0 : A.start i.anch = some q0) : tryFindFwd A pre i = .ok none := by
  simp only [tryFindFwd, hd, if_true, hq0]

/-! ## the overlapping iterator is a function of the call history -/

/-- what `FindOverlappingIter` yields, read off the call history: the matches reported up to the
first call that reports nothing (or fails) -/
def yielded : List (Except MatchErr (Option Mat)) → List Mat
  | .ok (some m) :: l => m :: yielded l
  | _ => []

theorem ovlIterAux_eq_yielded (A : Aut σ α) (pre : Option (Prefilter α)) (i : Input α) :
    ∀ n st, ovlIterAux A pre i n st = yielded (ovlCalls A pre i n st) := by
  intro n
  induction n with
  | zero => intro st; rfl
  | succ n ih =>
    intro st
    simp only [ovlIterAux, ovlCalls]
    cases tryFindOverlappingFwd A pre i st with
    | error e => rfl
    | ok st' =>
      simp only
      cases st'.mat with
      | none => rfl
      | some m => simp only [yielded, ih st']

theorem yielded_map (l : List Mat) (k : Nat) :
    yielded (l.map (fun m => Except.ok (some m)) ++ List.replicate (k + 1) (Except.ok none)) = l := by
  induction l with
  | nil => rfl
  | cons m l ih => exact congrArg (m :: ·) ih

theorem yielded_calls (l : List Mat) (n : Nat) (h : l.length < n) :
    yielded ((l.take n).map (fun m => Except.ok (some m)) ++
      List.replicate (n - l.length) (Except.ok none)) = l := by
  rw [List.take_of_length_le (Nat.le_of_lt h),
    show n - l.length = (n - l.length - 1) + 1 by omega]
  exact yielded_map l _

end AcVerif

/-- the search loop documented for users of the `Automaton` trait is `findS` without prefilter -/
theorem AcVerif.EngP.findS_eq_recipeLoop {σ α : Type} (A : Aut σ α) (s : Nat) (std : Bool) (rest : List α) :
    ∀ (sid : σ) (at_ : Nat) (mat : Option Mat),
      findS A s false std sid at_ mat rest = recipeLoop A std sid at_ mat rest := by
  induction rest with
  | nil => intro sid at_ mat; rfl
  | cons c rest ih =>
    intro sid at_ mat
    simp only [findS, recipeLoop, Bool.false_and, Bool.not_false, if_true, ih]
