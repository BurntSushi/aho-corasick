import AcVerif.Proofs.NfaIdsSim
import AcVerif.Proofs.DenseRows
/-!
# L1c-ids: the stored dense rows

`densify` runs before `shuffle`, and `NFA::remap` rewrites the rows with the same map as the sparse
lists (`followD_ids`).  If the rows of `N` agree with its sparse lists (`followD N rows = follow N`,
which `followD_compile` of `DenseRows.lean` proves for the compiled NFA), then so do the stored rows
of `buildNfaIds N`, at *every* id (`followD_stored`): `follow_transition` through the stored rows is
`follow` on the stored states, and `NfaI.toAutD` is `NfaI.toAut` (`toAutD_stored`).
-/
namespace AcVerif.L1cIdsP
open AcVerif AcVerif.CNfa AcVerif.L1cP AcVerif.L1dP AcVerif.L1eP AcVerif.L1dIdsP

/-- the byte classes of the noncontiguous NFA -/
def nClass (N : CNfa) : UInt8 → Nat := classOfMarks (marksOf (trieBytes N))

theorem buildDenseIds_getD_lt (N : CNfa) (dd : Nat) {i : Nat} (hi : i < N.size) :
    (buildDenseIds N dd).getD i none =
      ((denseRows N dd).getD ((cOrder N).getD i 0) none).map
        fun row => row.map fun t => posOf N t := by
  unfold buildDenseIds
  exact Array.getD_map_range _ _ _ _ hi

theorem buildDenseIds_getD_ge (N : CNfa) (dd : Nat) {i : Nat} (hi : N.size ≤ i) :
    (buildDenseIds N dd).getD i none = none := by
  unfold buildDenseIds
  exact Array.getD_map_range_ge _ _ _ _ hi

section
variable {N : CNfa} (hS : ShufOK N)
include hS

theorem followD_ids (hasPre : Bool) (dd : Nat) {s : Nat} (hs : s < N.size) (b : UInt8) :
    (buildNfaIds N hasPre).followD (nClass N) (buildDenseIds N dd) (posOf N s) b =
      posOf N (followD N (denseRows N dd) s b) := by
  unfold NfaI.followD followD
  rw [buildDenseIds_getD_lt N dd (show posOf N s < N.size from hS.pos_lt s hs)]
  have eo : (cOrder N).getD (posOf N s) 0 = s := hS.order_pos s hs
  rw [eo]
  cases hr : (denseRows N dd).getD s none with
  | none =>
    show follow (buildNfaIds N hasPre).states (posOf N s) b = _
    rw [buildNfaIds_states]
    exact follow_ids hS hs b
  | some row =>
    show (row.map fun t => posOf N t).getD (nClass N b) FAIL = posOf N (row.getD (nClass N b) FAIL)
    exact Array.getD_map_of_fix row _ FAIL _ (posOf_fail hS)

/-- At an id out of range there is no stored row and `NfaI.followD` falls through to `follow`, so
no hypothesis on `q` is needed. -/
theorem followD_stored (hasPre : Bool) (dd : Nat)
    (hf : ∀ sid b, followD N (denseRows N dd) sid b = follow N sid b) (q : Nat) (b : UInt8) :
    (buildNfaIds N hasPre).followD (nClass N) (buildDenseIds N dd) q b =
      follow (buildNfaIds N hasPre).states q b := by
  by_cases hq : q < N.size
  · have hs := hS.order_lt q hq
    have e : posOf N ((cOrder N).getD q 0) = q := hS.pos_order q hq
    have := followD_ids hS hasPre dd hs b
    rw [e] at this
    rw [this, hf, buildNfaIds_states, ← follow_ids hS hs b, e]
  · unfold NfaI.followD
    rw [buildDenseIds_getD_ge N dd (by omega)]

theorem nextStateD_stored (hasPre : Bool) (dd : Nat)
    (hf : ∀ sid b, followD N (denseRows N dd) sid b = follow N sid b) (anch : Bool) :
    ∀ (fuel q : Nat) (b : UInt8) (hops : Nat),
      (buildNfaIds N hasPre).nextStateD (nClass N) (buildDenseIds N dd) anch fuel q b hops =
        (buildNfaIds N hasPre).nextState anch fuel q b hops
  | 0, _, _, _ => rfl
  | fuel + 1, q, b, hops => by
    show (if ((buildNfaIds N hasPre).followD (nClass N) (buildDenseIds N dd) q b != FAIL) = true
        then ((buildNfaIds N hasPre).followD (nClass N) (buildDenseIds N dd) q b, hops)
        else if anch = true then (DEAD, hops)
        else (buildNfaIds N hasPre).nextStateD (nClass N) (buildDenseIds N dd) anch fuel
          ((buildNfaIds N hasPre).states.getD q {}).fail b (hops + 1)) =
      (if (follow (buildNfaIds N hasPre).states q b != FAIL) = true
        then (follow (buildNfaIds N hasPre).states q b, hops)
        else if anch = true then (DEAD, hops)
        else nextState (buildNfaIds N hasPre).states anch fuel
          ((buildNfaIds N hasPre).states.getD q {}).fail b (hops + 1))
    rw [followD_stored hS hasPre dd hf, nextStateD_stored hasPre dd hf anch fuel]
    rfl

theorem toAutD_stored (hasPre : Bool) (dd : Nat)
    (hf : ∀ sid b, followD N (denseRows N dd) sid b = follow N sid b) (k : MatchKind)
    (P : List (List UInt8)) :
    (buildNfaIds N hasPre).toAutD (nClass N) (buildDenseIds N dd) k P hasPre =
      (buildNfaIds N hasPre).toAut k P hasPre := by
  have : (fun (anch : Bool) (sid : Nat) (b : UInt8) =>
      ((buildNfaIds N hasPre).nextStateD (nClass N) (buildDenseIds N dd) anch
        ((buildNfaIds N hasPre).states.size + 1) sid b 0).1) =
      fun anch sid b =>
        (buildNfaIds N hasPre).next anch ((buildNfaIds N hasPre).states.size + 1) sid b := by
    funext anch sid b
    rw [nextStateD_stored hS hasPre dd hf]
    rfl
  unfold NfaI.toAutD
  rw [this]
  rfl

end

end AcVerif.L1cIdsP
