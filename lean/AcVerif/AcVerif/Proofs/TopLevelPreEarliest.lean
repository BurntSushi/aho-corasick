import AcVerif.Proofs.TopLevelPre
import AcVerif.Theorems.C14
/-!
# Capstone proofs: earliest mode on a leftmost searcher with a prefilter (C14)

In earliest mode a leftmost search that consults a confirming prefilter may return the *normal*
match where the prefilter-free search returns the *earliest* one (`C05_transparent` excludes that
case).  What survives is what C14 says of the pair (earliest answer, normal answer), `EarliestOK`:
whatever it returns is a genuine admissible occurrence, it returns something exactly when the normal
search does, and what it returns ends no later than THE normal (leftmost) answer.  `is_match` only
reads whether something was found, so it is unaffected.

* `early_loop`: the earliest run with a sound prefilter, from any state the two prefilter-free
  runs (earliest and normal) restarted at `b` pass through, is `EarliestOK` against the normal
  answer `N b` of the span `[b, e]`; in the start state `N` moves with the prefilter's verdict as
  in `PreTransparent` (`verdict_answer`), and `EarliestOK` only widens (`EarliestOK.mono`);
* `ref_earliest_pre`, `ref_is_match_pre`: on the reference automaton, for a sound prefilter or none.
-/
namespace AcVerif.TopP
open AcVerif AcVerif.MiscP AcVerif.PreP
variable {α : Type}

def EarliestOK (P : List (List α)) (hay : List α) (s e : Nat) (anch : Bool)
    (r r' : Option Mat) : Prop :=
  r.isSome = r'.isSome ∧
    ∀ m, r = some m → IsOccA P hay s e anch m ∧ ∀ m', r' = some m' → m.stop ≤ m'.stop

theorem EarliestOK.none {P : List (List α)} {hay : List α} {s e : Nat} {anch : Bool} :
    EarliestOK P hay s e anch none none :=
  ⟨rfl, fun _ h => nomatch h⟩

theorem EarliestOK.mono {P : List (List α)} {hay : List α} {b j e : Nat} {r r' : Option Mat}
    (h : EarliestOK P hay j e false r r') (hbj : b ≤ j) : EarliestOK P hay b e false r r' :=
  ⟨h.1, fun m hm => ⟨isOccA_false.2 (isOcc_mono (isOccA_false.1 (h.2 m hm).1) hbj), (h.2 m hm).2⟩⟩

/-! ## the ideal leftmost automaton -/

section ideal
variable [DecidableEq α]

/-- C14 on the ideal leftmost automaton, with THE answer -/
theorem ideal_early (k : MatchKind) (hk : k = .ll ∨ k = .lf) (P : List (List α)) (sk : StartKind)
    (i : Input α) (h : supportsAnch sk i.anch) :
    ∃ r r', tryFindFwd (ideal k P sk false) none { i with earliest := true } = .ok r ∧
      tryFindFwd (ideal k P sk false) none { i with earliest := false } = .ok r' ∧
      EarliestOK P i.hay i.s i.e i.anch r r' ∧ IsFind k P i.hay i.s i.e i.anch r' := by
  obtain ⟨r, r', h1, h2, h3, h4⟩ := C14_earliest k hk P sk i h
  obtain ⟨r'', h2', hf⟩ := EngP.find_ideal k P sk { i with earliest := false } (Or.inr rfl) h
  cases h2'.symm.trans h2
  exact ⟨r, r', h1, h2, ⟨h3, h4⟩, hf⟩

theorem fresh_early (k : MatchKind) (hk : k = .ll ∨ k = .lf) (P : List (List α))
    (hne : ∀ p ∈ P, p ≠ []) (sk : StartKind) (hsk : supportsAnch sk false) (g : α → α)
    (hay : List α) (s e : Nat) (he : e ≤ hay.length) (j : Nat) (hj : j ≤ e) :
    EarliestOK P (hay.map g) j e false
        (findLoop ((ideal k P sk false).comap g) hay s e he none false true (.at []) j none)
        (findLoop ((ideal k P sk false).comap g) hay s e he none false false (.at []) j none) ∧
    IsFind k P (hay.map g) j e false
        (findLoop ((ideal k P sk false).comap g) hay s e he none false false (.at []) j none) := by
  have he' : e ≤ (hay.map g).length := by simpa using he
  rw [MiscP.findLoop_comap (ideal k P sk false) g hay s e he he',
    MiscP.findLoop_comap (ideal k P sk false) g hay s e he he']
  obtain ⟨r, r', h1, h2, h3, h4⟩ :=
    ideal_early k hk P sk ⟨hay.map g, j, e, false, false, ⟨he', by omega⟩⟩ hsk
  have hks : (k == MatchKind.std) = false := by rcases hk with rfl | rfl <;> rfl
  have f1 := fresh_run k P hne sk hsk (hay.map g) s e he' true j hj
  have f2 := fresh_run k P hne sk hsk (hay.map g) s e he' false j hj
  rw [hks, Bool.false_or] at f1 f2
  cases h1.symm.trans f1
  cases h2.symm.trans f2
  exact ⟨h3, h4⟩

/-- The loop with prefilter in earliest mode, from ANY state `q`: the restart position `b` is tied
to `(q, at_)` by two equations between prefilter-free runs (earliest and normal), which every step
outside the start state keeps and which are `rfl` at a restart. -/
theorem early_loop (k : MatchKind) (hk : k = .ll ∨ k = .lf) (P : List (List α))
    (hne : ∀ p ∈ P, p ≠ []) (pre : Prefilter α) (sk : StartKind) (hsk : supportsAnch sk false)
    (g : α → α) (hay : List α) (hs : PrefilterSoundAt k P (pre hay) (hay.map g))
    (s e : Nat) (he : e ≤ hay.length) (at_ : Nat) :
    ∀ (q : St α) (b : Nat), b ≤ e → b ≤ at_ →
      findLoop ((ideal k P sk false).comap g) hay s e he none false true (.at []) b none =
        findLoop ((ideal k P sk false).comap g) hay s e he none false true q at_ none →
      findLoop ((ideal k P sk false).comap g) hay s e he none false false (.at []) b none =
        findLoop ((ideal k P sk false).comap g) hay s e he none false false q at_ none →
      EarliestOK P (hay.map g) b e false
        (findLoop ((ideal k P sk true).comap g) hay s e he (some pre) false true q at_ none)
        (findLoop ((ideal k P sk false).comap g) hay s e he none false false (.at []) b none) := by
  have he' : e ≤ (hay.map g).length := by simpa using he
  have hA := (startFlagged_ideal k P hne sk).comap g
  have Fspec := fresh_early k hk P hne sk hsk g hay s e he
  induction at_ using ScanP.upTo_induction e with
  | stop a h =>
    intro q b hbe _ hE _
    rw [findLoop_done h] at hE ⊢
    have hb := (Fspec b hbe).1
    rwa [hE] at hb
  | step a h ih =>
    intro q b hbe hba hE hN
    generalize hq' : ((ideal k P sk false).comap g).next false q (hay[a]'(Nat.lt_of_lt_of_le h he)) = q'
    rw [findLoop_free hA hay s e he _ q a none h q' hq'] at hE hN
    by_cases hq : q' = .at []
    · rw [findLoop_flagged_start hA hay s e he true q a none h q' hq' pre hq]
      subst hq
      simp only [hA.q0_dead, hA.q0_match, Bool.false_eq_true, if_false] at hN
      -- the normal answer for `[b, e]` is that for `[a + 1, e]` (`hN`), which moves with the
      -- prefilter's verdict; the run with prefilter restarts where the verdict says
      have IH : ∀ j, a < j → j ≤ e → EarliestOK P (hay.map g) b e false
          (findLoop ((ideal k P sk true).comap g) hay s e he (some pre) false true (.at []) j
            none)
          (findLoop ((ideal k P sk false).comap g) hay s e he none false false (.at []) j none) :=
        fun j h1 h2 => (ih j h1 _ j h2 (Nat.le_refl _) rfl rfl).mono (by omega)
      rw [hN]
      exact follow_rel k pre hay _ hs s e he he' true false (fun j hj => (Fspec j hj).2) h .none IH
    · rw [findLoop_flagged hA hay s e he true q a none h q' hq' pre hq]
      cases hd : ((ideal k P sk false).comap g).isDead q' with
      | true =>
        rw [hd] at hE
        have hb := (Fspec b hbe).1
        rwa [hE] at hb
      | false =>
        cases hm : ((ideal k P sk false).comap g).isMatch q' with
        | true =>
          rw [hd, hm] at hE
          have hb := (Fspec b hbe).1
          rwa [hE] at hb
        | false =>
          rw [hd, hm] at hE hN
          exact ih _ (Nat.lt_succ_self a) q' b hbe (by omega) hE hN

theorem findImp_pre_early (k : MatchKind) (hk : k = .ll ∨ k = .lf) (P : List (List α))
    (hne : ∀ p ∈ P, p ≠ []) (pre : Prefilter α) (sk : StartKind) (g : α → α) (i : Input α)
    (hs : PrefilterSoundAt k P (pre i.hay) (i.hay.map g))
    (ha : i.anch = false) (hsk : supportsAnch sk false) (hse : i.s ≤ i.e) :
    ∃ r1, findImp ((ideal k P sk true).comap g) i (some pre) false true = .ok r1 ∧
      ∀ r', IsFind k P (i.hay.map g) i.s i.e false r' →
        EarliestOK P (i.hay.map g) i.s i.e false r1 r' := by
  have hst1 : ((ideal k P sk true).comap g).start i.anch = some (.at []) := by
    rw [ha]; exact LmP.start_root k P false hsk
  have hm1 : ((ideal k P sk true).comap g).isMatch (.at []) = false :=
    (startFlagged_ideal k P hne sk).q0_match
  have he' : i.e ≤ (i.hay.map g).length := by simpa using i.valid.1
  have Fspec := fresh_early k hk P hne sk hsk g i.hay i.s i.e i.valid.1
  unfold findImp
  rw [hst1]
  simp only [hm1, Bool.false_and, Bool.false_eq_true, if_false]
  -- compare with the normal answer of the fresh prefilter-free run, which is THE answer
  obtain ⟨r1, e1, hr⟩ := initial_rel k pre i.hay (i.hay.map g) hs i.s i.e i.valid.1 he' hse true
    false (fun j hj => (Fspec j hj).2) (R := EarliestOK P (i.hay.map g) i.s i.e false) .none
    (fun m hm => ⟨rfl, fun m1 h1 => by
      cases h1; exact ⟨hm.1, fun m' hm' => by cases hm'; exact Nat.le_refl _⟩⟩)
    (fun j hsj hje => (early_loop k hk P hne pre sk hsk g i.hay hs i.s i.e i.valid.1 j _ j hje
      (Nat.le_refl _) rfl rfl).mono hsj)
  exact ⟨r1, e1, fun r' hr' =>
    IsFind_unique k P (i.hay.map g) i.s i.e false _ _ (Fspec i.s hse).2 hr' ▸ hr⟩

theorem tryFind_pre_earliest (k : MatchKind) (hk : k = .ll ∨ k = .lf) (P : List (List α))
    (hne : ∀ p ∈ P, p ≠ []) (pre : Prefilter α) (sk : StartKind) (g : α → α) (i : Input α)
    (hs : PrefilterSoundAt k P (pre i.hay) (i.hay.map g)) (h : supportsAnch sk i.anch) :
    ∃ r1, tryFindFwd ((ideal k P sk true).comap g) (some pre) { i with earliest := true } =
        .ok r1 ∧
      ∀ r', IsFind k P (i.hay.map g) i.s i.e i.anch r' →
        EarliestOK P (i.hay.map g) i.s i.e i.anch r1 r' := by
  by_cases hi : i.isDone = true ∨ i.anch = true
  · -- the prefilter is not consulted
    obtain ⟨r0, r0', h0, _, hq0, hf0⟩ := ideal_early k hk P sk (i.mapHay g) h
    replace h0 := (tryFindFwd_comap _ g { i with earliest := true }).trans h0
    rw [tryFind_noPre ((sameButSpecial_ideal k P sk).comap g) rfl rfl _ { i with earliest := true }
      hi]
    exact ⟨r0, h0, fun r' hr' => IsFind_unique k P _ _ _ _ _ _ hf0 hr' ▸ hq0⟩
  · obtain ⟨hse, ha, e1⟩ := tryFindFwd_unanch ((ideal k P sk true).comap g) (some pre)
      { i with earliest := true } hi
    have ha' : i.anch = false := ha
    obtain ⟨r1, e2, hr⟩ := findImp_pre_early k hk P hne pre sk g { i with earliest := true } hs
      ha (ha' ▸ h) hse
    rw [e1, Bool.or_true]
    exact ⟨r1, e2, ha' ▸ hr⟩

end ideal

/-! ## the reference automaton -/

section ref
variable {f : Bool} {k : MatchKind} {P : List (List UInt8)} {po : Option (Prefilter UInt8)}

theorem leftmost_of_ne_std {k : MatchKind} (hk : k ≠ .std) : k = .ll ∨ k = .lf := by
  cases k <;> simp at hk ⊢

/-- C14 for a sound prefilter or none: the earliest-mode search of a leftmost searcher reports a
genuine admissible occurrence, exactly when the normal search reports one, ending no later -/
theorem ref_earliest_pre (hk : k ≠ .std) (hok : PreOK f k P po) (sk : StartKind)
    (i : Input UInt8) (h : supportsAnch sk i.anch) :
    ∃ r r', tryFindFwd (refAut f k P sk po.isSome) po { i with earliest := true } = .ok r ∧
      tryFindFwd (refAut f k P sk po.isSome) po { i with earliest := false } = .ok r' ∧
      IsFind k (specPats f P) (specHay f i.hay) i.s i.e i.anch r' ∧
      EarliestOK (specPats f P) (specHay f i.hay) i.s i.e i.anch r r' := by
  cases po with
  | none =>
    obtain ⟨r, r', h1, h2, hr, hf⟩ :=
      ideal_early k (leftmost_of_ne_std hk) (specPats f P) sk (i.mapHay (L1cP.foldIf f)) h
    rw [refAut_eq, tryFindFwd_comap, tryFindFwd_comap, specHay_eq]
    exact ⟨r, r', h1, h2, hf, hr⟩
  | some pre =>
    obtain ⟨r', h2, hf⟩ := ref_find f k P sk { i with earliest := false } h (Or.inr rfl)
    rw [← ref_find_pre sk { i with earliest := false } hok (Or.inr rfl) h] at h2
    obtain ⟨r, h1, hr⟩ := tryFind_pre_earliest k (leftmost_of_ne_std hk) _ (specPats_ne f hok.1)
      pre sk (L1cP.foldIf f) i (hok.2.at i.hay) h
    rw [← refAut_eq] at h1
    rw [← specHay_eq] at hr
    exact ⟨r, r', h1, h2, hf, hr r' hf⟩

/-- `is_match` (a search in earliest mode) finds something iff an admissible occurrence exists:
C14, for every match kind and a sound prefilter or none -/
theorem ref_is_match_pre (hok : PreOK f k P po) (sk : StartKind) (i : Input UInt8)
    (h : supportsAnch sk i.anch) :
    ∃ r, tryFindFwd (refAut f k P sk po.isSome) po { i with earliest := true } = .ok r ∧
      (r.isSome = true ↔ ∃ m, IsOccA (specPats f P) (specHay f i.hay) i.s i.e i.anch m) := by
  by_cases hk : k = .std
  · obtain ⟨r, h1, hf⟩ := ref_find f k P sk { i with earliest := true } h (Or.inl hk)
    rw [← ref_find_pre sk { i with earliest := true } hok (Or.inl hk) h] at h1
    exact ⟨r, h1, isFind_isSome_iff hf⟩
  · obtain ⟨r, r', h1, _, hf, h3, _⟩ := ref_earliest_pre hk hok sk i h
    exact ⟨r, h1, h3 ▸ isFind_isSome_iff hf⟩

end ref

end AcVerif.TopP
