import AcVerif.NfaMemCompile
import AcVerif.Proofs.BuildCheckedBase
import AcVerif.Proofs.NfaMemCompileFill
import AcVerif.Proofs.NfaMemRewrite
import AcVerif.Theorems.L1cMem
/-!
# The refinement relation between memory and abstract automaton, and the single operations

`Rel m n`: the memory `m` satisfies the representation invariant, its side vectors have exactly
the lengths `sparseLen` / `matchesLen` of `BuildChecked.lean` (`Tight`: no cell of `nfa.sparse` /
`nfa.matches` outside the lists), and it represents the abstract automaton `n` up to the failure
links of the states `0, 1, 2` (`FailEq`).  `Rel.step` lifts a step on the memory (`MemP.Step`) to
`Rel`; every operation the compiler phases use is an instance.
-/
-- `(absState m s).trans` is `m.iterTrans s` by unfolding `absState`; unfolding the iterator instead is slow
attribute [local irreducible] AcVerif.MemNfa.iterTrans AcVerif.MemNfa.iterMatches

namespace AcVerif.MemC
open AcVerif AcVerif.CNfa AcVerif.L1cP AcVerif.BuildP AcVerif.MemP

/-! ## equality up to the failure links of `DEAD`, `FAIL` and the unanchored start -/

def SEq (p : Prop) (x y : CState) : Prop :=
  x.trans = y.trans ∧ x.matches_ = y.matches_ ∧ (p → x.fail = y.fail)

def FailEq (a n : CNfa) : Prop := a.size = n.size ∧ ∀ s, SEq (3 ≤ s) (a.getD s {}) (n.getD s {})

theorem SEq.refl (p : Prop) (x : CState) : SEq p x x := ⟨rfl, rfl, fun _ => rfl⟩

theorem FailEq.refl (n : CNfa) : FailEq n n := ⟨rfl, fun _ => SEq.refl _ _⟩

theorem FailEq.modify {a n : CNfa} (h : FailEq a n) (i : Nat) {f g : CState → CState}
    (hfg : SEq (3 ≤ i) (f (a.getD i {})) (g (n.getD i {}))) :
    FailEq (a.modify i f) (n.modify i g) := by
  refine ⟨by rw [Array.size_modify, Array.size_modify]; exact h.1, fun s => ?_⟩
  rw [Array.getD_modify, Array.getD_modify, h.1]
  by_cases e : i = s ∧ s < n.size
  · rw [if_pos e, if_pos e, ← e.1]
    exact hfg
  · rw [if_neg e, if_neg e]; exact h.2 s

theorem FailEq.push {a n : CNfa} (h : FailEq a n) {x y : CState} (hxy : SEq (3 ≤ n.size) x y) :
    FailEq (a.push x) (n.push y) := by
  refine ⟨by rw [Array.size_push, Array.size_push, h.1], fun s => ?_⟩
  by_cases e : s = n.size
  · rw [e]
    have e' : n.size = a.size := h.1.symm
    conv => lhs; rw [e']
    rw [Array.getD_push_size, Array.getD_push_size]; exact hxy
  · rw [Array.getD_push_ne _ _ _ (h.1 ▸ e), Array.getD_push_ne _ _ _ e]; exact h.2 s

theorem FailEq.follow {a n : CNfa} (h : FailEq a n) (s : Nat) (b : UInt8) :
    CNfa.follow a s b = CNfa.follow n s b := by
  rw [follow_eq, follow_eq, (h.2 s).1]

theorem FailEq.isMatch {a n : CNfa} (h : FailEq a n) (s : Nat) :
    CNfa.isMatch a s = CNfa.isMatch n s := by
  unfold CNfa.isMatch; rw [(h.2 s).2.1]

theorem sparseLen_congr {a n : CNfa} (hs : a.size = n.size)
    (ht : ∀ s, (a.getD s {}).trans.length = (n.getD s {}).trans.length) :
    sparseLen a = sparseLen n := by
  rw [sparseLen_eq, sparseLen_eq, wsum_congr gT hs ht]

theorem FailEq.sparseLen {a n : CNfa} (h : FailEq a n) : sparseLen a = sparseLen n :=
  sparseLen_congr h.1 fun s => by rw [(h.2 s).1]

theorem FailEq.matchesLen {a n : CNfa} (h : FailEq a n) : matchesLen a = matchesLen n := by
  rw [matchesLen_eq, matchesLen_eq, wsum_congr gM h.1 fun s => by unfold gM; rw [(h.2 s).2.1]]

theorem sparseLen_modify (n : CNfa) (i : Nat) {f : CState → CState}
    (hf : ∀ st, (f st).trans.length = st.trans.length) : sparseLen (n.modify i f) = sparseLen n := by
  rw [sparseLen_eq, sparseLen_eq, wsum_modify_eq gT f hf]

/-! ## the lengths of the side vectors -/

/-- `nfa.sparse` / `nfa.matches` hold the dummy entry and the cells of the lists, nothing else -/
def Tight (m : MemNfa) : Prop :=
  m.sparse.size = sparseLen (absNfa m) ∧ m.matches_.size = matchesLen (absNfa m)

theorem Tight.step {m m' : MemNfa} {sid : Nat} {x : CState} (hT : Tight m) (hs : Step m m' sid x)
    (hp : sid < m.states.size) : Tight m' := by
  have hi : sid < (absNfa m).size := by rw [size_absNfa]; exact hp
  have h1 : wsum gT ((absNfa m).modify sid fun _ => x) + (absState m sid).trans.length =
      wsum gT (absNfa m) + x.trans.length := by
    have := wsum_modify gT (fun _ => x) (absNfa m) hi
    rwa [getD_absNfa_lt m hp] at this
  have h2 : wsum gM ((absNfa m).modify sid fun _ => x) + (absState m sid).matches_.length =
      wsum gM (absNfa m) + x.matches_.length := by
    have := wsum_modify gM (fun _ => x) (absNfa m) hi
    rwa [getD_absNfa_lt m hp] at this
  have e1 := hs.tcells
  have e2 := hs.mcells
  unfold Tight at hT ⊢
  rw [hs.absNfa (fun _ => x) rfl, sparseLen_eq, matchesLen_eq]
  rw [sparseLen_eq, matchesLen_eq] at hT
  omega

/-! ## the relation -/

structure Rel (m : MemNfa) (n : CNfa) : Prop where
  ok : MemOK m
  tight : Tight m
  eq : FailEq (absNfa m) n
  /-- the three failure links `FailEq` does not see still hold the value `alloc_state` gave them -/
  low : ∀ s, s < 3 → (m.st s).fail = 0

namespace Rel
variable {m m' : MemNfa} {n : CNfa}

theorem size (h : Rel m n) : m.states.size = n.size := by
  have := h.eq.1; simpa using this

theorem follow (h : Rel m n) (s : Nat) (b : UInt8) :
    m.followTransitionSparse s b = CNfa.follow n s b := by
  rw [followTransitionSparse_eq h.ok, h.eq.follow]

theorem isMatch (h : Rel m n) (s : Nat) : m.isMatch s = CNfa.isMatch n s := by
  rw [isMatch_eq h.ok, h.eq.isMatch]

theorem iterTrans (h : Rel m n) (s : Nat) : m.iterTrans s = (n.getD s {}).trans := by
  rw [← (h.eq.2 s).1, getD_absNfa_trans h.ok]

theorem iterMatches (h : Rel m n) (s : Nat) : m.iterMatches s = (n.getD s {}).matches_ := by
  rw [← (h.eq.2 s).2.1, getD_absNfa_matches h.ok]

theorem fail (h : Rel m n) {s : Nat} (h3 : 3 ≤ s) (hs : s < n.size) :
    (m.st s).fail = (n.getD s {}).fail := by
  rw [← (h.eq.2 s).2.2 h3, getD_absNfa_lt m (h.size ▸ hs)]; rfl

theorem sizes (h : Rel m n) :
    m.states.size = n.size ∧ m.sparse.size = sparseLen n ∧ m.matches_.size = matchesLen n :=
  ⟨h.size, by rw [h.tight.1, h.eq.sparseLen], by rw [h.tight.2, h.eq.matchesLen]⟩

/-- what the crate's accessors return at state `s` -/
theorem pointwise (h : Rel m n) (s : Nat) :
    m.iterTrans s = (n.getD s {}).trans ∧
    (s < n.size → m.iterMatches s = (n.getD s {}).matches_) ∧
    (3 ≤ s → s < n.size → (m.st s).fail = (n.getD s {}).fail) ∧
    (s < 3 → (m.st s).fail = 0) :=
  ⟨h.iterTrans s, fun _ => h.iterMatches s, h.fail, h.low s⟩

/-! ### writes -/

/-- **a step on the memory against a modification of the abstract automaton** at the same state,
with equal results up to the failure link of a state below `3` (which then has to stay `0`) -/
theorem step (h : Rel m n) {sid : Nat} (hp : sid < n.size) {x : CState} (hs : Step m m' sid x)
    (g : CState → CState) (hx : SEq (3 ≤ sid) x (g (n.getD sid {})))
    (hlow : sid < 3 → x.fail = 0) : Rel m' (n.modify sid g) := by
  refine ⟨hs.ok, h.tight.step hs (h.size ▸ hp), ?_, fun s hs3 => ?_⟩
  · rw [hs.absNfa (fun _ => x) rfl]
    exact h.eq.modify sid hx
  · show (absState m' s).fail = 0
    by_cases e : s = sid
    · rw [e, hs.self]; exact hlow (e ▸ hs3)
    · rw [hs.frame s e]; exact h.low s hs3

/-- `alloc_state(depth)` with the value `fail` of `special.start_unanchored_id` at that time: `0`
for the first three states, the unanchored start afterwards -/
theorem allocState (h : Rel m n) (depth : Nat) {fail : Nat} (h0 : n.size < 3 → fail = 0)
    (h3 : 3 ≤ n.size → fail = SU) :
    Rel (m.allocState depth fail).1 (n.push { fail := SU }) ∧
      (m.allocState depth fail).2 = n.size := by
  obtain ⟨habs, hid⟩ := absNfa_allocState h.ok depth fail
  refine ⟨⟨allocState_memOK h.ok depth fail, ?_, ?_, ?_⟩, by rw [hid]; exact h.eq.1⟩
  · have hT := h.tight
    unfold Tight at hT ⊢
    rw [habs, sparseLen_eq, matchesLen_eq, wsum_push, wsum_push]
    rw [sparseLen_eq, matchesLen_eq] at hT
    exact ⟨by rw [show (m.allocState depth fail).1.sparse = m.sparse from rfl, hT.1]; rfl,
      by rw [show (m.allocState depth fail).1.matches_ = m.matches_ from rfl, hT.2]; rfl⟩
  · rw [habs]
    exact h.eq.push ⟨rfl, rfl, h3⟩
  · intro s hs
    rw [st_allocState, h.size]
    split
    · rename_i e; exact h0 (e ▸ hs)
    · exact h.low s hs

theorem addTransition (h : Rel m n) {prev : Nat} (hp : prev < n.size) (b : UInt8) (t : Nat) :
    Rel (m.addTransition prev b t) (CNfa.addTransition n prev b t) :=
  h.step hp (addTransition_step h.ok (h.size ▸ hp) b t) _
    ⟨congrArg (insertTrans b t) (h.iterTrans prev), h.iterMatches prev, fun h3 => h.fail h3 hp⟩
    (h.low prev)

theorem initFullState (h : Rel m n) {prev : Nat} (hp : prev < n.size)
    (hempty : (n.getD prev {}).trans = []) (next : Nat) :
    Rel (m.initFullState prev next) (n.modify prev fun st => { st with trans := fullTrans next }) :=
  h.step hp (initFullState_step h.ok (h.size ▸ hp)
      ((sparse_eq_zero_iff h.ok prev).2 ((h.iterTrans prev).trans hempty)) next) _
    ⟨rfl, h.iterMatches prev, fun h3 => h.fail h3 hp⟩ (h.low prev)

theorem addMatch (h : Rel m n) {sid : Nat} (hp : sid < n.size) (pid : Nat) :
    Rel (m.addMatch sid pid)
      (n.modify sid fun st => { st with matches_ := st.matches_ ++ [pid] }) :=
  h.step hp (addMatch_step h.ok (h.size ▸ hp) pid) _
    ⟨h.iterTrans sid, congrArg (· ++ [pid]) (h.iterMatches sid), fun h3 => h.fail h3 hp⟩
    (h.low sid)

theorem copyMatches (h : Rel m n) {src dst : Nat} (hd : dst < n.size) (hne : src ≠ dst) :
    Rel (m.copyMatches src dst) (CNfa.copyMatches n src dst) :=
  h.step hd (copyMatches_step h.ok (h.size ▸ hd) hne) _
    ⟨h.iterTrans dst, by
      show m.iterMatches dst ++ m.iterMatches src = _ ++ _
      rw [h.iterMatches, h.iterMatches], fun h3 => h.fail h3 hd⟩
    (h.low dst)

theorem setFail (h : Rel m n) {sid : Nat} (hp : sid < n.size) (h3 : 3 ≤ sid) (f : Nat) :
    Rel (m.setFail sid f) (n.modify sid fun st => { st with fail := f }) :=
  h.step hp (setFail_step h.ok (h.size ▸ hp) f) _ ⟨h.iterTrans sid, h.iterMatches sid, fun _ => rfl⟩
    (fun h => absurd h3 (Nat.not_le_of_lt h))

theorem mapNext_eq (old new : Nat) :
    (fun x : UInt8 × Nat => (x.1, if x.2 = old then new else x.2)) =
      fun (b, t) => (b, if t == old then new else t) := by
  funext x
  obtain ⟨b, t⟩ := x
  by_cases h : t = old
  · simp [h]
  · simp [h]

theorem replaceNext (h : Rel m n) {sid : Nat} (hp : sid < n.size) (old new : Nat) :
    Rel (MemNfa.replaceNextGo sid old new (m.sparse.size + 1) m none)
      (n.modify sid fun st =>
        { st with trans := st.trans.map fun (b, t) => (b, if t == old then new else t) }) :=
  h.step hp (replaceNext_step h.ok sid old new) _
    ⟨by
      show List.map _ (m.iterTrans sid) = List.map _ _
      rw [h.iterTrans, mapNext_eq], h.iterMatches sid, fun h3 => h.fail h3 hp⟩
    (h.low sid)

end Rel

end AcVerif.MemC
