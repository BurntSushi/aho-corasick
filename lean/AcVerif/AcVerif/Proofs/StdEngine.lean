import AcVerif.Proofs.Struct
/-!
# The prefilter-free search loops on a "standard-like" automaton

For an automaton whose special states are exactly the dead and the match
states, the `earliest` non-overlapping search and the stepwise overlapping
search are both read off one explicit list `allMatches`: per position, the
longest prefix of the state's match list that passes the anchored filter
(`tryFindFwd_eq`, `ovl_step`, `ovlCalls_eq`; the iterator is `yielded` of the call history).
-/
namespace AcVerif.StdP
open AcVerif
variable {σ α : Type} {A : Aut σ α}

structure StdLike (A : Aut σ α) : Prop where
  special : ∀ q, A.isSpecial q = (A.isDead q || A.isMatch q)
  isMatch : ∀ q, A.isMatch q = !(A.mpats q).isEmpty
  dead_next : ∀ anch q c, A.isDead q = true → A.isDead (A.next anch q c) = true
  dead_out : ∀ q, A.isDead q = true → A.mpats q = []
  kind : A.kind = .std

def mk (A : Aut σ α) (at_ : Nat) (pid : Nat) : Mat :=
  { pid := pid, start := at_ - A.patLen pid, stop := at_ }

/-- the anchored filter of `move`, as a predicate on pattern ids -/
def okPid (A : Aut σ α) (s : Nat) (anch : Bool) (at_ : Nat) (pid : Nat) : Bool :=
  !(anch && decide ((mk A at_ pid).start > s))

theorem getMatch_eq (A : Aut σ α) (q : σ) (idx at_ : Nat) :
    getMatch A q idx at_ = mk A at_ ((A.mpats q).getD idx 0) := rfl

/-- matches reported while sitting in state `q` at position `at_` -/
def repAt (A : Aut σ α) (s : Nat) (anch : Bool) (q : σ) (at_ : Nat) : List Mat :=
  ((A.mpats q).takeWhile (okPid A s anch at_)).map (mk A at_)

/-- matches reported strictly after position `at_`, from state `q`, on the remaining text -/
def allRep (A : Aut σ α) (s : Nat) (anch : Bool) (q : σ) (at_ : Nat) : List α → List Mat
  | [] => []
  | c :: rest =>
    repAt A s anch (A.next anch q c) (at_ + 1) ++ allRep A s anch (A.next anch q c) (at_ + 1) rest

/-- every match of the search, in report order -/
def allMatches (A : Aut σ α) (s : Nat) (anch : Bool) (q0 : σ) (T : List α) : List Mat :=
  (A.mpats q0).map (mk A s) ++ allRep A s anch q0 s T

theorem repAt_dead (hA : StdLike A) (s : Nat) (anch : Bool) {q : σ}
    (hq : A.isDead q = true) (at_ : Nat) : repAt A s anch q at_ = [] := by
  simp [repAt, hA.dead_out q hq]

theorem allRep_dead (hA : StdLike A) (s : Nat) (anch : Bool) {q : σ}
    (hq : A.isDead q = true) (at_ : Nat) (rest : List α) : allRep A s anch q at_ rest = [] := by
  induction rest generalizing q at_ with
  | nil => rfl
  | cons c rest ih =>
    have h' := hA.dead_next anch q c hq
    simp [allRep, repAt_dead hA s anch h', ih h']

theorem mpats_nil_of_not_match (hA : StdLike A) {q : σ} (hq : A.isMatch q = false) :
    A.mpats q = [] := by
  have := hA.isMatch q
  rw [hq] at this
  simpa using this.symm

theorem repAt_nomatch (hA : StdLike A) (s : Nat) (anch : Bool) {q : σ}
    (hq : A.isMatch q = false) (at_ : Nat) : repAt A s anch q at_ = [] := by
  simp [repAt, mpats_nil_of_not_match hA hq]

theorem mpats_cons_of_match (hA : StdLike A) {q : σ}
    (hq : A.isMatch q = true) : ∃ pid tl, A.mpats q = pid :: tl := by
  have := hA.isMatch q
  rw [hq] at this
  cases h : A.mpats q with
  | nil => simp [h] at this
  | cons pid tl => exact ⟨pid, tl, rfl⟩

/-- On a standard-like automaton an iteration without prefilter reads off `repAt`: it stops
in a dead state, reports the first match listed there, and otherwise moves on. -/
theorem move_stdLike (hA : StdLike A) (hay : List α) (s e : Nat) (anch : Bool) (q : σ)
    (at_ : Nat) :
    move A hay s e none anch q at_ =
      if A.isDead q then .dead else
        match repAt A s anch q (at_ + 1) with
        | [] => .next
        | m :: _ => .hit m := by
  unfold move
  rw [hA.special]
  cases hd : A.isDead q with
  | true => rfl
  | false =>
    cases hm : A.isMatch q with
    | false => rw [repAt_nomatch hA s anch hm]; rfl
    | true =>
      obtain ⟨pid, tl, hp⟩ := mpats_cons_of_match hA hm
      have hf : (!(anch && decide ((getMatch A q 0 (at_ + 1)).start > s))) =
          okPid A s anch (at_ + 1) pid := by rw [getMatch_eq, hp]; rfl
      rw [hf, repAt, hp, getMatch_eq, hp, List.getD_cons_zero]
      cases hok : okPid A s anch (at_ + 1) pid with
      | true => rw [List.takeWhile_cons_of_pos hok]; rfl
      | false => rw [List.takeWhile_cons_of_neg (Bool.eq_false_iff.1 hok)]; rfl

theorem repAt_cons {s : Nat} {anch : Bool} {q : σ} {at_ : Nat} {m : Mat}
    {r : List Mat} (h : repAt A s anch q at_ = m :: r) :
    (((A.mpats q).drop 1).takeWhile (okPid A s anch at_)).map (mk A at_) = r := by
  unfold repAt at h
  cases hp : A.mpats q with
  | nil => rw [hp] at h; cases h
  | cons pid tl =>
    rw [hp] at h
    cases hok : okPid A s anch at_ pid with
    | true => rw [List.takeWhile_cons_of_pos hok] at h; exact (List.cons.inj h).2
    | false => rw [List.takeWhile_cons_of_neg (Bool.eq_false_iff.1 hok)] at h; cases h

/-! ## non-overlapping search -/

theorem findS_eq (hA : StdLike A) (s : Nat) (anch : Bool) (q : σ) (at_ : Nat)
    (rest : List α) :
    findS A s anch true q at_ none rest = (allRep A s anch q at_ rest).head? := by
  induction rest generalizing q at_ with
  | nil => rfl
  | cons c rest ih =>
    rw [findS_cons A [] s 0 anch true q at_ none c rest rfl (move_stdLike hA ..), allRep]
    cases hd : A.isDead (A.next anch q c) with
    | true => rw [repAt_dead hA s anch hd, allRep_dead hA s anch hd]; rfl
    | false =>
      cases repAt A s anch (A.next anch q c) (at_ + 1) with
      | nil => exact ih _ _
      | cons m r => rfl

theorem tryFindFwd_eq (hA : StdLike A) (i : Input α) {q0 : σ}
    (hq0 : A.start i.anch = some q0) (hd : i.isDone = false) :
    tryFindFwd A none i =
      .ok (allMatches A i.s i.anch q0 ((i.hay.take i.e).drop i.s)).head? := by
  have hk : (A.kind == MatchKind.std || i.earliest) = true := by simp [hA.kind]
  rw [tryFindFwd_findS A i hq0, hd, if_neg Bool.false_ne_true, hk, if_pos rfl]
  cases hm : A.isMatch q0 with
  | true =>
    obtain ⟨pid, tl, hp⟩ := mpats_cons_of_match hA hm
    simp [allMatches, hp, getMatch_eq]
  | false => simp [allMatches, mpats_nil_of_not_match hA hm, findS_eq hA]

/-! ## overlapping search -/

/-- the matches that the calls following state `st` will report, in order -/
def pending (A : Aut σ α) (i : Input α) (q0 : σ) (st : OState σ) : List Mat :=
  match st.id with
  | Option.none =>
    ((A.mpats q0).drop (st.nextIdx.getD 0)).map (mk A i.s) ++
      allRep A i.s i.anch q0 i.s ((i.hay.take i.e).drop i.s)
  | some q =>
    match st.nextIdx with
    | some k =>
      (((A.mpats q).drop k).takeWhile (okPid A i.s i.anch (st.at_ + 1))).map (mk A (st.at_ + 1)) ++
        allRep A i.s i.anch q (st.at_ + 1) ((i.hay.take i.e).drop (st.at_ + 1))
    | Option.none => allRep A i.s i.anch q st.at_ ((i.hay.take i.e).drop st.at_)

theorem pending_start (A : Aut σ α) (i : Input α) (q0 : σ) :
    pending A i q0 OState.start = allMatches A i.s i.anch q0 ((i.hay.take i.e).drop i.s) := by
  simp [pending, OState.start, allMatches]

theorem ovlS_step (hA : StdLike A) (i : Input α) (q0 : σ) (q : σ) (at_ : Nat)
    (rest : List α) (hrest : rest = (i.hay.take i.e).drop at_) :
    (ovlS A i.s i.anch q at_ rest).mat = (allRep A i.s i.anch q at_ rest).head? ∧
    pending A i q0 (ovlS A i.s i.anch q at_ rest) = (allRep A i.s i.anch q at_ rest).tail := by
  induction rest generalizing q at_ with
  | nil => exact ⟨rfl, by rw [ovlS, pending, ← hrest]; rfl⟩
  | cons c rest ih =>
    have hrest' : rest = (i.hay.take i.e).drop (at_ + 1) := by
      rw [← List.tail_drop, ← hrest]; rfl
    rw [ovlS_cons A [] i.s 0 i.anch q at_ c rest rfl (move_stdLike hA ..), allRep]
    cases hd : A.isDead (A.next i.anch q c) with
    | true =>
      rw [repAt_dead hA i.s i.anch hd, allRep_dead hA i.s i.anch hd]
      refine ⟨rfl, ?_⟩
      simp only [Move.halts, ovlPost, if_true, pending, ← hrest, allRep,
        repAt_dead hA i.s i.anch (hA.dead_next _ _ c hd),
        allRep_dead hA i.s i.anch (hA.dead_next _ _ c hd)]
      rfl
    | false =>
      cases hr : repAt A i.s i.anch (A.next i.anch q c) (at_ + 1) with
      | nil => exact ih _ _ hrest'
      | cons m r => exact ⟨rfl, by simp only [Bool.false_eq_true, if_false, Move.halts, ovlPost,
          if_true, pending, repAt_cons hr, ← hrest', List.cons_append, List.tail_cons]⟩

theorem drop_getD_cases (l : List Nat) (k : Nat) :
    (decide (k < l.length) = true ∧ l.drop k = l.getD k 0 :: l.drop (k + 1)) ∨
      (decide (k < l.length) = false ∧ l.drop k = []) := by
  rcases Nat.lt_or_ge k l.length with h | h
  · refine Or.inl ⟨decide_eq_true h, ?_⟩
    rw [List.drop_eq_getElem_cons h, List.getD_eq_getElem?_getD, List.getElem?_eq_getElem h]
    rfl
  · exact Or.inr ⟨decide_eq_false (Nat.not_lt.2 h), List.drop_eq_nil_of_le h⟩

theorem StdLike.isMatch_and (hA : StdLike A) (q : σ) (k : Nat) :
    (A.isMatch q && decide (k < (A.mpats q).length)) = decide (k < (A.mpats q).length) := by
  rw [hA.isMatch]
  cases A.mpats q with
  | nil => rfl
  | cons => rfl

/-- One call of `ovlImp` reports the head of the `pending` list of its state and leaves a
state whose `pending` is the tail, given that its loop does.  The engine may run on another
record `B` than the one `pending` is read off, as long as the two list the same matches; which
states `B` flags special and what the prefilter does is all in the hypothesis `hL`. -/
theorem ovlImp_step {A B : Aut σ α} (hA : StdLike A) (hm : B.isMatch = A.isMatch)
    (hp : B.mpats = A.mpats) (hl : B.patLen = A.patLen) (i : Input α)
    (pre : Option (Prefilter α)) {q0 : σ} (hq0 : B.start i.anch = some q0)
    (hL : ∀ q at_,
      (ovlLoop B i.hay i.s i.e i.valid.1 pre i.anch q at_).mat =
        (allRep A i.s i.anch q at_ ((i.hay.take i.e).drop at_)).head? ∧
      pending A i q0 (ovlLoop B i.hay i.s i.e i.valid.1 pre i.anch q at_) =
        (allRep A i.s i.anch q at_ ((i.hay.take i.e).drop at_)).tail)
    (st : OState σ) :
    ∃ st', ovlImp B i pre { st with mat := Option.none } = .ok st' ∧
      st'.mat = (pending A i q0 st).head? ∧ pending A i q0 st' = (pending A i q0 st).tail := by
  have hg : ∀ q idx at_, getMatch B q idx at_ = mk A at_ ((A.mpats q).getD idx 0) :=
    fun _ _ _ => by simp only [getMatch, mk, hp, hl]
  obtain ⟨mat, id, at_, nextIdx⟩ := st
  cases id with
  | none =>
    simp only [ovlImp, hq0, hm, hp, hg, hA.isMatch_and]
    rcases drop_getD_cases (A.mpats q0) (nextIdx.getD 0) with ⟨hlt, hdrop⟩ | ⟨hge, hdrop⟩
    · rw [if_pos hlt]
      refine ⟨_, rfl, ?_⟩
      simp only [pending, Option.getD_some, hdrop]
      exact ⟨rfl, rfl⟩
    · rw [if_neg (Bool.eq_false_iff.1 hge)]
      refine ⟨_, rfl, ?_⟩
      simp only [pending, hdrop, List.map_nil, List.nil_append]
      exact hL q0 i.s
  | some q =>
    cases nextIdx with
    | none => exact ⟨_, rfl, hL q at_⟩
    | some k =>
      have hf : ∀ pid, (!(i.anch && decide ((mk A (at_ + 1) pid).start > i.s))) =
          okPid A i.s i.anch (at_ + 1) pid := fun _ => rfl
      simp only [ovlImp, hp, hg, hf]
      rcases drop_getD_cases (A.mpats q) k with ⟨hlt, hdrop⟩ | ⟨hge, hdrop⟩
      · rw [hlt, Bool.true_and]
        cases hok : okPid A i.s i.anch (at_ + 1) ((A.mpats q).getD k 0) with
        | true =>
          rw [if_pos rfl]
          refine ⟨_, rfl, ?_⟩
          simp only [pending, hdrop, List.takeWhile_cons_of_pos hok]
          exact ⟨rfl, rfl⟩
        | false =>
          rw [if_neg Bool.false_ne_true]
          refine ⟨_, rfl, ?_⟩
          simp only [pending, hdrop, List.takeWhile_cons_of_neg (Bool.eq_false_iff.1 hok),
            List.map_nil, List.nil_append]
          exact hL q (at_ + 1)
      · rw [hge, Bool.false_and, if_neg Bool.false_ne_true]
        refine ⟨_, rfl, ?_⟩
        simp only [pending, hdrop, List.takeWhile_nil, List.map_nil, List.nil_append]
        exact hL q (at_ + 1)

theorem ovl_step (hA : StdLike A) (i : Input α) {q0 : σ}
    (hq0 : A.start i.anch = some q0) (hd : i.isDone = false) (st : OState σ) :
    ∃ st', tryFindOverlappingFwd A none i st = .ok st' ∧
      st'.mat = (pending A i q0 st).head? ∧ pending A i q0 st' = (pending A i q0 st).tail := by
  have hk : (A.kind != MatchKind.std) = false := by rw [hA.kind]; rfl
  have h1 : tryFindOverlappingFwd A none i st = ovlImp A i none { st with mat := Option.none } := by
    simp only [tryFindOverlappingFwd, hk, hd, Bool.false_eq_true, if_false, ite_self]
  rw [h1]
  refine ovlImp_step hA rfl rfl rfl i none hq0 (fun q at_ => ?_) st
  rw [ovlLoop_eq_ovlS]
  exact ovlS_step hA i q0 q at_ _ rfl

theorem ovlCalls_eq (hA : StdLike A) (i : Input α) {q0 : σ}
    (hq0 : A.start i.anch = some q0) (hd : i.isDone = false) (n : Nat) (st : OState σ) :
    ovlCalls A none i n st =
      ((pending A i q0 st).take n).map (fun m => Except.ok (some m)) ++
        List.replicate (n - (pending A i q0 st).length) (Except.ok Option.none) := by
  induction n generalizing st with
  | zero => simp [ovlCalls]
  | succ n ih =>
    obtain ⟨st', h1, h2, h3⟩ := ovl_step hA i hq0 hd st
    simp only [ovlCalls, h1]
    rw [ih st', h2, h3]
    cases pending A i q0 st with
    | nil => simp [List.replicate_succ]
    | cons m r => simp

/-! ## the `is_done` early return -/

theorem ovlCalls_done (hA : StdLike A) (i : Input α) {q0 : σ}
    (hq0 : A.start i.anch = some q0) (hd : i.isDone = true)
    (n : Nat) (st : OState σ) :
    ovlCalls A none i n st = List.replicate n (Except.ok Option.none) := by
  have hk : (A.kind != MatchKind.std) = false := by simp [hA.kind]
  induction n generalizing st with
  | zero => rfl
  | succ n ih =>
    simp [ovlCalls, tryFindOverlappingFwd, hk, hd, hq0, ih, List.replicate_succ]

end AcVerif.StdP
