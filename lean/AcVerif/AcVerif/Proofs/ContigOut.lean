import AcVerif.Ideal
import AcVerif.Proofs.ListArray
import AcVerif.Proofs.LmBasic
/-!
# L1e proofs: a match list of the ideal automaton has at most `P.length` entries

`out_length_le`: the suffixes of a node are pairwise different (`drop_pairwise`), so every kept
pattern is listed at most once.  `mem_out_lt`: every id listed is a valid pattern id.
-/
namespace AcVerif.L1eP
open AcVerif

theorem sum_map_zero {β : Type} (l : List β) : (l.map fun _ => 0).sum = 0 := by
  induction l with
  | nil => rfl
  | cons a l ih => simp only [List.map_cons, List.sum_cons, ih]

theorem sum_ind_zero {α : Type} [DecidableEq α] (f : Nat → List α) (v : List α) (ks : List Nat)
    (h : ∀ k ∈ ks, v ≠ f k) : (ks.map fun k => if v = f k then 1 else 0).sum = 0 := by
  induction ks with
  | nil => simp
  | cons k ks ih =>
    have h1 : v ≠ f k := h k (by simp)
    have h2 := ih (fun k' hk' => h k' (by simp [hk']))
    simp only [List.map_cons, List.sum_cons, h2, if_neg h1]

theorem sum_ind_le_one {α : Type} [DecidableEq α] (f : Nat → List α) (v : List α) (ks : List Nat)
    (h : ks.Pairwise (fun a b => f a ≠ f b)) :
    (ks.map fun k => if v = f k then 1 else 0).sum ≤ 1 := by
  induction ks with
  | nil => simp
  | cons k ks ih =>
    rw [List.pairwise_cons] at h
    simp only [List.map_cons, List.sum_cons]
    by_cases hv : v = f k
    · have h0 := sum_ind_zero f v ks (fun k' hk' => by rw [hv]; exact h.1 k' hk')
      rw [h0, if_pos hv]; omega
    · have := ih h.2
      rw [if_neg hv]; omega

theorem idsOf_length {α : Type} [DecidableEq α] (Q : PatSet α) (v : List α) :
    (idsOf Q v).length = Q.countP (fun q => q.1 = v) := by
  simp [idsOf, List.countP_eq_length_filter]

theorem sum_countP_le {α : Type} [DecidableEq α] (f : Nat → List α) (ks : List Nat)
    (h : ks.Pairwise (fun a b => f a ≠ f b)) (Q : PatSet α) :
    (ks.map fun k => Q.countP (fun q => q.1 = f k)).sum ≤ Q.length := by
  induction Q with
  | nil =>
    simp only [List.countP_nil, List.length_nil]
    exact Nat.le_of_eq (sum_map_zero ks)
  | cons q Q ih =>
    have e : (ks.map fun k => (q :: Q).countP (fun q => q.1 = f k)) =
        ks.map fun k => Q.countP (fun q => q.1 = f k) + (if q.1 = f k then 1 else 0) := by
      apply List.map_congr_left
      intro k _
      rw [List.countP_cons]
      simp
    rw [e, List.sum_map_add]
    have := sum_ind_le_one f q.1 ks h
    simp only [List.length_cons]
    omega

theorem drop_pairwise {α : Type} (u : List α) :
    (List.range (u.length + 1)).Pairwise (fun a b => u.drop a ≠ u.drop b) := by
  have hp : (List.range (u.length + 1)).Pairwise (fun a b => a < b) := List.pairwise_lt_range
  have hm : ∀ a ∈ List.range (u.length + 1), a ≤ u.length := by
    intro a ha; have := List.mem_range.1 ha; omega
  refine List.Pairwise.imp_of_mem ?_ hp
  intro a b ha hb hab heq
  have := congrArg List.length heq
  have := hm a ha
  have := hm b hb
  simp only [List.length_drop] at *
  omega

theorem outStd_length_le {α : Type} [DecidableEq α] (Q : PatSet α) (u : List α) :
    (outStd Q u).length ≤ Q.length := by
  unfold outStd
  rw [List.length_flatMap]
  have e : (List.map (fun k => (idsOf Q (List.drop k u)).length) (List.range (u.length + 1))) =
      (List.range (u.length + 1)).map fun k => Q.countP (fun q => q.1 = u.drop k) := by
    apply List.map_congr_left
    intro k _
    exact idsOf_length Q _
  rw [e]
  exact sum_countP_le (fun k => u.drop k) _ (drop_pairwise u) Q

theorem idsOf_length_le {α : Type} [DecidableEq α] (Q : PatSet α) (v : List α) :
    (idsOf Q v).length ≤ Q.length := by
  rw [idsOf_length]; exact List.countP_le_length

theorem outLm_length_le {α : Type} [DecidableEq α] (Q : PatSet α) (u : List α) :
    (outLm Q u).length ≤ Q.length := by
  unfold outLm
  split
  · simp
  · split
    · simp
    · exact idsOf_length_le Q _

theorem patSet_length_le {α : Type} [DecidableEq α] (k : MatchKind) (P : List (List α)) :
    (patSet k P).length ≤ P.length := by
  unfold patSet enumPats
  split
  · exact Nat.le_trans (List.length_filter_le _ _) (by simp)
  · simp

theorem out_length_le (k : MatchKind) (P : List (List UInt8)) (q : St UInt8) :
    (Ideal.out k (patSet k P) q).length ≤ P.length := by
  refine Nat.le_trans ?_ (patSet_length_le k P)
  cases q with
  | dead => simp [Ideal.out]
  | «at» u =>
    cases k with
    | std => exact outStd_length_le _ u
    | lf => exact outLm_length_le _ u
    | ll => exact outLm_length_le _ u

theorem mem_out_lt {α : Type} [DecidableEq α] {k : MatchKind} {P : List (List α)} {q : St α}
    {pid : Nat} (h : pid ∈ Ideal.out k (patSet k P) q) : pid < P.length := by
  have ids : ∀ {v}, pid ∈ idsOf (patSet k P) v → pid < P.length := by
    intro v h
    simp only [idsOf, List.mem_map, List.mem_filter] at h
    obtain ⟨q, ⟨hq, _⟩, rfl⟩ := h
    exact (List.getElem?_eq_some_iff.1 (LmP.mem_patSet hq)).1
  have lm : ∀ {u}, pid ∈ outLm (patSet k P) u → pid < P.length := by
    intro u h
    unfold outLm at h
    split at h
    · cases h
    · split at h
      · cases h
      · exact ids h
  cases q with
  | dead => cases h
  | «at» u =>
    cases k with
    | std =>
      simp only [Ideal.out, outStd, List.mem_flatMap] at h
      obtain ⟨_, _, h⟩ := h
      exact ids h
    | lf => exact lm h
    | ll => exact lm h

end AcVerif.L1eP
