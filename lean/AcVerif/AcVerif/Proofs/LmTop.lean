import AcVerif.Proofs.LfReduce
import AcVerif.Proofs.Common
/-!
# Leftmost semantics: `tryFindFwd` on the ideal leftmost automaton

`tryFind_ideal` writes the search as `findQ` started from `mat0Q`.  `tryFind_core` instantiates
`findQ_inv` with the unanchored resp. anchored steps: the result is a kept admissible occurrence
or `none`, and in non-earliest mode the `BestIn` one.  `find_lm` turns the latter into `IsFind k`
by `isFind_of_best`; `find_isOcc` is the former, which holds in earliest mode too.
-/
namespace AcVerif.LmP
open AcVerif
set_option linter.unusedSectionVars false
variable {α : Type} [DecidableEq α]

theorem out_nil (k : MatchKind) {Q : PatSet α} (hQ : ∀ q ∈ Q, q.1 ≠ []) :
    Ideal.out k Q (.at []) = [] := by
  have h1 : outStd Q [] = [] := by
    simp only [outStd, idsOf, List.length_nil, Nat.zero_add, List.range_one, List.flatMap_cons,
      List.flatMap_nil, List.append_nil, List.drop_nil, List.map_eq_nil_iff,
      List.filter_eq_nil_iff, decide_eq_true_eq]
    exact fun q hq => hQ q hq
  have h2 : outLm Q [] = [] := by
    have : (List.range ([] : List α).length.succ).find?
        (fun k => Q.any fun q => q.1 = ([] : List α).drop k) = none := by
      rw [List.find?_eq_none]
      intro x _
      simp only [List.drop_nil, List.any_eq_true, decide_eq_true_eq, not_exists, not_and]
      exact fun q hq => hQ q hq
    simp only [outLm]
    rw [this]
  cases k <;> simp only [Ideal.out, h1, h2]

theorem patSet_ne_nil {k : MatchKind} {P : List (List α)} (hne : ∀ p ∈ P, p ≠ []) :
    ∀ q ∈ patSet k P, q.1 ≠ [] := by
  intro q hq
  exact hne q.1 (List.mem_of_getElem? (mem_patSet hq))

theorem root_not_match (k : MatchKind) (P : List (List α)) (hne : ∀ p ∈ P, p ≠ [])
    (sk : StartKind) (hasPre : Bool) : (ideal k P sk hasPre).isMatch (.at []) = false := by
  show (!(Ideal.out k (patSet k P) (.at [])).isEmpty) = false
  rw [out_nil k (patSet_ne_nil hne)]; rfl

theorem tryFind_ideal (k : MatchKind) (hk : k = .ll ∨ k = .lf) (P : List (List α))
    (sk : StartKind) (i : Input α) (h : supportsAnch sk i.anch) (hse : i.s ≤ i.e) :
    tryFindFwd (ideal k P sk false) none i =
      .ok (if (!(outLm (patSet k P) []).isEmpty && i.earliest) = true then
          mat0Q (patSet k P) (fun pid => (P.getD pid []).length) i.s
        else findQ (patSet k P) (fun pid => (P.getD pid []).length) i.s i.anch i.earliest [] i.s
          (mat0Q (patSet k P) (fun pid => (P.getD pid []).length) i.s)
          ((i.hay.take i.e).drop i.s)) := by
  have hd : i.isDone = false := decide_eq_false (Nat.not_lt.2 hse)
  have hkind : ((ideal k P sk false).kind == MatchKind.std || i.earliest) = i.earliest := by
    rcases hk with rfl | rfl <;> rfl
  have hpl : (ideal k P sk false).patLen = fun pid => (P.getD pid []).length := rfl
  rw [tryFindFwd_findS _ i (start_root k P false h), hd, if_neg Bool.false_ne_true, hkind,
    ideal_isMatch k hk, findS_ideal_eq k hk, findS_ideal_eq k hk]
  simp only [getMatch, ideal_mpats k hk, hpl, mat0Q]
  cases outLm (patSet k P) [] <;> cases i.earliest <;> rfl

theorem tryFind_core (k : MatchKind) (hk : k = .ll ∨ k = .lf) (P : List (List α))
    (sk : StartKind) (i : Input α) (h : supportsAnch sk i.anch) (hse : i.s ≤ i.e) :
    ∃ r, tryFindFwd (ideal k P sk false) none i = .ok r ∧
      OccOrNone (patSet k P) i.s i.anch ((i.hay.take i.e).drop i.s) r ∧
      (i.earliest = false → BestIn (patSet k P) i.s i.anch ((i.hay.take i.e).drop i.s) r) := by
  refine ⟨_, tryFind_ideal k hk P sk i h hse, ?_⟩
  have hI := idsInc_patSet k P
  have hpl := plen_patSet (k := k) (P := P)
  have h0 := best_init (plen := fun pid => (P.getD pid []).length) hI hpl i.s i.anch
  split
  · rename_i hc
    simp only [Bool.and_eq_true] at hc
    refine ⟨by simpa using h0.occOrNone.append ((i.hay.take i.e).drop i.s), ?_⟩
    intro he; rw [he] at hc; exact absurd hc.2 (by simp)
  · cases ha : i.anch with
    | true =>
      rw [ha] at h0
      exact findQ_inv id (fun _ => True) (fun w c _ => stepOK_anch hI hpl i.s w c) i.earliest _
        [] _ trivial h0
    | false =>
      rw [ha] at h0
      exact findQ_inv (lsp (patSet k P)) (Cover (patSet k P)) (stepOK_unanch hI hpl i.s)
        i.earliest _ [] _ (cover_nil _) h0

theorem find_lm (k : MatchKind) (hk : k = .ll ∨ k = .lf) (P : List (List α)) (sk : StartKind)
    (i : Input α) (he : i.earliest = false) (h : supportsAnch sk i.anch) (hse : i.s ≤ i.e) :
    ∃ r, tryFindFwd (ideal k P sk false) none i = .ok r ∧
      IsFind k P i.hay i.s i.e i.anch r := by
  obtain ⟨r, h1, _, h3⟩ := tryFind_core k hk P sk i h hse
  exact ⟨r, h1, isFind_of_best hk (isBestQ_of_bestIn i.valid.1 hse (h3 he))⟩

theorem isOccA_of_admQ {k : MatchKind} {P : List (List α)} {hay : List α} {s e : Nat}
    {anch : Bool} {m : Mat} (h : AdmQ (patSet k P) hay s e anch m) : IsOccA P hay s e anch m := by
  obtain ⟨⟨q, hq, hpid, hr⟩, ha⟩ := h
  exact ⟨⟨q.1, by rw [← hpid]; exact mem_patSet hq, hr⟩, ha⟩

theorem find_isOcc (k : MatchKind) (hk : k = .ll ∨ k = .lf) (P : List (List α))
    (sk : StartKind) (i : Input α) (h : supportsAnch sk i.anch) :
    ∃ r, tryFindFwd (ideal k P sk false) none i = .ok r ∧
      ∀ m, r = some m → IsOccA P i.hay i.s i.e i.anch m := by
  by_cases hse : i.s ≤ i.e
  · obtain ⟨r, h1, h2, _⟩ := tryFind_core k hk P sk i h hse
    exact ⟨r, h1, fun m hm => isOccA_of_admQ (occOrNone_adm i.valid.1 hse h2 m hm)⟩
  · exact ⟨none, tryFindFwd_done _ none i (decide_eq_true (Nat.lt_of_not_le hse))
      (start_root k P false h), by simp⟩

end AcVerif.LmP
