import AcVerif.Pre.Builder
import AcVerif.Proofs.FoldFacts
/-!
# Facts about the prefilter builder model (for C05)

* `memchrIn` / `memmemIn` meet their "least position" specifications;
* what the start-byte and rare-byte sub-builders guarantee after all patterns have been added,
  independently of the frequency table `freq`: each `add` only extends the builder (`Le`), and a
  builder that has not given up afterwards covers the pattern just added (`foldl_covers`);
* `PreBuilder.build`: which sub-builder a returned choice came from (`build_some`,
  `build_packed_shape`), and what a byte-set prefilter it returns lists (`build_start_cover`,
  `build_rare_cover`).
-/
namespace AcVerif.PreP
open AcVerif

/-! ## `memchr` / `memmem` -/

theorem find_shift_none {n s : Nat} {p : Nat → Bool}
    (h : ((List.range n).map (· + s)).find? p = none) : ∀ x, s ≤ x → x < s + n → p x = false := by
  intro x h1 h2
  rw [List.find?_eq_none] at h
  have := h x (List.mem_map.2 ⟨x - s, List.mem_range.2 (by omega), by omega⟩)
  simpa using this

theorem find_shift_some {n s x : Nat} {p : Nat → Bool}
    (h : ((List.range n).map (· + s)).find? p = some x) :
    s ≤ x ∧ x < s + n ∧ p x = true ∧ ∀ y, s ≤ y → y < x → p y = false := by
  rw [List.find?_map] at h
  simp only [Option.map_eq_some_iff] at h
  obtain ⟨k, hk, rfl⟩ := h
  rw [List.find?_range_eq_some] at hk
  obtain ⟨h1, h2, h3⟩ := hk
  have := List.mem_range.1 h2
  refine ⟨by omega, by omega, h1, ?_⟩
  intro y hy1 hy2
  have := h3 (y - s) (by omega)
  simp only [Function.comp, Bool.not_eq_eq_eq_not, Bool.not_true] at this
  rw [show y - s + s = y by omega] at this
  exact this

theorem memchrIn_none {pred : UInt8 → Bool} {hay : List UInt8} {s e : Nat}
    (h : memchrIn pred hay s e = none) :
    ∀ p, s ≤ p → p < e → ∀ b, hay[p]? = some b → pred b = false := by
  intro p h1 h2 b hb
  have := find_shift_none h p h1 (by omega)
  simpa [hb] using this

theorem memchrIn_some {pred : UInt8 → Bool} {hay : List UInt8} {s e p : Nat}
    (h : memchrIn pred hay s e = some p) :
    s ≤ p ∧ p < e ∧ (∃ b, hay[p]? = some b ∧ pred b = true) ∧
      ∀ p', s ≤ p' → p' < p → ∀ b, hay[p']? = some b → pred b = false := by
  obtain ⟨h1, h2, h3, h4⟩ := find_shift_some h
  refine ⟨h1, by omega, ?_, ?_⟩
  · cases hb : hay[p]? with
    | none => simp [hb] at h3
    | some b => exact ⟨b, rfl, by simpa [hb] using h3⟩
  · intro p' hp1 hp2 b hb
    have := h4 p' hp1 hp2
    simpa [hb] using this

theorem memmemIn_none {needle hay : List UInt8} {s e : Nat} (h : memmemIn needle hay s e = none) :
    ∀ p, s ≤ p → p + needle.length ≤ e → ¬ needle <+: hay.drop p := by
  intro p h1 h2 h3
  have := find_shift_none h p h1 (by omega)
  rw [decide_eq_true h2, List.isPrefixOf_iff_prefix.2 h3] at this
  cases this

theorem memmemIn_some {needle hay : List UInt8} {s e p : Nat}
    (h : memmemIn needle hay s e = some p) :
    s ≤ p ∧ p + needle.length ≤ e ∧ needle <+: hay.drop p ∧
      ∀ p', s ≤ p' → p' < p → p' + needle.length ≤ e → ¬ needle <+: hay.drop p' := by
  obtain ⟨h1, _, h3, h4⟩ := find_shift_some h
  simp only [Bool.and_eq_true, decide_eq_true_eq, List.isPrefixOf_iff_prefix] at h3
  refine ⟨h1, h3.1, h3.2, ?_⟩
  intro p' hp1 hp2 hp3 hp4
  have := h4 p' hp1 hp2
  rw [decide_eq_true hp3, List.isPrefixOf_iff_prefix.2 hp4] at this
  cases this

theorem mem_sortedBytes {set : List UInt8} {x : UInt8} : x ∈ sortedBytes set ↔ x ∈ set := by
  simp only [sortedBytes, List.mem_filter, List.mem_map, List.mem_range, List.contains_iff_mem]
  constructor
  · exact fun h => h.2
  · intro h
    exact ⟨⟨x.toNat, UInt8.toNat_lt x, by simp⟩, h⟩


/-! ## patterns fed to a sub-builder one at a time -/

theorem foldl_preserves {β π : Type} (add : β → π → β) (I : β → Prop)
    (h : ∀ b p, I b → I (add b p)) (ps : List π) : ∀ b, I b → I (ps.foldl add b) := by
  induction ps with
  | nil => exact fun _ hb => hb
  | cons p ps ih => exact fun b hb => ih _ (h b p hb)

/-- If a step never repairs a builder (`ok` afterwards implies `ok` before), never loses what is
covered, and covers its own pattern whenever it leaves the builder `ok`, then a builder that is
`ok` at the end covers every pattern. -/
theorem foldl_covers {β π : Type} (add : β → π → β) (ok : β → Prop) (cov : β → π → Prop)
    (add_ok : ∀ b p, ok (add b p) → ok b)
    (add_mono : ∀ b p q, cov b q → cov (add b p) q)
    (add_cov : ∀ b p, ok (add b p) → cov (add b p) p) (b : β) (ps : List π) :
    ok (ps.foldl add b) → ∀ q ∈ ps, cov (ps.foldl add b) q := by
  rw [← List.reverse_reverse ps, List.foldl_reverse]
  generalize ps.reverse = l
  induction l with
  | nil => intro _ q hq; cases hq
  | cons p l ih =>
    intro hok q hq
    rw [List.foldr_cons] at hok ⊢
    rcases List.mem_cons.1 (List.mem_reverse.1 hq) with rfl | hq
    · exact add_cov _ _ hok
    · exact add_mono _ _ _ (ih (add_ok _ _ hok) q (List.mem_reverse.2 hq))

/-! ## start bytes -/
namespace StartBytesB
variable (freq : UInt8 → Nat)

/-- `b'` holds everything `b` holds -/
structure Le (b b' : StartBytesB) : Prop where
  fold : b'.fold = b.fold
  count : b.count ≤ b'.count
  set : ∀ y ∈ b.set, y ∈ b'.set

theorem Le.trans {a b c : StartBytesB} (h1 : Le a b) (h2 : Le b c) : Le a c :=
  ⟨h2.fold.trans h1.fold, Nat.le_trans h1.count h2.count, fun y hy => h2.set y (h1.set y hy)⟩

theorem mem_addOne (b : StartBytesB) (x y : UInt8) :
    y ∈ (b.addOne freq x).set ↔ y ∈ b.set ∨ y = x := by
  unfold StartBytesB.addOne
  split
  · rename_i h
    exact ⟨Or.inl, fun hy => hy.elim id (· ▸ List.contains_iff_mem.1 h)⟩
  · simp

theorem addOne_le (b : StartBytesB) (x : UInt8) : Le b (b.addOne freq x) := by
  refine ⟨?_, ?_, fun y hy => (mem_addOne freq b x y).2 (Or.inl hy)⟩
  · unfold StartBytesB.addOne; split <;> rfl
  · unfold StartBytesB.addOne; split
    · exact Nat.le_refl _
    · exact Nat.le_succ _

theorem add_le (b : StartBytesB) (bytes : List UInt8) : Le b (b.add freq bytes) := by
  unfold StartBytesB.add
  split
  · exact ⟨rfl, Nat.le_refl _, fun _ h => h⟩
  · cases bytes with
    | nil => exact ⟨rfl, Nat.le_refl _, fun _ h => h⟩
    | cons x t =>
      simp only
      split
      · exact (addOne_le freq b x).trans (addOne_le freq _ _)
      · exact addOne_le freq b x

theorem add_head (b : StartBytesB) (x : UInt8) (t : List UInt8)
    (hc : (b.add freq (x :: t)).count ≤ 3) :
    x ∈ (b.add freq (x :: t)).set ∧
      (b.fold = true → oppositeAsciiCase x ∈ (b.add freq (x :: t)).set) := by
  have hb : ¬ b.count > 3 := by have := (add_le freq b (x :: t)).count; omega
  have hx := (mem_addOne freq b x x).2 (Or.inr rfl)
  unfold StartBytesB.add
  rw [if_neg hb]
  simp only
  split
  · exact ⟨(mem_addOne freq _ _ x).2 (Or.inl hx), fun _ => (mem_addOne freq _ _ _).2 (Or.inr rfl)⟩
  · rename_i hf
    rw [(addOne_le freq b x).fold] at hf
    exact ⟨hx, fun h => absurd h hf⟩

theorem foldl_heads (pats : List (List UInt8)) (b : StartBytesB)
    (hc : (pats.foldl (StartBytesB.add freq) b).count ≤ 3) :
    ∀ p ∈ pats, ∀ x, p.head? = some x → x ∈ (pats.foldl (StartBytesB.add freq) b).set ∧
      (b.fold = true → oppositeAsciiCase x ∈ (pats.foldl (StartBytesB.add freq) b).set) := by
  rw [← foldl_preserves (StartBytesB.add freq) (·.fold = b.fold)
    (fun b' p h => (add_le freq b' p).fold.trans h) pats b rfl]
  refine foldl_covers (StartBytesB.add freq) (·.count ≤ 3)
    (fun b p => ∀ x, p.head? = some x → x ∈ b.set ∧ (b.fold = true → oppositeAsciiCase x ∈ b.set))
    ?_ ?_ ?_ b pats hc
  · intro b p h
    have := (add_le freq b p).count
    omega
  · intro b p q h x hx
    have hle := add_le freq b p
    exact ⟨hle.set x (h x hx).1, fun hf => hle.set _ ((h x hx).2 (hle.fold ▸ hf))⟩
  · intro b p hc x hx
    cases p with
    | nil => cases hx
    | cons y t =>
      cases hx
      have := add_head freq b x t hc
      exact ⟨this.1, fun hf => this.2 ((add_le freq b (x :: t)).fold ▸ hf)⟩

theorem build_some {b : StartBytesB} {bs : List UInt8} (h : b.build = some bs) :
    b.count ≤ 3 ∧ bs = sortedBytes b.set := by
  simp only [StartBytesB.build, Option.ite_none_left_eq_some, Option.some.injEq] at h
  exact ⟨by omega, h.2.2.2.symm⟩

end StartBytesB

/-! ## rare bytes -/

/-- the offset update of `set_offset` -/
def updOff (f : UInt8 → Nat) (y : UInt8) (pos : Nat) : UInt8 → Nat :=
  fun z => if z == y then max (f z) pos else f z

theorem updOff_le (f : UInt8 → Nat) (y : UInt8) (pos : Nat) (z : UInt8) : f z ≤ updOff f y pos z := by
  unfold updOff; split <;> omega

theorem updOff_self (f : UInt8 → Nat) (y : UInt8) (pos : Nat) : pos ≤ updOff f y pos y := by
  unfold updOff; simp only [beq_self_eq_true, if_true]; omega

namespace RareBytesB
variable (freq : UInt8 → Nat)

/-- `b'` holds everything `b` holds: a builder that gave up stays so, the rare set and the offsets
only grow -/
structure Le (b b' : RareBytesB) : Prop where
  fold : b'.fold = b.fold
  available : b'.available = true → b.available = true
  rareSet : ∀ y ∈ b.rareSet, y ∈ b'.rareSet
  offsets : ∀ z, b.offsets z ≤ b'.offsets z

theorem Le.refl (b : RareBytesB) : Le b b := ⟨rfl, id, fun _ h => h, fun _ => Nat.le_refl _⟩

theorem Le.trans {a b c : RareBytesB} (h1 : Le a b) (h2 : Le b c) : Le a c :=
  ⟨h2.fold.trans h1.fold, fun h => h1.available (h2.available h),
    fun y hy => h2.rareSet y (h1.rareSet y hy), fun z => Nat.le_trans (h1.offsets z) (h2.offsets z)⟩

theorem setOffset_offsets (b : RareBytesB) (pos : Nat) (x : UInt8) :
    (b.setOffset pos x).offsets =
      if b.fold then updOff (updOff b.offsets x pos) (oppositeAsciiCase x) pos
      else updOff b.offsets x pos := rfl

theorem setOffset_le (b : RareBytesB) (pos : Nat) (x : UInt8) : Le b (b.setOffset pos x) := by
  refine ⟨rfl, id, fun _ h => h, fun z => ?_⟩
  rw [setOffset_offsets]
  split
  · exact Nat.le_trans (updOff_le _ _ _ _) (updOff_le _ _ _ _)
  · exact updOff_le _ _ _ _

theorem setOffset_self (b : RareBytesB) (pos : Nat) (x : UInt8) :
    pos ≤ (b.setOffset pos x).offsets x ∧
      (b.fold = true → pos ≤ (b.setOffset pos x).offsets (oppositeAsciiCase x)) := by
  rw [setOffset_offsets]
  cases b.fold
  · exact ⟨updOff_self _ _ _, fun h => by cases h⟩
  · exact ⟨Nat.le_trans (updOff_self _ _ _) (updOff_le _ _ _ _), fun _ => updOff_self _ _ _⟩

/-- the offsets part of the `scan` loop: `set_offset` for every position -/
def setOffsets (b : RareBytesB) (pos : Nat) : List UInt8 → RareBytesB
  | [] => b
  | x :: rest => setOffsets (b.setOffset pos x) (pos + 1) rest

theorem setOffsets_le (bytes : List UInt8) : ∀ (b : RareBytesB) (pos : Nat),
    Le b (setOffsets b pos bytes) := by
  induction bytes with
  | nil => exact fun b _ => .refl b
  | cons x rest ih => exact fun b pos => (setOffset_le b pos x).trans (ih _ _)

theorem setOffsets_rareSet (bytes : List UInt8) : ∀ (b : RareBytesB) (pos : Nat),
    (setOffsets b pos bytes).rareSet = b.rareSet := by
  induction bytes with
  | nil => exact fun _ _ => rfl
  | cons x rest ih => exact fun b pos => ih (b.setOffset pos x) (pos + 1)

theorem setOffsets_pos (bytes : List UInt8) : ∀ (b : RareBytesB) (pos j : Nat) (x : UInt8),
    bytes[j]? = some x → pos + j ≤ (setOffsets b pos bytes).offsets x ∧
      (b.fold = true → pos + j ≤ (setOffsets b pos bytes).offsets (oppositeAsciiCase x)) := by
  induction bytes with
  | nil => intro _ _ _ _ h; cases h
  | cons y rest ih =>
    intro b pos j x hj
    cases j with
    | zero =>
      cases hj
      have h := setOffset_self b pos y
      have hle := (setOffsets_le rest (b.setOffset pos y) (pos + 1)).offsets
      exact ⟨Nat.le_trans h.1 (hle _), fun hf => Nat.le_trans (h.2 hf) (hle _)⟩
    | succ j =>
      have := ih (b.setOffset pos y) (pos + 1) j x hj
      rwa [Nat.add_assoc, Nat.add_comm 1 j] at this

/-- the `scan` loop records every position, notes whether a byte of the pattern already is rare,
and proposes the first candidate or a byte of the pattern -/
theorem scan_eq (bytes : List UInt8) :
    ∀ (b : RareBytesB) (pos : Nat) (found : Bool) (rarest : UInt8 × Nat),
      ∃ r, RareBytesB.scan freq b pos found rarest bytes =
          (setOffsets b pos bytes, found || bytes.any b.rareSet.contains, r) ∧
        (r.1 = rarest.1 ∨ r.1 ∈ bytes) := by
  induction bytes with
  | nil => exact fun b pos found rarest => ⟨rarest, by simp [RareBytesB.scan, setOffsets], Or.inl rfl⟩
  | cons x rest ih =>
    intro b pos found rarest
    have hs : (b.setOffset pos x).rareSet = b.rareSet := rfl
    simp only [RareBytesB.scan, setOffsets, List.any_cons, hs]
    split
    · rename_i h
      obtain ⟨r, hr, h'⟩ := ih (b.setOffset pos x) (pos + 1) found rarest
      exact ⟨r, by rw [hr, hs, h]; rfl, h'.imp_right (List.mem_cons_of_mem _)⟩
    · split
      · rename_i h
        obtain ⟨r, hr, h'⟩ := ih (b.setOffset pos x) (pos + 1) true rarest
        exact ⟨r, by rw [hr, hs, h]; simp, h'.imp_right (List.mem_cons_of_mem _)⟩
      · rename_i h1 h2
        rw [Bool.not_eq_true] at h1 h2
        obtain ⟨r, hr, h'⟩ := ih (b.setOffset pos x) (pos + 1) false
          (if freq x < rarest.2 then (x, freq x) else rarest)
        refine ⟨r, by rw [hr, hs, h1, h2]; rfl, ?_⟩
        rcases h' with h' | h'
        · rw [h']
          split
          · exact Or.inr (List.mem_cons_self ..)
          · exact Or.inl rfl
        · exact Or.inr (List.mem_cons_of_mem _ h')

theorem mem_addOneRare (b : RareBytesB) (x y : UInt8) :
    y ∈ (b.addOneRare freq x).rareSet ↔ y ∈ b.rareSet ∨ y = x := by
  unfold RareBytesB.addOneRare
  split
  · rename_i h
    exact ⟨Or.inl, fun hy => hy.elim id (· ▸ List.contains_iff_mem.1 h)⟩
  · simp

theorem addOneRare_same (b : RareBytesB) (x : UInt8) :
    (b.addOneRare freq x).fold = b.fold ∧ (b.addOneRare freq x).available = b.available ∧
      (b.addOneRare freq x).offsets = b.offsets := by
  unfold RareBytesB.addOneRare; split <;> exact ⟨rfl, rfl, rfl⟩

/-- `add_one_rare_byte` for a byte and, when folding, for its opposite case -/
def addRare (b : RareBytesB) (y : UInt8) : RareBytesB :=
  let b := b.addOneRare freq y
  if b.fold then b.addOneRare freq (oppositeAsciiCase y) else b

theorem addRare_same (b : RareBytesB) (y : UInt8) :
    (addRare freq b y).fold = b.fold ∧ (addRare freq b y).available = b.available ∧
      (addRare freq b y).offsets = b.offsets := by
  have h1 := addOneRare_same freq b y
  have h2 := addOneRare_same freq (b.addOneRare freq y) (oppositeAsciiCase y)
  unfold addRare
  simp only
  split
  · exact ⟨h2.1.trans h1.1, h2.2.1.trans h1.2.1, h2.2.2.trans h1.2.2⟩
  · exact h1

theorem mem_addRare (b : RareBytesB) (y z : UInt8) :
    z ∈ (addRare freq b y).rareSet ↔
      z ∈ b.rareSet ∨ z = y ∨ (b.fold = true ∧ z = oppositeAsciiCase y) := by
  unfold addRare
  simp only [(addOneRare_same freq b y).1]
  cases b.fold
  · simp [mem_addOneRare]
  · simp [mem_addOneRare, or_assoc]

theorem addRare_le (b : RareBytesB) (y : UInt8) : Le b (addRare freq b y) := by
  obtain ⟨h1, h2, h3⟩ := addRare_same freq b y
  exact ⟨h1, fun h => h2 ▸ h, fun z hz => (mem_addRare freq b y z).2 (Or.inl hz),
    fun z => h3 ▸ Nat.le_refl _⟩

/-- What `add` does: nothing (given up before, or the empty pattern); give up; or record every
position and then, unless a byte of the pattern already is rare, make one of its bytes rare. -/
theorem add_cases (b : RareBytesB) (bytes : List UInt8) :
    (b.add freq bytes = b ∧ (b.available = false ∨ bytes = [])) ∨
    b.add freq bytes = { b with available := false } ∨
    (bytes ≠ [] ∧
      ((b.add freq bytes = setOffsets b 0 bytes ∧ ∃ y ∈ bytes, y ∈ b.rareSet) ∨
        ∃ y ∈ bytes, b.add freq bytes = addRare freq (setOffsets b 0 bytes) y)) := by
  unfold RareBytesB.add
  cases hav : b.available
  · exact Or.inl ⟨rfl, Or.inl rfl⟩
  rw [if_neg (by simp)]
  by_cases hc : b.count > 3
  · rw [if_pos hc]; exact Or.inr (Or.inl rfl)
  rw [if_neg hc]
  by_cases hl : bytes.length ≥ 256
  · rw [if_pos hl]; exact Or.inr (Or.inl rfl)
  rw [if_neg hl]
  cases bytes with
  | nil => exact Or.inl ⟨rfl, Or.inr rfl⟩
  | cons x t =>
    refine Or.inr (Or.inr ⟨List.cons_ne_nil _ _, ?_⟩)
    obtain ⟨r, hr, h3⟩ := scan_eq freq (x :: t) b 0 false (x, freq x)
    simp only [hr, Bool.false_or]
    cases h2 : (x :: t).any b.rareSet.contains
    · refine Or.inr ⟨r.1, ?_, rfl⟩
      rcases h3 with h | h
      · rw [h]; exact List.mem_cons_self ..
      · exact h
    · obtain ⟨y, hy, hc⟩ := List.any_eq_true.1 h2
      exact Or.inl ⟨rfl, y, hy, List.contains_iff_mem.1 hc⟩

theorem add_le (b : RareBytesB) (bytes : List UInt8) : Le b (b.add freq bytes) := by
  rcases add_cases freq b bytes with ⟨h, _⟩ | h | ⟨_, ⟨h, _⟩ | ⟨y, _, h⟩⟩ <;> rw [h]
  · exact .refl b
  · exact ⟨rfl, fun h => (by cases h), fun _ h => h, fun _ => Nat.le_refl _⟩
  · exact setOffsets_le bytes b 0
  · exact (setOffsets_le bytes b 0).trans (addRare_le freq _ y)

/-- the offset table bounds every position of every byte of `p` (in either case when folding),
and `p` holds a byte of the rare set -/
def Covers (b : RareBytesB) (p : List UInt8) : Prop :=
  (∀ j x, p[j]? = some x →
    j ≤ b.offsets x ∧ (b.fold = true → j ≤ b.offsets (oppositeAsciiCase x))) ∧
  ∃ y ∈ p, y ∈ b.rareSet

theorem Covers.mono {b b' : RareBytesB} {p : List UInt8} (h : Covers b p) (hle : Le b b') :
    Covers b' p := by
  obtain ⟨h1, y, hy, hy'⟩ := h
  refine ⟨fun j x hj => ?_, y, hy, hle.rareSet y hy'⟩
  exact ⟨Nat.le_trans (h1 j x hj).1 (hle.offsets _),
    fun hf => Nat.le_trans ((h1 j x hj).2 (hle.fold ▸ hf)) (hle.offsets _)⟩

theorem add_covers (b : RareBytesB) (bytes : List UInt8)
    (hav : (b.add freq bytes).available = true) (hne : bytes ≠ []) :
    Covers (b.add freq bytes) bytes := by
  have hpos : ∀ j x, bytes[j]? = some x → j ≤ (setOffsets b 0 bytes).offsets x ∧
      ((setOffsets b 0 bytes).fold = true →
        j ≤ (setOffsets b 0 bytes).offsets (oppositeAsciiCase x)) := by
    intro j x hj
    have := setOffsets_pos bytes b 0 j x hj
    rwa [Nat.zero_add, ← (setOffsets_le bytes b 0).fold] at this
  rcases add_cases freq b bytes with ⟨h, h'⟩ | h | ⟨_, ⟨h, y, hy, hy'⟩ | ⟨y, hy, h⟩⟩
  · rw [h] at hav
    rcases h' with h' | h'
    · rw [hav] at h'; cases h'
    · exact absurd h' hne
  · rw [h] at hav; cases hav
  · rw [h]
    exact ⟨hpos, y, hy, (setOffsets_rareSet bytes b 0).symm ▸ hy'⟩
  · obtain ⟨hf, _, ho⟩ := addRare_same freq (setOffsets b 0 bytes) y
    rw [h]
    refine ⟨?_, y, hy, (mem_addRare freq _ y y).2 (Or.inr (Or.inl rfl))⟩
    rw [hf, ho]
    exact hpos

theorem foldl_covers (pats : List (List UInt8)) (b : RareBytesB)
    (hav : (pats.foldl (RareBytesB.add freq) b).available = true) :
    ∀ p ∈ pats, p ≠ [] → Covers (pats.foldl (RareBytesB.add freq) b) p :=
  PreP.foldl_covers (RareBytesB.add freq) (·.available = true) (fun b p => p ≠ [] → Covers b p)
    (fun b p => (add_le freq b p).available)
    (fun b p _ h hne => (h hne).mono (add_le freq b p)) (add_covers freq) b pats hav

def Closed (b : RareBytesB) : Prop :=
  b.fold = true → ∀ y, y ∈ b.rareSet → oppositeAsciiCase y ∈ b.rareSet

theorem add_closed (b : RareBytesB) (bytes : List UInt8) (hc : Closed b) :
    Closed (b.add freq bytes) := by
  have hs : Closed (setOffsets b 0 bytes) := by
    intro hf
    rw [setOffsets_rareSet bytes b 0]
    exact hc ((setOffsets_le bytes b 0).fold ▸ hf)
  rcases add_cases freq b bytes with ⟨h, _⟩ | h | ⟨_, ⟨h, _⟩ | ⟨y, _, h⟩⟩ <;> rw [h]
  · exact hc
  · exact hc
  · exact hs
  · intro hf z hz
    rw [(addRare_same freq _ y).1] at hf
    rw [mem_addRare] at hz ⊢
    rcases hz with hz | rfl | ⟨_, rfl⟩
    · exact Or.inl (hs hf z hz)
    · exact Or.inr (Or.inr ⟨hf, rfl⟩)
    · rw [MiscP.opp_involution]; exact Or.inr (Or.inl rfl)

theorem build_some {b : RareBytesB} {bs : List UInt8} (h : b.build = some bs) :
    b.available = true ∧ b.count ≤ 3 ∧ bs = sortedBytes b.rareSet := by
  simp only [RareBytesB.build, Option.ite_none_left_eq_some, Option.some.injEq, Bool.or_eq_true,
    Bool.not_eq_true', decide_eq_true_eq, not_or, Bool.not_eq_false] at h
  exact ⟨h.1.1, by omega, h.2.2.symm⟩

end RareBytesB

/-! ## `prefilter::Builder::build` -/

/-- the `(packed, patlen, minlen)` triple of `prefilter::Builder::build` -/
def packedTriple (K : Consts) (b : PreBuilder) (avx2 ssse3 : Bool) : Option PreChoice × Nat × Nat :=
  if b.fold then (none, 18446744073709551615, 0)
  else match (match b.kind with | .std => none | .lf => some PKind.lf | .ll => some PKind.ll) with
    | none => (none, 18446744073709551615, 0)
    | some pkind =>
      match b.packed with
      | none => (none, 0, 18446744073709551615)
      | some ps =>
        ((packedBuild K pkind ps none none none true avx2 ssse3).map PreChoice.packed, ps.length,
          (ps.map List.length).foldl min 18446744073709551615)

theorem build_eq (K : Consts) (b : PreBuilder) (avx2 ssse3 : Bool) :
    PreBuilder.build K b avx2 ssse3 =
      if !b.enabled then none
      else
        match (if !b.fold then b.memOne else none) with
        | some needle => some (.memmem needle)
        | none =>
          let T := packedTriple K b avx2 ssse3
          match b.start.build, b.rare.build with
          | some sb, some rb =>
            if T.2.1 ≤ K.prePackedPatlen && T.2.2 ≥ 2 && b.start.count ≥ 3 && b.rare.count ≥ 3 then T.1
            else if b.start.count < b.rare.count then some (.startBytes sb)
            else if b.start.rankSum ≤ b.rare.rankSum + K.preRankSlack then some (.startBytes sb)
            else some (.rareBytes rb b.rare.offsets)
          | some sb, none =>
            if T.2.1 ≤ K.prePackedPatlen && T.2.2 ≥ 2 && b.start.count ≥ 3 then T.1 else some (.startBytes sb)
          | none, some rb =>
            if T.2.1 ≤ K.prePackedPatlen && T.2.2 ≥ 2 && b.rare.count ≥ 3 then T.1
            else some (.rareBytes rb b.rare.offsets)
          | none, none => if b.fold then none else T.1 := by
  rfl

theorem packedTriple_fst {K : Consts} {b : PreBuilder} {avx2 ssse3 : Bool} {ch : PreChoice}
    (h : (packedTriple K b avx2 ssse3).1 = some ch) :
    b.fold = false ∧ ∃ pk ps s,
      (match b.kind with | .std => none | .lf => some PKind.lf | .ll => some PKind.ll) = some pk ∧
      b.packed = some ps ∧ packedBuild K pk ps none none none true avx2 ssse3 = some s ∧
      ch = .packed s := by
  unfold packedTriple at h
  split at h
  · cases h
  · rename_i hf
    split at h
    · cases h
    · rename_i pk hk
      split at h
      · cases h
      · rename_i ps hps
        simp only [Option.map_eq_some_iff] at h
        obtain ⟨s, hs, rfl⟩ := h
        exact ⟨by simpa using hf, pk, ps, s, hk, hps, hs, rfl⟩

theorem build_some {K : Consts} {b : PreBuilder} {avx2 ssse3 : Bool} {ch : PreChoice}
    (h : PreBuilder.build K b avx2 ssse3 = some ch) :
    b.enabled = true ∧
    ((b.fold = false ∧ ∃ n, b.memOne = some n ∧ ch = .memmem n) ∨
      (packedTriple K b avx2 ssse3).1 = some ch ∨
      (∃ sb, b.start.build = some sb ∧ ch = .startBytes sb) ∨
      ∃ rb, b.rare.build = some rb ∧ ch = .rareBytes rb b.rare.offsets) := by
  rw [build_eq] at h
  cases hen : b.enabled
  · rw [hen] at h; cases h
  refine ⟨rfl, ?_⟩
  rw [hen, if_neg (by simp)] at h
  cases hm : (if !b.fold then b.memOne else none) with
  | some n =>
    rw [hm] at h
    cases h
    cases hf : b.fold
    · exact Or.inl ⟨rfl, n, by simpa [hf] using hm, rfl⟩
    · simp [hf] at hm
  | none =>
    rw [hm] at h
    refine Or.inr ?_
    simp only at h
    cases hsb : b.start.build <;> cases hrb : b.rare.build <;> simp only [hsb, hrb] at h
    · split at h
      · cases h
      · exact Or.inl h
    · split at h
      · exact Or.inl h
      · cases h; exact Or.inr (Or.inr ⟨_, rfl, rfl⟩)
    · split at h
      · exact Or.inl h
      · cases h; exact Or.inr (Or.inl ⟨_, rfl, rfl⟩)
    · split at h
      · exact Or.inl h
      · split at h
        · cases h; exact Or.inr (Or.inl ⟨_, rfl, rfl⟩)
        · split at h
          · cases h; exact Or.inr (Or.inl ⟨_, rfl, rfl⟩)
          · cases h; exact Or.inr (Or.inr ⟨_, rfl, rfl⟩)

theorem build_cases {K : Consts} {b : PreBuilder} {avx2 ssse3 : Bool} {ch : PreChoice}
    (h : PreBuilder.build K b avx2 ssse3 = some ch) :
    b.enabled = true ∧
    match ch with
    | .memmem n => b.fold = false ∧ b.memOne = some n
    | .startBytes bs => b.start.build = some bs
    | .rareBytes bs offs => b.rare.build = some bs ∧ offs = b.rare.offsets
    | .packed _ => b.fold = false ∧ b.kind ≠ .std := by
  obtain ⟨hen, ⟨hf, n, hn, rfl⟩ | hT | ⟨sb, hsb, rfl⟩ | ⟨rb, hrb, rfl⟩⟩ := build_some h
  · exact ⟨hen, hf, hn⟩
  · obtain ⟨h1, pk, _, s, hk, _, _, rfl⟩ := packedTriple_fst hT
    exact ⟨hen, h1, fun hstd => by rw [hstd] at hk; cases hk⟩
  · exact ⟨hen, hsb⟩
  · exact ⟨hen, hrb, rfl⟩

theorem build_packed_shape {K : Consts} {b : PreBuilder} {avx2 ssse3 : Bool} {s : PackedSearcher}
    (h : PreBuilder.build K b avx2 ssse3 = some (.packed s)) :
    ∃ kind ps, (match b.kind with | .std => none | .lf => some PKind.lf | .ll => some PKind.ll) =
        some kind ∧ b.packed = some ps ∧
      packedBuild K kind ps none none none true avx2 ssse3 = some s := by
  obtain ⟨_, ⟨_, _, _, e⟩ | hT | ⟨_, _, e⟩ | ⟨_, _, e⟩⟩ := build_some h
  · cases e
  · obtain ⟨_, pk, ps, _, hk, hps, hb, e⟩ := packedTriple_fst hT
    cases e
    exact ⟨pk, ps, hk, hps, hb⟩
  · cases e
  · cases e

theorem packedBuild_some {K : Consts} {kind : PKind} {ps : List PBytes} {force only256 onlyFat}
    {patlimit avx2 ssse3 : Bool} {s : PackedSearcher}
    (h : packedBuild K kind ps force only256 onlyFat patlimit avx2 ssse3 = some s) :
    ps ≠ [] ∧ (∀ p ∈ ps, p ≠ []) ∧ ∃ v, s = PackedSearcher.new kind ps v := by
  unfold packedBuild at h
  split at h
  · cases h
  · rename_i hc
    simp only [Bool.or_eq_true, decide_eq_true_eq, List.any_eq_true, List.isEmpty_iff,
      not_or, not_exists, not_and] at hc
    obtain ⟨⟨_, h2⟩, h3⟩ := hc
    refine ⟨h3, fun p hp => h2 p hp, ?_⟩
    split at h
    · injection h with h; exact ⟨none, h.symm⟩
    · simp only at h
      split at h
      · cases h
      · rename_i v _
        injection h with h; exact ⟨some v, h.symm⟩

/-! ## `prefilter::Builder::add` -/

theorem PreBuilder.add_nonempty (K : Consts) (freq : UInt8 → Nat) (b : PreBuilder)
    (bytes : List UInt8) (hb : b.enabled = true) (hne : bytes ≠ []) :
    (b.add K freq bytes).enabled = true ∧ (b.add K freq bytes).fold = b.fold ∧
    (b.add K freq bytes).kind = b.kind ∧
    (b.add K freq bytes).start = b.start.add freq bytes ∧
    (b.add K freq bytes).rare = b.rare.add freq bytes ∧
    (b.add K freq bytes).memCount = b.memCount + 1 ∧
    (b.add K freq bytes).memOne = if b.memCount + 1 == 1 then some bytes else none := by
  have he : bytes.isEmpty = false := by
    cases bytes with
    | nil => exact absurd rfl hne
    | cons _ _ => rfl
  unfold PreBuilder.add
  simp [he, hb]

theorem PreBuilder.add_disabled (K : Consts) (freq : UInt8 → Nat) (b : PreBuilder)
    (bytes : List UInt8) (hb : b.enabled = false) : (b.add K freq bytes).enabled = false := by
  unfold PreBuilder.add
  by_cases he : bytes.isEmpty = true
  · simp [he]
  · simp [he, hb]

theorem PreBuilder.add_empty (K : Consts) (freq : UInt8 → Nat) (b : PreBuilder) :
    (b.add K freq []).enabled = false := by
  unfold PreBuilder.add
  simp

theorem PreBuilder.foldl_empty (K : Consts) (freq : UInt8 → Nat) (pats : List (List UInt8))
    (h : [] ∈ pats) : ∀ (b : PreBuilder), (pats.foldl (PreBuilder.add K freq) b).enabled = false := by
  obtain ⟨s, t, rfl⟩ := List.append_of_mem h
  intro b
  rw [List.foldl_append, List.foldl_cons]
  exact foldl_preserves (PreBuilder.add K freq) (·.enabled = false)
    (PreBuilder.add_disabled K freq) t _ (PreBuilder.add_empty K freq _)

theorem build_pats_ne {K : Consts} {k : MatchKind} {fold : Bool} {freq : UInt8 → Nat}
    {pats : List (List UInt8)} {avx2 ssse3 : Bool} {ch : PreChoice}
    (hb : buildPrefilter K k fold freq pats avx2 ssse3 = some ch) : ∀ p ∈ pats, p ≠ [] := by
  intro p hp hnil
  have hen := (build_cases hb).1
  rw [PreBuilder.foldl_empty K freq pats (hnil ▸ hp) (PreBuilder.new k fold)] at hen
  cases hen

theorem PreBuilder.foldl_nonempty (K : Consts) (freq : UInt8 → Nat) (pats : List (List UInt8))
    (hne : ∀ p ∈ pats, p ≠ []) : ∀ (b : PreBuilder), b.enabled = true →
    (pats.foldl (PreBuilder.add K freq) b).enabled = true ∧
    (pats.foldl (PreBuilder.add K freq) b).fold = b.fold ∧
    (pats.foldl (PreBuilder.add K freq) b).kind = b.kind ∧
    (pats.foldl (PreBuilder.add K freq) b).start = pats.foldl (StartBytesB.add freq) b.start ∧
    (pats.foldl (PreBuilder.add K freq) b).rare = pats.foldl (RareBytesB.add freq) b.rare ∧
    (pats.foldl (PreBuilder.add K freq) b).memCount = b.memCount + pats.length := by
  induction pats with
  | nil => intro b hb; exact ⟨hb, rfl, rfl, rfl, rfl, rfl⟩
  | cons p ps ih =>
    intro b hb
    obtain ⟨a1, a2, a3, a4, a5, a6, _⟩ :=
      PreBuilder.add_nonempty K freq b p hb (hne p (by simp))
    obtain ⟨i1, i2, i3, i4, i5, i6⟩ := ih (fun q hq => hne q (by simp [hq])) _ a1
    simp only [List.foldl_cons, List.length_cons]
    exact ⟨i1, i2.trans a2, i3.trans a3, by rw [i4, a4], by rw [i5, a5], by rw [i6, a6]; omega⟩

theorem PreBuilder.foldl_memOne (K : Consts) (freq : UInt8 → Nat) (pats : List (List UInt8))
    (hne : ∀ p ∈ pats, p ≠ []) (kind : MatchKind) (fold : Bool) (needle : List UInt8)
    (h : (pats.foldl (PreBuilder.add K freq) (PreBuilder.new kind fold)).memOne = some needle) :
    pats = [needle] := by
  rcases List.eq_nil_or_concat pats with rfl | ⟨done, x, rfl⟩
  · cases h
  · rw [List.concat_eq_append] at *
    rw [List.foldl_append] at h
    simp only [List.foldl_cons, List.foldl_nil] at h
    obtain ⟨i1, _, _, _, _, i6⟩ := PreBuilder.foldl_nonempty K freq done
      (fun q hq => hne q (by simp [hq])) (PreBuilder.new kind fold) rfl
    obtain ⟨_, _, _, _, _, _, a7⟩ := PreBuilder.add_nonempty K freq _ x i1 (hne x (by simp))
    rw [a7, i6] at h
    have h0 : (PreBuilder.new kind fold).memCount = 0 := rfl
    rw [h0] at h
    split at h
    · rename_i hc
      injection h with h
      subst h
      have : done.length = 0 := by simpa using hc
      rw [List.eq_nil_of_length_eq_zero this]; rfl
    · cases h

/-! ## what the builder's byte-set prefilters list -/

theorem build_start_cover {K : Consts} {k : MatchKind} {fold : Bool} {freq : UInt8 → Nat}
    {pats : List (List UInt8)} {avx2 ssse3 : Bool} (hne : ∀ p ∈ pats, p ≠ []) {bs : List UInt8}
    (hb : buildPrefilter K k fold freq pats avx2 ssse3 = some (.startBytes bs)) :
    ∀ p ∈ pats, ∃ b, p.head? = some b ∧ b ∈ bs ∧ (fold = true → oppositeAsciiCase b ∈ bs) := by
  have hs : (PreBuilder.start _).build = some bs := (build_cases hb).2
  rw [(PreBuilder.foldl_nonempty K freq pats hne (PreBuilder.new k fold) rfl).2.2.2.1] at hs
  obtain ⟨hc, rfl⟩ := StartBytesB.build_some hs
  intro p hp
  cases p with
  | nil => exact absurd rfl (hne _ hp)
  | cons x t =>
    have := StartBytesB.foldl_heads freq pats _ hc _ hp x rfl
    exact ⟨x, rfl, mem_sortedBytes.2 this.1, fun hf => mem_sortedBytes.2 (this.2 hf)⟩

theorem build_rare_cover {K : Consts} {k : MatchKind} {fold : Bool} {freq : UInt8 → Nat}
    {pats : List (List UInt8)} {avx2 ssse3 : Bool} (hne : ∀ p ∈ pats, p ≠ []) {bs : List UInt8}
    {offs : UInt8 → Nat}
    (hb : buildPrefilter K k fold freq pats avx2 ssse3 = some (.rareBytes bs offs)) :
    (∀ p ∈ pats, ∃ (j : Nat) (b : UInt8), p[j]? = some b ∧ b ∈ bs ∧
      (fold = true → oppositeAsciiCase b ∈ bs)) ∧
    ∀ p ∈ pats, ∀ (j : Nat) (b : UInt8), p[j]? = some b →
      j ≤ offs b ∧ (fold = true → j ≤ offs (oppositeAsciiCase b)) := by
  obtain ⟨hs, rfl⟩ : (PreBuilder.rare _).build = some bs ∧ offs = _ := (build_cases hb).2
  rw [(PreBuilder.foldl_nonempty K freq pats hne (PreBuilder.new k fold) rfl).2.2.2.2.1] at hs ⊢
  obtain ⟨hav, _, rfl⟩ := RareBytesB.build_some hs
  have hcov := fun p hp => RareBytesB.foldl_covers freq pats _ hav p hp (hne p hp)
  have hfold := foldl_preserves (RareBytesB.add freq) (·.fold = fold)
    (fun b p h => (RareBytesB.add_le freq b p).fold.trans h) pats (PreBuilder.new k fold).rare rfl
  have hcl := foldl_preserves _ _ (RareBytesB.add_closed freq) pats (PreBuilder.new k fold).rare
    (fun _ y hy => by cases hy)
  refine ⟨fun p hp => ?_, fun p hp j b hj => ?_⟩
  · obtain ⟨_, y, hy, hy'⟩ := hcov p hp
    obtain ⟨j, hj, rfl⟩ := List.getElem_of_mem hy
    exact ⟨j, _, List.getElem?_eq_getElem hj, mem_sortedBytes.2 hy',
      fun hf => mem_sortedBytes.2 (hcl (hfold.trans hf) _ hy')⟩
  · exact ⟨((hcov p hp).1 j b hj).1, fun hf => ((hcov p hp).1 j b hj).2 (hfold.trans hf)⟩

end AcVerif.PreP
