import AcVerif.Proofs.NfaIdsBase
import AcVerif.Proofs.ShufflePerm
/-!
# L1c-ids: `Remapper::remap` computes the inverse of the swap permutation

`Remapper::swap` applies every swap of `shuffle` to its own `map` vector (initially the identity),
so before `Remapper::remap` that vector is `order` (`order[newpos] = old id`).  The loop of
`Remapper::remap` (`remapperMap`) replaces entry `i` – unless `order[i] = i` – by the *index* of
the entry that holds `i`, found by following `order` from `order[i]` (`remapperChase`,
`chase_spec`).  Because `order` is a permutation (`ShufOK`), the chain comes back to `i` within
`state_len` steps (`orbit_closes`, by pigeonhole: `List.Nodup.length_le_of_subset`), so the result
is the inverse table `pos` (`shufflePos`), which is what `buildNfaIds` maps every stored id through
(`remapperMap_inv`, `remapperMap_order`, `remapperMap_shuffle`).
-/
namespace AcVerif.L1cIdsP
open AcVerif AcVerif.CNfa AcVerif.L1cP AcVerif.L1dP AcVerif.L1eP AcVerif.L1dIdsP

def iter (o : Array Nat) : Nat → Nat → Nat
  | 0, x => x
  | t + 1, x => iter o t (o.getD x 0)

theorem iter_succ' (o : Array Nat) : ∀ (t x : Nat), iter o (t + 1) x = o.getD (iter o t x) 0
  | 0, _ => rfl
  | t + 1, x => by
    show iter o (t + 1) (o.getD x 0) = o.getD (iter o t (o.getD x 0)) 0
    exact iter_succ' o t _

theorem iter_add (o : Array Nat) : ∀ (a b x : Nat), iter o (a + b) x = iter o b (iter o a x)
  | 0, b, x => by rw [Nat.zero_add]; rfl
  | a + 1, b, x => by
    rw [show a + 1 + b = (a + b) + 1 by omega]
    show iter o (a + b) (o.getD x 0) = iter o b (iter o a (o.getD x 0))
    exact iter_add o a b _

/-! ## the chase -/

theorem chase_spec (o : Array Nat) (i : Nat) :
    ∀ (fuel x : Nat), (∃ t, t < fuel ∧ o.getD (iter o t x) 0 = i) →
      o.getD (remapperChase o i fuel x) 0 = i
  | 0, _, ⟨t, ht, _⟩ => absurd ht (Nat.not_lt_zero _)
  | fuel + 1, x, ⟨t, ht, e⟩ => by
    rw [remapperChase]
    by_cases hx : o.getD x 0 = i
    · have : (o.getD x 0 == i) = true := by simpa using hx
      simp only [this, if_true]
      exact hx
    · have : (o.getD x 0 == i) = false := by simpa using hx
      simp only [this, Bool.false_eq_true, if_false]
      cases t with
      | zero => exact absurd e hx
      | succ t => exact chase_spec o i fuel _ ⟨t, by omega, e⟩

theorem chase_lt (o : Array Nat) (i sz : Nat) (hlt : ∀ j, j < sz → o.getD j 0 < sz) :
    ∀ (fuel x : Nat), x < sz → remapperChase o i fuel x < sz
  | 0, _, hx => hx
  | fuel + 1, x, hx => by
    rw [remapperChase]
    by_cases h : (o.getD x 0 == i) = true
    · simp only [h, if_true]; exact hx
    · simp only [h, Bool.false_eq_true, if_false]
      exact chase_lt o i sz hlt fuel _ (hlt x hx)

/-! ## every orbit of a permutation closes within `sz` steps -/

section
variable {o : Array Nat} {sz : Nat} (hlt : ∀ j, j < sz → o.getD j 0 < sz)
  (hinj : ∀ j k, j < sz → k < sz → o.getD j 0 = o.getD k 0 → j = k)
include hlt

theorem iter_lt : ∀ (t x : Nat), x < sz → iter o t x < sz
  | 0, _, hx => hx
  | t + 1, x, hx => iter_lt t _ (hlt x hx)

include hinj

theorem iter_inj : ∀ (t x y : Nat), x < sz → y < sz → iter o t x = iter o t y → x = y
  | 0, _, _, _, _, e => e
  | t + 1, x, y, hx, hy, e =>
    hinj x y hx hy (iter_inj t _ _ (hlt x hx) (hlt y hy) e)

theorem orbit_closes {i : Nat} (hi : i < sz) : ∃ c, 1 ≤ c ∧ c ≤ sz ∧ iter o c i = i := by
  apply Classical.byContradiction
  intro hno
  have hne : ∀ a b, a < b → b ≤ sz → iter o a i ≠ iter o b i := by
    intro a b hab hb e
    have e' : iter o a i = iter o a (iter o (b - a) i) := by
      rw [← iter_add, Nat.sub_add_cancel (Nat.le_of_lt hab)]; exact e
    have := iter_inj hlt hinj a _ _ hi (iter_lt hlt _ _ hi) e'
    exact hno ⟨b - a, by omega, by omega, this.symm⟩
  have hnd : ((List.range (sz + 1)).map fun t => iter o t i).Nodup := by
    unfold List.Nodup
    rw [List.pairwise_map]
    refine List.Pairwise.imp_of_mem ?_ (List.pairwise_lt_range (n := sz + 1))
    intro a b _ hb hab
    exact hne a b hab (by have := List.mem_range.1 hb; omega)
  have hsub : ((List.range (sz + 1)).map fun t => iter o t i) ⊆ List.range sz := by
    intro x hx
    obtain ⟨t, _, rfl⟩ := List.mem_map.1 hx
    exact List.mem_range.2 (iter_lt hlt t i hi)
  have := hnd.length_le_of_subset hsub
  simp at this
  omega

end

/-! ## the fold -/

def condStep (c : Nat → Bool) (v : Nat → Nat) (m : Array Nat) (i : Nat) : Array Nat :=
  if c i = true then m else m.set! i (v i)

theorem condSet_fold (c : Nat → Bool) (v : Nat → Nat) (a : Array Nat) :
    ∀ k, Array.size ((List.range k).foldl (condStep c v) a) = a.size ∧
      ∀ j, Array.getD ((List.range k).foldl (condStep c v) a) j 0 =
        if j < k ∧ j < a.size ∧ c j = false then v j else a.getD j 0 := by
  intro k
  induction k with
  | zero => exact ⟨rfl, fun j => by simp⟩
  | succ k ih =>
    obtain ⟨ih1, ih2⟩ := ih
    rw [List.range_succ, List.foldl_append]
    generalize (List.range k).foldl (condStep c v) a = m at ih1 ih2
    show Array.size (condStep c v m k) = _ ∧ ∀ j, Array.getD (condStep c v m k) j 0 = _
    unfold condStep
    cases hc : c k
    · simp only [Bool.false_eq_true, if_false]
      refine ⟨by simpa [Array.set!] using ih1, ?_⟩
      intro j
      rw [Array.getD_set!, ih1, ih2 j]
      by_cases e : k = j
      · subst e
        by_cases hk : k < a.size
        · rw [if_pos ⟨rfl, hk⟩, if_pos ⟨by omega, hk, hc⟩]
        · rw [if_neg (fun h => hk h.2), if_neg (fun h => hk h.2.1), if_neg (fun h => hk h.2.1)]
      · rw [if_neg (fun h => e h.1)]
        by_cases hj : j < k ∧ j < a.size ∧ c j = false
        · rw [if_pos hj, if_pos ⟨by omega, hj.2⟩]
        · rw [if_neg hj, if_neg]
          intro h
          exact hj ⟨by omega, h.2⟩
    · simp only [if_true]
      refine ⟨ih1, ?_⟩
      intro j
      rw [ih2 j]
      by_cases hj : j < k ∧ j < a.size ∧ c j = false
      · rw [if_pos hj, if_pos ⟨by omega, hj.2⟩]
      · rw [if_neg hj, if_neg]
        intro h
        by_cases e : j = k
        · subst e; rw [hc] at h; cases h.2.2
        · exact hj ⟨by omega, h.2⟩

theorem remapperMap_eq (o : Array Nat) :
    remapperMap o = (List.range o.size).foldl
      (condStep (fun i => o.getD i 0 == i) (fun i => remapperChase o i o.size (o.getD i 0))) o :=
  rfl

theorem remapperMap_size (o : Array Nat) : (remapperMap o).size = o.size := by
  rw [remapperMap_eq]
  exact (condSet_fold _ _ o o.size).1

theorem remapperMap_getD (o : Array Nat) {j : Nat} (hj : j < o.size) :
    (remapperMap o).getD j 0 =
      if o.getD j 0 = j then o.getD j 0 else remapperChase o j o.size (o.getD j 0) := by
  rw [remapperMap_eq, (condSet_fold _ _ o o.size).2 j]
  by_cases e : o.getD j 0 = j
  · rw [if_pos e, if_neg]
    intro h
    have : (o.getD j 0 == j) = true := by simpa using e
    rw [this] at h; cases h.2.2
  · rw [if_neg e, if_pos]
    exact ⟨hj, hj, by simpa using e⟩

/-! ## the result -/

theorem remapperMap_inv {o p : Array Nat} {sz : Nat} (hso : o.size = sz) (hsp : p.size = sz)
    (hlt : ∀ j, j < sz → o.getD j 0 < sz)
    (hpo : ∀ j, j < sz → p.getD (o.getD j 0) 0 = j) : remapperMap o = p := by
  have hinj : ∀ j k, j < sz → k < sz → o.getD j 0 = o.getD k 0 → j = k := by
    intro j k hj hk e
    have a := hpo j hj
    have b := hpo k hk
    rw [e, b] at a
    exact a.symm
  have hall : ∀ j, j < sz → (remapperMap o).getD j 0 = p.getD j 0 := by
    intro j hj
    rw [remapperMap_getD _ (by rw [hso]; exact hj)]
    by_cases e : o.getD j 0 = j
    · rw [if_pos e]
      have := hpo j hj
      rw [e] at this
      rw [e, this]
    · rw [if_neg e, hso]
      -- the orbit of `j` closes after `c ≥ 2` steps, so the chain from `o[j]` meets the entry
      -- holding `j` after `c - 2 < sz` steps; `hpo` at the index found says that it is `p[j]`
      obtain ⟨c, hc1, hc2, hc⟩ := orbit_closes hlt hinj hj
      have hc' : 2 ≤ c := by
        cases c with
        | zero => omega
        | succ c =>
          cases c with
          | zero => exact absurd hc e
          | succ c => omega
      obtain ⟨t, rfl⟩ : ∃ t, c = t + 2 := ⟨c - 2, by omega⟩
      have hfound : o.getD (remapperChase o j sz (o.getD j 0)) 0 = j := by
        apply chase_spec
        refine ⟨t, by omega, ?_⟩
        rw [← iter_succ']
        exact hc
      have hr := chase_lt o j sz hlt sz _ (hlt j hj)
      have := hpo _ hr
      rw [hfound] at this
      exact this.symm
  have hsr : (remapperMap o).size = sz := by rw [remapperMap_size, hso]
  exact Array.ext_getD 0 (by rw [hsr, hsp]) fun j h1 => hall j (by omega)

theorem remapperMap_order {N : CNfa} (hS : ShufOK N) : remapperMap (cOrder N) = cPos N :=
  remapperMap_inv hS.size_order hS.size_pos hS.order_lt hS.pos_order

/-- the map that `NFA::remap` is called with is the `pos` of `buildNfaIds` -/
theorem remapperMap_shuffle {N : CNfa} (h4 : 4 ≤ N.size) :
    remapperMap (shuffleOrder N).1 = shufflePos N (shuffleOrder N).1 :=
  remapperMap_order (shufOK N h4)

end AcVerif.L1cIdsP
