import AcVerif.Proofs.PreLoop
import AcVerif.Proofs.LmTop
import AcVerif.Proofs.EngFind
import AcVerif.Theorems.SpecUnique
import AcVerif.Proofs.Comap
/-!
# C05: a sound prefilter is transparent

`PrefilterSound` is what the engine needs from a prefilter.  The proof goes
through the specification ("restart lemma"): whenever the prefilter-free loop
sits in the start state with no match recorded, what it computes from there is
by definition a *fresh* search on the remaining span, whose value is THE
`IsFind` answer for that span; the verdict of a sound prefilter about the
remaining span determines that answer (or reduces it to the answer of a shorter
span, handled by induction).

Everything is proved for the automaton `(ideal …).comap g` reading the haystack
through a byte map `g` (`transparent_comap`), with the prefilter reading the raw
haystack and sound relative to the mapped one (`PrefilterSoundAt`); `g = id`
gives the plain statement, `g = foldByte` the case-insensitive searcher.
-/
namespace AcVerif

/-- what the engine needs from a prefilter for pattern list `P` under semantics `k` -/
structure PrefilterSound {α : Type} (k : MatchKind) (P : List (List α)) (pre : Prefilter α) : Prop where
  /-- `None`: no pattern occurs in the span -/
  none_sound : ∀ hay s e, e ≤ hay.length → s ≤ e → pre hay s e = .none → ∀ m, ¬ IsOcc P hay s e m
  /-- `PossibleStartOfMatch(i)`: inside the span, and no occurrence starts before `i` -/
  pos_sound : ∀ hay s e i, e ≤ hay.length → s ≤ e → pre hay s e = .pos i →
    s ≤ i ∧ ∀ m, IsOcc P hay s e m → i ≤ m.start
  /-- `Match(m)`: it is THE answer of the search on that span -/
  mtch_sound : ∀ hay s e m, e ≤ hay.length → s ≤ e → pre hay s e = .mtch m →
    IsFind k P hay s e false (some m)

/-- Soundness for one haystack: `f = pre rawHay` is the prefilter as the loop calls it, `hay` is
the haystack the automaton effectively reads (`rawHay` itself, or `rawHay` mapped through the
case fold when the automaton is a `comap`). -/
structure PrefilterSoundAt {α : Type} (k : MatchKind) (P : List (List α)) (f : Nat → Nat → Cand)
    (hay : List α) : Prop where
  none_sound : ∀ s e, e ≤ hay.length → s ≤ e → f s e = .none → ∀ m, ¬ IsOcc P hay s e m
  pos_sound : ∀ s e i, e ≤ hay.length → s ≤ e → f s e = .pos i →
    s ≤ i ∧ ∀ m, IsOcc P hay s e m → i ≤ m.start
  mtch_sound : ∀ s e m, e ≤ hay.length → s ≤ e → f s e = .mtch m →
    IsFind k P hay s e false (some m)

theorem PrefilterSound.at {α : Type} {k : MatchKind} {P : List (List α)} {pre : Prefilter α}
    (h : PrefilterSound k P pre) (hay : List α) : PrefilterSoundAt k P (pre hay) hay :=
  ⟨h.none_sound hay, h.pos_sound hay, h.mtch_sound hay⟩

theorem PrefilterSound.of_at {α : Type} {k : MatchKind} {P : List (List α)} {pre : Prefilter α}
    (h : ∀ hay, PrefilterSoundAt k P (pre hay) hay) : PrefilterSound k P pre :=
  ⟨fun hay => (h hay).none_sound, fun hay => (h hay).pos_sound, fun hay => (h hay).mtch_sound⟩

/-- the form in which the theorems about `Aut.comap g` take it, for `g = id` -/
theorem PrefilterSound.at_id {α : Type} {k : MatchKind} {P : List (List α)} {pre : Prefilter α}
    (h : PrefilterSound k P pre) (hay : List α) : PrefilterSoundAt k P (pre hay) (hay.map id) :=
  (List.map_id hay).symm ▸ h.at hay

end AcVerif

namespace AcVerif.PreP
open AcVerif
variable {α : Type} [DecidableEq α]

section Abstract
omit [DecidableEq α]

/-! ## specification facts: moving the span start -/

section
variable {P : List (List α)} {hay : List α} {s s' e : Nat} {m : Mat}

theorem isOcc_start_le (h : IsOcc P hay s e m) : s ≤ m.start ∧ m.start ≤ e := by
  obtain ⟨p, _, h2, h3, h4, _⟩ := h
  omega

theorem isOcc_restrict (h : IsOcc P hay s e m) (hs : s' ≤ m.start) : IsOcc P hay s' e m := by
  obtain ⟨p, h1, _, h3, h4, h5⟩ := h
  exact ⟨p, h1, hs, h3, h4, h5⟩

theorem isOccA_false : IsOccA P hay s e false m ↔ IsOcc P hay s e m := by
  simp [IsOccA]

theorem no_occ_past {j : Nat} (hje : ¬ j ≤ e) (hlo : ∀ m, IsOcc P hay s e m → j ≤ m.start)
    (m : Mat) : ¬ IsOcc P hay s e m := by
  intro hm
  have h1 := hlo m hm
  have h2 := (isOcc_start_le hm).2
  omega

end

theorem isOcc_single {p hay : List α} {s e : Nat} {m : Mat} :
    IsOcc [p] hay s e m ↔ m.pid = 0 ∧ s ≤ m.start ∧ m.stop = m.start + p.length ∧ m.stop ≤ e ∧
      p <+: hay.drop m.start := by
  constructor
  · rintro ⟨p', hp, h⟩
    cases hi : m.pid with
    | zero => rw [hi] at hp; cases hp; exact ⟨rfl, h⟩
    | succ n => rw [hi] at hp; cases hp
  · rintro ⟨h0, h⟩
    exact ⟨p, by rw [h0]; rfl, h⟩

theorem isOccA_shift_iff {P : List (List α)} {hay : List α} {a i e : Nat}
    (hlo : ∀ m, IsOcc P hay a e m → i ≤ m.start) (hai : a ≤ i) (m : Mat) :
    IsOccA P hay a e false m ↔ IsOccA P hay i e false m := by
  rw [isOccA_false, isOccA_false]
  exact ⟨fun hm => isOcc_restrict hm (hlo m hm), fun hm => MiscP.isOcc_mono hm hai⟩

theorem isFind_shift (k : MatchKind) {P : List (List α)} {hay : List α} {a i e : Nat}
    (hlo : ∀ m, IsOcc P hay a e m → i ≤ m.start) (hai : a ≤ i) {r : Option Mat}
    (h : IsFind k P hay i e false r) : IsFind k P hay a e false r :=
  isFind_iff_best.2 ((IsBest.congr (isOccA_shift_iff hlo hai) r).2 (isFind_iff_best.1 h))

theorem isFind_restrict (k : MatchKind) {P : List (List α)} {hay : List α} {a a' e : Nat} {m : Mat}
    (h : IsFind k P hay a e false (some m)) (ha : a ≤ a') (ham : a' ≤ m.start) :
    IsFind k P hay a' e false (some m) := by
  refine ⟨isOccA_false.2 (isOcc_restrict (isOccA_false.1 h.1) ham), ?_⟩
  intro m' hm'
  exact h.2 m' (isOccA_false.2 (MiscP.isOcc_mono (isOccA_false.1 hm') ha))

theorem isFind_none_of_no_occ (k : MatchKind) {P : List (List α)} {hay : List α} {a a' e : Nat}
    (h : ∀ m, ¬ IsOcc P hay a e m) (ha : a ≤ a') : IsFind k P hay a' e false none := by
  intro m hm
  exact h m (MiscP.isOcc_mono (isOccA_false.1 hm) ha)

/-- What the verdict of a sound prefilter about the span `[a, e]` says about the answers `F j`
of the spans `[j, e]`: for `[a', e]` with `a ≤ a'` (`a' = a` at the call before the loop,
`a' = a + 1` at a call inside it) the answer is none, or the confirmed match, or the answer of
the span that starts at the candidate. -/
theorem verdict_answer (k : MatchKind) {P : List (List α)} {f : Nat → Nat → Cand} {hay : List α}
    (hs : PrefilterSoundAt k P f hay) {e : Nat} (he : e ≤ hay.length) {F : Nat → Option Mat}
    (Fspec : ∀ j, j ≤ e → IsFind k P hay j e false (F j)) {a a' : Nat} (haa : a ≤ a')
    (hae : a' ≤ e) :
    match f a e with
    | .none => F a' = none
    | .mtch m => a ≤ m.start ∧ m.start ≤ e ∧ F m.start = some m ∧ (a' ≤ m.start → F a' = some m)
    | .pos i => a ≤ i ∧ (a' ≤ i → F a' = if i ≤ e then F i else none) := by
  have hF := Fspec a' hae
  cases hc : f a e with
  | none =>
    exact IsFind_unique k P hay a' e false _ _ hF
      (isFind_none_of_no_occ k (hs.none_sound a e he (by omega) hc) haa)
  | mtch m =>
    have hm := hs.mtch_sound a e m he (by omega) hc
    obtain ⟨h1, h2⟩ := isOcc_start_le (isOccA_false.1 hm.1)
    exact ⟨h1, h2, IsFind_unique k P hay m.start e false _ _ (Fspec m.start h2)
        (isFind_restrict k hm h1 (Nat.le_refl _)),
      fun h => IsFind_unique k P hay a' e false _ _ hF (isFind_restrict k hm haa h)⟩
  | pos i =>
    obtain ⟨hle, hlo⟩ := hs.pos_sound a e i he (by omega) hc
    refine ⟨hle, fun hi => IsFind_unique k P hay a' e false _ _ hF ?_⟩
    have hlo' : ∀ m, IsOcc P hay a' e m → i ≤ m.start :=
      fun m hm => hlo m (MiscP.isOcc_mono hm haa)
    split
    · rename_i hie
      exact isFind_shift k hlo' hi (Fspec i hie)
    · rename_i hie
      exact fun m hm => no_occ_past hie hlo' m (isOccA_false.1 hm)

/-! ## the loop with prefilter, on abstract automata -/

/-- In the start state, having consumed `hay[a]` with nothing recorded: the prefilter-free loop
goes on as the fresh search of `[a + 1, e]`, whose answer the prefilter's verdict about `[a, e]`
determines (`verdict_answer`), and the loop with prefilter restarts where the verdict says.  So
whatever relation `R` holds between the two at every later restart holds here.  (`ea` is the mode
of the loop with prefilter, `ea'` that of the prefilter-free loop it is compared with.) -/
theorem follow_rel {σ : Type} {A0 A1 : Aut σ α} {q0 : σ} (k : MatchKind) {P : List (List α)}
    (pre : Prefilter α) (hay hay' : List α) (hs : PrefilterSoundAt k P (pre hay) hay')
    (s e : Nat) (he : e ≤ hay.length) (he' : e ≤ hay'.length) (ea ea' : Bool)
    (Fspec : ∀ j, j ≤ e →
      IsFind k P hay' j e false (findLoop A0 hay s e he none false ea' q0 j none))
    {a : Nat} (h : a < e) {R : Option Mat → Option Mat → Prop} (hnone : R none none)
    (IH : ∀ j, a < j → j ≤ e → R (findLoop A1 hay s e he (some pre) false ea q0 j none)
      (findLoop A0 hay s e he none false ea' q0 j none)) :
    R (follow A1 hay s e he pre ea q0 a none)
      (findLoop A0 hay s e he none false ea' q0 (a + 1) none) := by
  have V := verdict_answer k hs he' Fspec (Nat.le_succ a) h
  unfold follow
  cases hc : pre hay a e with
  | none => rw [hc] at V; rw [V]; exact hnone
  | mtch m =>
    rw [hc] at V
    simp only [Cand.intoOption]
    split
    · rename_i hgt
      rw [V.2.2.2 hgt, ← V.2.2.1]
      exact IH m.start hgt V.2.1
    · exact IH (a + 1) (Nat.lt_succ_self a) h
  | pos i =>
    rw [hc] at V
    simp only [Cand.intoOption]
    split
    · rename_i hgt
      rw [V.2 hgt]
      split
      · rename_i hie; exact IH i hgt hie
      · rw [findLoop_done (by omega)]; exact hnone
    · exact IH (a + 1) (Nat.lt_succ_self a) h

/-- From any state in which `Inv` holds the loop that consults a sound prefilter computes what
the prefilter-free loop computes.  `Inv` is an invariant of the prefilter-free run that holds at
every (re)start (`hinit`) and forces `mat = none` in the start state (`hInv0`): there the free
loop goes on as the fresh search of the remaining span, whose answer the prefilter's verdict
determines (`verdict_answer`). -/
theorem transparent_loop {σ : Type} {A0 A1 : Aut σ α} {q0 : σ} (hA : StartFlagged A0 A1 q0)
    (k : MatchKind) (P : List (List α)) (pre : Prefilter α) (hay hay' : List α)
    (hs : PrefilterSoundAt k P (pre hay) hay')
    (s e : Nat) (he : e ≤ hay.length) (he' : e ≤ hay'.length) (ea : Bool)
    (Fspec : ∀ j, j ≤ e →
      IsFind k P hay' j e false (findLoop A0 hay s e he none false ea q0 j none))
    (Inv : σ → Nat → Option Mat → Prop)
    (hinit : ∀ j, Inv q0 j none)
    (hstep : ∀ q at_ mat (h : at_ < e) q',
      A0.next false q (hay[at_]'(Nat.lt_of_lt_of_le h he)) = q' → Inv q at_ mat →
      A0.isDead q' = false →
      (A0.isMatch q' = true → ea = false → Inv q' (at_ + 1) (some (getMatch A0 q' 0 (at_ + 1)))) ∧
      (A0.isMatch q' = false → Inv q' (at_ + 1) mat))
    (hInv0 : ∀ at_ mat, Inv q0 at_ mat → mat = Option.none) (at_ : Nat) :
    ∀ (q : σ) (mat : Option Mat), Inv q at_ mat →
      findLoop A1 hay s e he (some pre) false ea q at_ mat =
        findLoop A0 hay s e he none false ea q at_ mat := by
  induction at_ using ScanP.upTo_induction e with
  | stop a h =>
    intro q mat _
    rw [findLoop_done h, findLoop_done h]
  | step a h ih =>
    intro q mat hinv
    generalize hq' : A0.next false q (hay[a]'(Nat.lt_of_lt_of_le h he)) = q'
    have hst := hstep q a mat h q' hq' hinv
    rw [findLoop_free hA hay s e he ea q a mat h q' hq']
    by_cases hq : q' = q0
    · rw [findLoop_flagged_start hA hay s e he ea q a mat h q' hq' pre hq]
      subst hq
      cases hInv0 _ _ ((hst hA.q0_dead).2 hA.q0_match)
      simp only [hA.q0_dead, hA.q0_match, Bool.false_eq_true, if_false]
      exact follow_rel k pre hay hay' hs s e he he' ea ea Fspec h rfl
        fun j hj _ => ih j hj q' none (hinit j)
    · rw [findLoop_flagged hA hay s e he ea q a mat h q' hq' pre hq]
      cases hd : A0.isDead q' with
      | true => rfl
      | false =>
        cases hm : A0.isMatch q' with
        | true =>
          cases ea with
          | true => rfl
          | false => exact ih _ (Nat.lt_succ_self a) _ _ ((hst hd).1 hm rfl)
        | false => exact ih _ (Nat.lt_succ_self a) _ _ ((hst hd).2 hm)

/-- the prefilter call before the loop, in the same way: what `findImp` returns is related by `R`
to the answer of the fresh prefilter-free search of `[s, e]` -/
theorem initial_rel {σ : Type} {A0 A1 : Aut σ α} {q0 : σ} (k : MatchKind) {P : List (List α)}
    (pre : Prefilter α) (hay hay' : List α) (hs : PrefilterSoundAt k P (pre hay) hay')
    (s e : Nat) (he : e ≤ hay.length) (he' : e ≤ hay'.length) (hse : s ≤ e) (ea ea' : Bool)
    (Fspec : ∀ j, j ≤ e →
      IsFind k P hay' j e false (findLoop A0 hay s e he none false ea' q0 j none))
    {R : Option Mat → Option Mat → Prop} (hnone : R none none)
    (hmtch : ∀ m, IsFind k P hay' s e false (some m) → R (some m) (some m))
    (L : ∀ j, s ≤ j → j ≤ e → R (findLoop A1 hay s e he (some pre) false ea q0 j none)
      (findLoop A0 hay s e he none false ea' q0 j none)) :
    ∃ r, (match pre hay s e with
      | .none => (Except.ok Option.none : Except MatchErr (Option Mat))
      | .mtch m => .ok (some m)
      | .pos j => .ok (findLoop A1 hay s e he (some pre) false ea q0 j none)) = .ok r ∧
      R r (findLoop A0 hay s e he none false ea' q0 s none) := by
  have V := verdict_answer k hs he' Fspec (Nat.le_refl s) hse
  cases hc : pre hay s e with
  | none => rw [hc] at V; exact ⟨_, rfl, by rw [V]; exact hnone⟩
  | mtch m =>
    rw [hc] at V
    exact ⟨_, rfl, by rw [V.2.2.2 V.1]; exact hmtch m (hs.mtch_sound s e m he' hse hc)⟩
  | pos i =>
    rw [hc] at V
    refine ⟨_, rfl, ?_⟩
    rw [V.2 V.1]
    split
    · rename_i hie; exact L i V.1 hie
    · rw [findLoop_done (by omega)]; exact hnone

end Abstract

/-! ## the ideal automaton -/

theorem sameButSpecial_ideal (k : MatchKind) (P : List (List α)) (sk : StartKind) :
    SameButSpecial (ideal k P sk false) (ideal k P sk true) where
  next := rfl
  dead := rfl
  isMatch := rfl
  mpats := rfl
  patLen := rfl
  special := by
    intro q h
    simp only [ideal, Bool.or_eq_true] at h ⊢
    simp only [Bool.false_and, Bool.true_and]
    exact ⟨Or.inl h, Or.inl h⟩

theorem startFlagged_ideal (k : MatchKind) (P : List (List α)) (hne : ∀ p ∈ P, p ≠ [])
    (sk : StartKind) : StartFlagged (ideal k P sk false) (ideal k P sk true) (.at []) where
  toSameButSpecial := sameButSpecial_ideal k P sk
  special0 _ := Bool.or_false _
  special1 q hq := by
    show (_ || (true && q == .at [])) = (_ || (false && q == .at []))
    rw [beq_false_of_ne hq]
    rfl
  q0_special := by
    show (_ || (true && St.at ([] : List α) == .at [])) = true
    rw [beq_self_eq_true]
    exact Bool.or_true _
  q0_dead := rfl
  q0_match := LmP.root_not_match k P hne sk false

/-- the fresh prefilter-free run from the start state at `j` is the engine on the span `[j, e]` -/
theorem fresh_run (k : MatchKind) (P : List (List α)) (hne : ∀ p ∈ P, p ≠ []) (sk : StartKind)
    (hsk : supportsAnch sk false) (hay : List α) (s e : Nat) (he : e ≤ hay.length) (ea : Bool)
    (j : Nat) (hj : j ≤ e) :
    tryFindFwd (ideal k P sk false) none ⟨hay, j, e, false, ea, ⟨he, by omega⟩⟩ =
      .ok (findLoop (ideal k P sk false) hay s e he none false (k == .std || ea) (.at []) j
        none) := by
  have hd : (⟨hay, j, e, false, ea, ⟨he, by omega⟩⟩ : Input α).isDone = false :=
    decide_eq_false (Nat.not_lt.2 hj)
  rw [tryFindFwd_findS _ _ (LmP.start_root k P false hsk), hd, (startFlagged_ideal k P hne sk).q0_match,
    findLoop_eq_findS, findS_s_irrel _ s j]
  rfl

theorem fresh_isFind_comap (k : MatchKind) (P : List (List α)) (hne : ∀ p ∈ P, p ≠ [])
    (sk : StartKind) (hsk : supportsAnch sk false) (g : α → α) (hay : List α) (s e : Nat)
    (he : e ≤ hay.length) (ea : Bool) (hk : k = .std ∨ ea = false) (j : Nat) (hj : j ≤ e) :
    IsFind k P (hay.map g) j e false
      (findLoop ((ideal k P sk false).comap g) hay s e he none false (k == .std || ea) (.at []) j
        none) := by
  have he' : e ≤ (hay.map g).length := by simpa using he
  rw [MiscP.findLoop_comap (ideal k P sk false) g hay s e he he']
  obtain ⟨r, h1, h2⟩ :=
    EngP.find_ideal k P sk ⟨hay.map g, j, e, false, ea, ⟨he', by omega⟩⟩ hk hsk
  cases h1.symm.trans (fresh_run k P hne sk hsk (hay.map g) s e he' ea j hj)
  exact h2

/-! ## the leftmost run is never back in the root with a match recorded

A match is only recorded in a node that holds an occurrence of a pattern, a live `stepLm` keeps
that (an extension keeps the occurrence, a failure that is not `blocked` cuts before it), and the
root holds none. -/

/-- the node `u` holds an occurrence of a kept pattern -/
def Holds (Q : PatSet α) : St α → Prop
  | .dead => False
  | .at u => blocked Q u (u.length + 1) = true

theorem not_holds_root {Q : PatSet α} (hQ : ∀ q ∈ Q, q.1 ≠ []) : ¬ Holds Q (.at []) := by
  intro h
  obtain ⟨st, _, q, hq, hp⟩ := LmP.blocked_iff.1 h
  rw [List.drop_nil] at hp
  exact hQ q hq (List.prefix_nil.1 hp)

theorem holds_of_out {Q : PatSet α} {u : List α} (h : outLm Q u ≠ []) : Holds Q (.at u) := by
  rcases LmP.outLm_cases Q u with ⟨h0, _⟩ | ⟨k, hk, ⟨q, hq, he⟩, _, _⟩
  · exact absurd h0 h
  · exact LmP.blocked_iff.2 ⟨k, by omega, q, hq, he ▸ List.prefix_refl _⟩

theorem holds_step {Q : PatSet α} {u u' : List α} {c : α} (h : Holds Q (.at u))
    (hs : stepLm Q u c = .at u') : Holds Q (.at u') := by
  obtain ⟨st, hst, q, hq, hp⟩ := LmP.blocked_iff.1 h
  have hp' : q.1 <+: (u ++ [c]).drop st := by
    rw [List.drop_append_of_le_length (by omega)]
    exact hp.trans (List.prefix_append _ _)
  unfold stepLm at hs
  split at hs
  · cases hs
    exact LmP.blocked_iff.2 ⟨st, by simp only [List.length_append, List.length_singleton]; omega,
      q, hq, hp'⟩
  · simp only at hs
    split at hs
    · cases hs
    · rename_i hb
      cases hs
      -- the failure target `v` is a suffix of `u ++ [c]`; nothing occurs in `u` before its start
      have hv := LmP.lsp_suffix Q (u ++ [c])
      have hcut : u.length + 1 - (lsp Q (u ++ [c])).length ≤ st :=
        Nat.le_of_not_lt fun hlt =>
          LmP.blocked_eq_false (Bool.eq_false_iff.2 hb) st hlt q hq hp
      have hl := hv.length_le
      simp only [List.length_append, List.length_singleton] at hl
      refine LmP.blocked_iff.2 ⟨st - (u.length + 1 - (lsp Q (u ++ [c])).length), by omega, q, hq, ?_⟩
      rw [← LmP.drop_of_suffix hv]
      simp only [List.length_append, List.length_singleton]
      rwa [show st - (u.length + 1 - (lsp Q (u ++ [c])).length) +
        (u.length + 1 - (lsp Q (u ++ [c])).length) = st by omega]

theorem holds_match (k : MatchKind) (hk : k = .ll ∨ k = .lf) (P : List (List α)) (sk : StartKind)
    {q : St α} (hm : (ideal k P sk false).isMatch q = true) : Holds (patSet k P) q := by
  cases q with
  | dead => cases hm
  | «at» u =>
    rw [LmP.ideal_isMatch k hk P sk u] at hm
    exact holds_of_out fun h0 => by rw [h0] at hm; cases hm

theorem holds_next (k : MatchKind) (hk : k = .ll ∨ k = .lf) (P : List (List α)) (sk : StartKind)
    {q : St α} (c : α) (h : Holds (patSet k P) q)
    (hd : (ideal k P sk false).isDead ((ideal k P sk false).next false q c) = false) :
    Holds (patSet k P) ((ideal k P sk false).next false q c) := by
  cases q with
  | dead => exact h.elim
  | «at» u =>
    rw [LmP.ideal_next k hk P sk false u c, show LmP.stepQ (patSet k P) false u c =
      stepLm (patSet k P) u c from rfl] at hd ⊢
    cases hs : stepLm (patSet k P) u c with
    | dead => rw [hs] at hd; cases hd
    | «at» u' => exact holds_step h hs

/-! ## feeding the haystack through a byte map (`Aut.comap`, the case-insensitive searcher) -/

/-- the restart lemma on the (mapped) ideal automaton -/
theorem restart_ideal (k : MatchKind) (P : List (List α)) (hne : ∀ p ∈ P, p ≠ [])
    (pre : Prefilter α) (sk : StartKind) (hsk : supportsAnch sk false) (g : α → α)
    (hay : List α) (hs : PrefilterSoundAt k P (pre hay) (hay.map g))
    (s e : Nat) (he : e ≤ hay.length) (ea : Bool)
    (hk : k = .std ∨ ea = false) (b : Nat) (_ : b ≤ e) :
    findLoop ((ideal k P sk true).comap g) hay s e he (some pre) false (k == .std || ea) (.at [])
        b none =
      findLoop ((ideal k P sk false).comap g) hay s e he none false (k == .std || ea) (.at [])
        b none := by
  have hA := (startFlagged_ideal k P hne sk).comap g
  have Fspec := fresh_isFind_comap k P hne sk hsk g hay s e he ea hk
  have he' : e ≤ (hay.map g).length := by simpa using he
  by_cases hstd : k = .std
  · have hea : (k == .std || ea) = true := by simp [hstd]
    refine transparent_loop hA k P pre hay _ hs s e he he' _ Fspec (fun _ _ mat => mat = none)
      (fun _ => rfl) ?_ (fun _ _ h => h) b _ _ rfl
    intro q at_ mat h _ _ hinv _
    exact ⟨fun _ h' => (by rw [hea] at h'; cases h'), fun _ => hinv⟩
  · have hk' : k = .ll ∨ k = .lf := by cases k <;> simp at hstd ⊢
    refine transparent_loop hA k P pre hay _ hs s e he he' _ Fspec
      (fun q _ mat => mat ≠ none → Holds (patSet k P) q) (fun _ h => absurd rfl h) ?_
      (fun _ mat h => Classical.byContradiction fun hm =>
        not_holds_root (LmP.patSet_ne_nil (k := k) hne) (h hm)) b _ _ (fun h => absurd rfl h)
    rintro q at_ mat h _ rfl hinv hd
    exact ⟨fun hm _ _ => holds_match k hk' P sk hm,
      fun _ hmat => holds_next k hk' P sk _ (hinv hmat) hd⟩

/-! ## `findImp` / `tryFindFwd` -/

theorem findImp_pre (k : MatchKind) (P : List (List α)) (hne : ∀ p ∈ P, p ≠ [])
    (pre : Prefilter α) (sk : StartKind) (g : α → α) (i : Input α)
    (hs : PrefilterSoundAt k P (pre i.hay) (i.hay.map g))
    (ha : i.anch = false) (hsk : supportsAnch sk false) (hse : i.s ≤ i.e)
    (hk : k = .std ∨ i.earliest = false) :
    findImp ((ideal k P sk true).comap g) i (some pre) false (k == .std || i.earliest) =
      findImp ((ideal k P sk false).comap g) i none false (k == .std || i.earliest) := by
  have hA := startFlagged_ideal k P hne sk
  have hst0 : ((ideal k P sk false).comap g).start i.anch = some (.at []) := by
    rw [ha]; exact LmP.start_root k P false hsk
  have hst1 : ((ideal k P sk true).comap g).start i.anch = some (.at []) := hst0
  have hm0 : ((ideal k P sk false).comap g).isMatch (.at []) = false := hA.q0_match
  have hm1 : ((ideal k P sk true).comap g).isMatch (.at []) = false := hA.q0_match
  unfold findImp
  rw [hst0, hst1]
  simp only [hm0, hm1, Bool.false_and, Bool.false_eq_true, if_false]
  obtain ⟨r, h1, rfl⟩ := initial_rel k pre i.hay (i.hay.map g) hs i.s i.e i.valid.1
    (by simpa using i.valid.1) hse (k == .std || i.earliest) (k == .std || i.earliest)
    (fresh_isFind_comap k P hne sk hsk g i.hay i.s i.e i.valid.1 i.earliest hk) (R := Eq) rfl
    (fun _ _ => rfl)
    (fun j _ => restart_ideal k P hne pre sk hsk g i.hay hs i.s i.e i.valid.1 i.earliest hk j)
  exact h1

theorem transparent_comap (k : MatchKind) (P : List (List α)) (hne : ∀ p ∈ P, p ≠ [])
    (pre : Prefilter α) (sk : StartKind) (g : α → α) (i : Input α)
    (hs : PrefilterSoundAt k P (pre i.hay) (i.hay.map g))
    (he : k = .std ∨ i.earliest = false) (h : supportsAnch sk i.anch) :
    tryFindFwd ((ideal k P sk true).comap g) (some pre) i =
      tryFindFwd ((ideal k P sk false).comap g) none i := by
  by_cases hi : i.isDone = true ∨ i.anch = true
  · exact tryFind_noPre ((sameButSpecial_ideal k P sk).comap g) rfl rfl _ i hi
  · obtain ⟨hse, ha, e1⟩ := tryFindFwd_unanch ((ideal k P sk true).comap g) (some pre) i hi
    rw [e1, (tryFindFwd_unanch ((ideal k P sk false).comap g) none i hi).2.2]
    exact findImp_pre k P hne pre sk g i hs ha (ha ▸ h) hse he

set_option linter.unusedSectionVars false in
theorem comap_id {σ : Type} (A : Aut σ α) : A.comap id = A := rfl

end AcVerif.PreP
