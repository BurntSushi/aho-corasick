import AcVerif.Proofs.ShuffleDefs
import AcVerif.Proofs.DfaOne
/-!
# L1e proofs: names for the pieces of `buildContig`, and the interfaces between the parts

* `FX`: what the contiguous builder needs of the *lists* of the compiled NFA beyond `NfaSpec`
  (which only speaks of `follow`): sorted keys, no `FAIL` target at trie nodes, full start states;
* `sparseScan`: the class scan of `next_state` on a sparse state; `Stored`: a reader sees a given
  list of words at a given offset;
* `cW n dd bc newId i`: the words `writeState` emits for the state at shuffled position `i`, with
  `newId` applied to its targets; `cSizes` / `cOffsets`: their lengths (under the identity map) and
  the running sums; `cNewId`: old id ↦ offset of its position; `cRepr`: the concatenation of the
  `cW … (cNewId …) i`, `FAIL` skipped; `cBuild`: the `ContigM` record made of these, equal to
  `buildContig` by unfolding (`buildContig_eq`).

Namespace `L1eP` (the `Contig*` files): the proofs about `buildContig` of `AcVerif/ContigModel.lean`
and the bounds-checked reads of `AcVerif/ContigChecked.lean`; `L1eP.LvA` is stated in `DfaRow`.
-/
namespace AcVerif.L1eP
open AcVerif AcVerif.CNfa AcVerif.L1cP AcVerif.L1dP

structure FX (L : List (List UInt8)) (N : CNfa) : Prop where
  sorted : ∀ sid, Sorted (N.getD sid {}).trans
  nofail : ∀ u, u ∈ L → ∀ x ∈ (N.getD (nu L u) {}).trans, x.2 ≠ FAIL
  fullSU : ∀ b, ∃ t, (b, t) ∈ (N.getD SU {}).trans
  fullSA : ∀ b, ∃ t, (b, t) ∈ (N.getD SA {}).trans

/-- the scan over the packed classes of a sparse state (the `else` branch of
`ContigM.nextState`): `w` reads a word, the class words start at `base`, the targets at `toff` -/
def sparseScan (w : Nat → Nat) (cls base toff m : Nat) : Option Nat :=
  (List.range m).findSome? fun i =>
    let chunk := w (base + i)
    if chunk % 256 == cls then some (w (toff + i * 4))
    else if (chunk / 256) % 256 == cls then some (w (toff + i * 4 + 1))
    else if (chunk / 65536) % 256 == cls then some (w (toff + i * 4 + 2))
    else if (chunk / 16777216) % 256 == cls then some (w (toff + i * 4 + 3))
    else none

theorem runFrom_cons {σ α : Type} (A : Aut σ α) (anch : Bool) (q : σ) (c : α) (w : List α) :
    A.runFrom anch q (c :: w) = A.runFrom anch (A.next anch q c) w := rfl

/-! ## the flags of the automaton record, by id range -/

section
variable (m : ContigM) (k : MatchKind) (P : List (List UInt8)) (hasPre : Bool) (q : Nat)

theorem toAut_isSpecial : (m.toAut k P hasPre).isSpecial q = decide (q ≤ m.maxSpecialId) := rfl

theorem toAut_isDead : (m.toAut k P hasPre).isDead q = (q == 0) := rfl

theorem toAut_isMatch :
    (m.toAut k P hasPre).isMatch q = (q != 0 && decide (q ≤ m.maxMatchId)) := rfl

theorem toAut_isStart : (m.toAut k P hasPre).isStart q = (q == m.startU || q == m.startA) := rfl

theorem toAut_next (anch : Bool) (b : UInt8) :
    (m.toAut k P hasPre).next anch q b = (m.nextState anch (m.repr.size + 1) q b (0, 0)).1 := rfl

theorem cnfa_toAut_next (N : CNfa) (anch : Bool) (b : UInt8) :
    (N.toAut k P hasPre).next anch q b = (CNfa.nextState N anch (N.size + 1) q b 0).1 := rfl

end

/-! ## reading back a list of words -/

def Stored (rd : Nat → Nat) (o : Nat) (l : List Nat) : Prop :=
  ∀ j, j < l.length → rd (o + j) = l.getD j 0

section
variable {rd : Nat → Nat} {o a : Nat} {l l1 l2 : List Nat}

theorem Stored.head (h : Stored rd o (a :: l)) : rd o = a := h 0 (Nat.succ_pos _)

theorem Stored.tail (h : Stored rd o (a :: l)) : Stored rd (o + 1) l := fun j hj => by
  rw [Nat.add_assoc, Nat.add_comm 1 j]
  exact h (j + 1) (Nat.succ_lt_succ hj)

theorem Stored.left (h : Stored rd o (l1 ++ l2)) : Stored rd o l1 := fun j hj => by
  rw [h j (by rw [List.length_append]; omega), List.getD_append_left _ _ _ hj]

theorem Stored.right (h : Stored rd o (l1 ++ l2)) : Stored rd (o + l1.length) l2 := fun j hj => by
  rw [Nat.add_assoc, h (l1.length + j) (by rw [List.length_append]; omega),
    List.getD_append_right]

end

/-! ## the pieces of `buildContig` -/

def cW (n : CNfa) (dd : Nat) (bc : Bool) (newId : Nat → Nat) (i : Nat) : List Nat :=
  writeState (clsOf n bc) (ncOf n bc) (n.getD ((cOrder n).getD i 0) {}) newId
    (decide ((storedDepths n).getD ((cOrder n).getD i 0) 0 < dd))

def cSizes (n : CNfa) (dd : Nat) (bc : Bool) : List Nat :=
  (List.range n.size).map fun i => if i == FAIL then 0 else (cW n dd bc (fun t => t) i).length

def cOffsets (n : CNfa) (dd : Nat) (bc : Bool) : Array Nat :=
  ((List.range n.size).foldl (fun (acc : Array Nat × Nat) i =>
    if i == FAIL then (acc.1.push FAIL, acc.2)
    else (acc.1.push acc.2, acc.2 + (cSizes n dd bc).getD i 0)) (#[], 0)).1

def cNewId (n : CNfa) (dd : Nat) (bc : Bool) (oldId : Nat) : Nat :=
  (cOffsets n dd bc).getD ((cPos n).getD oldId 0) 0

def cRepr (n : CNfa) (dd : Nat) (bc : Bool) : Array Nat :=
  (List.range n.size).foldl (fun (r : Array Nat) i =>
    if i == FAIL then r else r ++ (cW n dd bc (cNewId n dd bc) i).toArray) #[]

def cBuild (n : CNfa) (dd : Nat) (bc hasPre : Bool) : ContigM :=
  { repr := cRepr n dd bc, alphabetLen := ncOf n bc, classOf := clsOf n bc,
    startU := (cOffsets n dd bc).getD (cNa n - 2) 0, startA := (cOffsets n dd bc).getD (cNa n - 1) 0,
    maxMatchId := if CNfa.isMatch n SA then (cOffsets n dd bc).getD (cNa n - 1) 0
      else (cOffsets n dd bc).getD (cNa n - 3) 0,
    maxSpecialId := if hasPre then (cOffsets n dd bc).getD (cNa n - 1) 0
      else if CNfa.isMatch n SA then (cOffsets n dd bc).getD (cNa n - 1) 0
      else (cOffsets n dd bc).getD (cNa n - 3) 0 }

theorem buildContig_eq (n : CNfa) (dd : Nat) (bc hasPre : Bool) :
    buildContig n dd bc hasPre = cBuild n dd bc hasPre := by
  unfold buildContig cBuild cRepr cNewId cOffsets cSizes cW cPos cOrder cNa clsOf ncOf
  rcases shuffleOrder n with ⟨o, na⟩
  rfl

end AcVerif.L1eP
