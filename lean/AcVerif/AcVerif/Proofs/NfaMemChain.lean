import AcVerif.NfaMem
import AcVerif.Proofs.ListArray
/-!
# Linked chains inside a vector

`IsChain lnk h l`: following `lnk` from the head `h` visits the cells `l` and ends at `0`;
`IsChain.walk` is the induction principle of the fuel-bounded loops that read such a list.
`Chains` is the family of lists of one side vector (`nfa.sparse` or `nfa.matches`), one list per
state, without sharing; `Chains.splice` is the effect of `alloc_*` followed by the two link writes.
The last section reads the three vectors of `MemNfa` through `getD` after each kind of write.

Namespace `MemP`: the proofs about the linked-list memory `MemNfa` of `AcVerif/NfaMem.lean` and its
single operations (the invariant `MemOKW`, the reads, every write as a `Step`), in the `NfaMem*`
files other than `NfaMemCompile*`; what the theorems name (`absNfa`, `MemOK`, `isMatch_eq`, …,
from `Proofs/NfaMemStep.lean` on) is in `AcVerif` itself.
-/
namespace AcVerif.MemP
open AcVerif

/-! ## chains -/

def IsChain (lnk : Nat → Nat) : Nat → List Nat → Prop
  | h, [] => h = 0
  | h, i :: is => h = i ∧ i ≠ 0 ∧ IsChain lnk (lnk i) is

theorem IsChain.head_eq {lnk : Nat → Nat} {h : Nat} {l : List Nat} (hc : IsChain lnk h l) :
    h = l.headD 0 := by
  cases l with
  | nil => exact hc
  | cons i is => exact hc.1

theorem IsChain.congr {lnk lnk' : Nat → Nat} {h : Nat} {l : List Nat} (hc : IsChain lnk h l)
    (he : ∀ i ∈ l, lnk' i = lnk i) : IsChain lnk' h l := by
  induction l generalizing h with
  | nil => exact hc
  | cons i is ih =>
    refine ⟨hc.1, hc.2.1, ?_⟩
    rw [he i List.mem_cons_self]
    exact ih hc.2.2 fun j hj => he j (List.mem_cons_of_mem _ hj)

theorem IsChain.unique {lnk : Nat → Nat} {h : Nat} {l₁ l₂ : List Nat} (h1 : IsChain lnk h l₁)
    (h2 : IsChain lnk h l₂) : l₁ = l₂ := by
  induction l₁ generalizing h l₂ with
  | nil =>
    cases l₂ with
    | nil => rfl
    | cons j js => exact absurd (h2.1.symm.trans h1) h2.2.1
  | cons i is ih =>
    cases l₂ with
    | nil => exact absurd (h1.1.symm.trans h2) h1.2.1
    | cons j js =>
      have e : i = j := h1.1.symm.trans h2.1
      subst e
      rw [ih h1.2.2 h2.2.2]

theorem IsChain.ne_zero {lnk : Nat → Nat} {h : Nat} {l : List Nat} (hc : IsChain lnk h l) :
    ∀ i ∈ l, i ≠ 0 := by
  induction l generalizing h with
  | nil => intro i hi; cases hi
  | cons j js ih =>
    intro i hi
    rcases List.mem_cons.1 hi with e | e
    · subst e; exact hc.2.1
    · exact ih hc.2.2 i e

theorem IsChain.eq_nil {lnk : Nat → Nat} {l : List Nat} (hc : IsChain lnk 0 l) : l = [] := by
  cases l with
  | nil => rfl
  | cons i is => exact absurd hc.1.symm hc.2.1

theorem IsChain.ne_nil {lnk : Nat → Nat} {h : Nat} {l : List Nat} (hc : IsChain lnk h l)
    (hh : h ≠ 0) : l ≠ [] := by
  intro e; subst e; exact hh hc

theorem IsChain.suffix {lnk : Nat → Nat} {h : Nat} {pre suf : List Nat}
    (hc : IsChain lnk h (pre ++ suf)) :
    IsChain lnk (match pre.getLast? with | some p => lnk p | none => h) suf := by
  induction pre generalizing h with
  | nil => exact hc
  | cons p ps ih =>
    have h2 := ih hc.2.2
    cases ps with
    | nil => exact h2
    | cons q qs => rw [List.getLast?_cons_cons]; exact h2

theorem IsChain.walk {lnk : Nat → Nat} {motive : Nat → Nat → List Nat → Prop}
    (stop : ∀ fuel, motive fuel 0 [])
    (round : ∀ fuel i is, i ≠ 0 → IsChain lnk (lnk i) is → motive fuel (lnk i) is →
      motive (fuel + 1) i (i :: is))
    {h : Nat} {l : List Nat} (hc : IsChain lnk h l) {fuel : Nat} (hf : l.length ≤ fuel) :
    motive fuel h l := by
  induction l generalizing h fuel with
  | nil => exact (show h = 0 from hc) ▸ stop fuel
  | cons i is ih =>
    obtain ⟨e, hi0, hrest⟩ := hc
    subst e
    cases fuel with
    | zero => simp at hf
    | succ f => exact round f h is hi0 hrest (ih hrest (by simpa using hf))

theorem IsChain.insert {lnk lnk' : Nat → Nat} {h new : Nat} {pre suf : List Nat}
    (hc : IsChain lnk h (pre ++ suf)) (hnd : (pre ++ suf).Nodup)
    (hnew0 : new ≠ 0) (hnew : new ∉ pre ++ suf) (hl : lnk' new = suf.headD 0)
    (hlast : ∀ p, pre.getLast? = some p → lnk' p = new)
    (hkeep : ∀ i ∈ pre ++ suf, pre.getLast? ≠ some i → lnk' i = lnk i) :
    IsChain lnk' (if pre = [] then new else h) (pre ++ new :: suf) := by
  induction pre generalizing h with
  | nil =>
    simp only [List.nil_append, if_true] at hc ⊢
    refine ⟨rfl, hnew0, ?_⟩
    rw [hl, ← hc.head_eq]
    exact hc.congr fun i hi => hkeep i (by simpa using hi) (by simp)
  | cons p ps ih =>
    rw [if_neg (List.cons_ne_nil _ _)]
    have hnd' := List.nodup_cons.1 hnd
    refine ⟨hc.1, hc.2.1, ?_⟩
    have hrec := ih hc.2.2 hnd'.2 (fun hm => hnew (List.mem_cons_of_mem _ hm))
    cases ps with
    | nil =>
      rw [hlast p rfl]
      have := hrec (fun q hq => by cases hq) (fun i hi _ => by
        refine hkeep i (List.mem_cons_of_mem _ hi) ?_
        intro e
        have e : p = i := by simpa using e
        subst e; exact hnd'.1 hi)
      simpa using this
    | cons q qs =>
      have hp : lnk' p = lnk p := by
        refine hkeep p List.mem_cons_self ?_
        rw [List.getLast?_cons_cons]
        intro e
        have : p ∈ q :: qs := List.mem_of_getLast? e
        exact hnd'.1 (List.mem_append_left _ this)
      rw [hp]
      have := hrec (fun r hr => hlast r (by rw [List.getLast?_cons_cons]; exact hr))
        (fun i hi hne => hkeep i (List.mem_cons_of_mem _ hi)
          (by rw [List.getLast?_cons_cons]; exact hne))
      rw [if_neg (List.cons_ne_nil _ _)] at this
      exact this

/-! ## the lists of a side vector -/

/-- how the witnesses `tc` / `mc` of `MemOKW` change when an operation gives state `s` the cell list `l` -/
def upd (f : Nat → List Nat) (s : Nat) (l : List Nat) : Nat → List Nat :=
  fun x => if x = s then l else f x

@[simp] theorem upd_self (f : Nat → List Nat) (s : Nat) (l : List Nat) : upd f s l s = l := by
  simp [upd]

theorem upd_ne (f : Nat → List Nat) {s x : Nat} (l : List Nat) (h : x ≠ s) : upd f s l x = f x := by
  simp [upd, h]

structure Chains (lnk head : Nat → Nat) (n : Nat) (c : Nat → List Nat) : Prop where
  chain : ∀ s, IsChain lnk (head s) (c s)
  lt : ∀ s, ∀ i ∈ c s, i < n
  nodup : ∀ s, (c s).Nodup
  disj : ∀ s s', s ≠ s' → ∀ i ∈ c s, i ∉ c s'

section
variable {lnk lnk' head head' : Nat → Nat} {n n' : Nat} {c : Nat → List Nat}

theorem Chains.congr (h : Chains lnk head n c) (hl : ∀ s, ∀ i ∈ c s, lnk' i = lnk i)
    (hh : ∀ s, head' s = head s) (hn : n ≤ n') : Chains lnk' head' n' c where
  chain := fun s => hh s ▸ (h.chain s).congr (hl s)
  lt := fun s i hi => Nat.lt_of_lt_of_le (h.lt s i hi) hn
  nodup := h.nodup
  disj := h.disj

theorem getLast?_getD_eq_zero {l : List Nat} (h0 : ∀ i ∈ l, i ≠ 0) :
    l.getLast?.getD 0 = 0 ↔ l = [] := by
  constructor
  · intro h
    cases hl : l.getLast? with
    | none => exact List.getLast?_eq_none_iff.1 hl
    | some p =>
      rw [hl] at h
      exact absurd h (h0 p (List.mem_of_getLast? hl))
  · intro h; subst h; rfl

theorem getLast?_getD_lt {l : List Nat} {n : Nat} (hn : 0 < n) (hl : ∀ i ∈ l, i < n) :
    l.getLast?.getD 0 < n := by
  cases h : l.getLast? with
  | none => exact hn
  | some p => exact hl p (List.mem_of_getLast? h)

/-- `hl`, `hh`: the new cell `n` links to the head of `suf`; the last cell of `pre` – or, when `pre` is
empty (stated as `pre.getLast?.getD 0 = 0`: no cell is `0`), the list head of `s` – is redirected to `n` -/
theorem Chains.splice (h : Chains lnk head n c) {s : Nat} {pre suf : List Nat}
    (hsplit : c s = pre ++ suf) (hn : n ≠ 0)
    (hl : ∀ j, lnk' j = if j = n then suf.headD 0
      else if j = pre.getLast?.getD 0 ∧ pre.getLast?.getD 0 ≠ 0 then n else lnk j)
    (hh : ∀ s', head' s' = if s' = s ∧ pre.getLast?.getD 0 = 0 then n else head s') :
    Chains lnk' head' (n + 1) (upd c s (pre ++ n :: suf)) := by
  have hne0 : ∀ i ∈ pre ++ suf, i ≠ 0 := hsplit ▸ (h.chain s).ne_zero
  have hlt : ∀ i ∈ pre ++ suf, i < n := hsplit ▸ h.lt s
  have hnew : lnk' n = suf.headD 0 := by rw [hl, if_pos rfl]
  have hlast : ∀ p, pre.getLast? = some p → lnk' p = n := by
    intro p hp
    have hpm : p ∈ pre ++ suf := List.mem_append_left _ (List.mem_of_getLast? hp)
    rw [hl, if_neg (Nat.ne_of_lt (hlt p hpm)), hp, if_pos ⟨rfl, hne0 p hpm⟩]
  have hkeep : ∀ i, i < n → pre.getLast? ≠ some i → lnk' i = lnk i := by
    intro i hi hne
    rw [hl, if_neg (Nat.ne_of_lt hi), if_neg]
    intro e
    cases hp : pre.getLast? with
    | none => rw [hp] at e; exact e.2 rfl
    | some p => rw [hp] at e hne; exact hne (congrArg some e.1.symm)
  have hhead : head' s = if pre = [] then n else head s := by
    have h0 := getLast?_getD_eq_zero fun i hi => hne0 i (List.mem_append_left _ hi)
    rw [hh]
    by_cases hp : pre = []
    · rw [if_pos ⟨rfl, h0.2 hp⟩, if_pos hp]
    · rw [if_neg (fun e => hp (h0.1 e.2)), if_neg hp]
  have hheads : ∀ s', s' ≠ s → head' s' = head s' := fun s' hs => by
    rw [hh, if_neg fun e => hs e.1]
  have hfresh : n ∉ pre ++ suf := fun hm => Nat.lt_irrefl _ (hlt n hm)
  -- the cells of the new list of `s'` are those of the old one, and `n` if `s' = s`
  have hcell : ∀ s' i, i ∈ upd c s (pre ++ n :: suf) s' → i = n ∧ s' = s ∨ i ∈ c s' := by
    intro s' i hi
    by_cases e : s' = s
    · rw [e, upd_self] at hi
      rw [e, hsplit]
      exact (List.mem_cons.1 (List.perm_middle.mem_iff.1 hi)).imp_left fun a => ⟨a, rfl⟩
    · rw [upd_ne _ _ e] at hi; exact Or.inr hi
  have hnew' : ∀ s', n ∉ c s' := fun s' hm => Nat.lt_irrefl _ (h.lt s' n hm)
  refine ⟨fun s' => ?_, fun s' i hi => ?_, fun s' => ?_, fun s' s'' hne i hi hi' => ?_⟩
  · by_cases e : s' = s
    · rw [e, upd_self, hhead]
      exact IsChain.insert (hsplit ▸ h.chain s) (hsplit ▸ h.nodup s) hn hfresh hnew hlast
        fun i hi => hkeep i (hlt i hi)
    · rw [upd_ne _ _ e, hheads s' e]
      refine (h.chain s').congr fun i hi => hkeep i (h.lt s' i hi) fun hl => ?_
      exact h.disj s' s e i hi (hsplit ▸ List.mem_append_left _ (List.mem_of_getLast? hl))
  · rcases hcell s' i hi with e | e
    · exact e.1 ▸ Nat.lt_succ_self n
    · exact Nat.lt_succ_of_lt (h.lt s' i e)
  · by_cases e : s' = s
    · rw [e, upd_self]
      exact List.perm_middle.nodup_iff.2 (List.nodup_cons.2 ⟨hfresh, hsplit ▸ h.nodup s⟩)
    · rw [upd_ne _ _ e]; exact h.nodup s'
  · rcases hcell s' i hi with e | e <;> rcases hcell s'' i hi' with e' | e'
    · exact hne (e.2.trans e'.2.symm)
    · exact hnew' s'' (e.1 ▸ e')
    · exact hnew' s' (e'.1 ▸ e)
    · exact h.disj s' s'' hne i e e'

end

theorem length_le_of_nodup_lt {l : List Nat} {n : Nat} (hnd : l.Nodup) (hlt : ∀ i ∈ l, i < n) :
    l.length ≤ n := by
  have := List.Nodup.length_le_of_subset hnd (l₂ := List.range n)
    (fun i hi => List.mem_range.2 (hlt i hi))
  simpa using this

/-! ## the three vectors through `getD` -/

open MemNfa

theorem arr_getD_set {α : Type} (a : Array α) (i : Nat) (x d : α) (j : Nat) :
    (a.setIfInBounds i x).getD j d = if j = i ∧ i < a.size then x else a.getD j d := by
  rw [Array.getD_setIfInBounds]
  exact ite_congr (propext (by constructor <;> rintro ⟨rfl, h⟩ <;> exact ⟨rfl, h⟩)) (fun _ => rfl)
    (fun _ => rfl)

theorem st_of_states {m m' : MemNfa} (h : m'.states = m.states) (s : Nat) : m'.st s = m.st s := by
  unfold MemNfa.st; rw [h]

theorem tr_of_sparse {m m' : MemNfa} (h : m'.sparse = m.sparse) (i : Nat) : m'.tr i = m.tr i := by
  unfold MemNfa.tr; rw [h]

theorem mt_of_matches {m m' : MemNfa} (h : m'.matches_ = m.matches_) (i : Nat) :
    m'.mt i = m.mt i := by
  unfold MemNfa.mt; rw [h]

/-! ### `setTr` -/

theorem tr_setTr (m : MemNfa) (i : Nat) (t : MTrans) (j : Nat) :
    (m.setTr i t).tr j = if j = i ∧ i < m.sparse.size then t else m.tr j := by
  unfold MemNfa.tr MemNfa.setTr; exact arr_getD_set ..

theorem setTr_tr (m : MemNfa) (c : Nat) : m.setTr c (m.tr c) = m := by
  unfold MemNfa.setTr MemNfa.tr; rw [Array.setIfInBounds_getD_self]

@[simp] theorem mt_setTr (m : MemNfa) (i : Nat) (t : MTrans) (j : Nat) :
    (m.setTr i t).mt j = m.mt j := rfl
@[simp] theorem st_setTr (m : MemNfa) (i : Nat) (t : MTrans) (j : Nat) :
    (m.setTr i t).st j = m.st j := rfl
@[simp] theorem states_setTr (m : MemNfa) (i : Nat) (t : MTrans) :
    (m.setTr i t).states = m.states := rfl
@[simp] theorem matches_setTr (m : MemNfa) (i : Nat) (t : MTrans) :
    (m.setTr i t).matches_ = m.matches_ := rfl
@[simp] theorem sparse_size_setTr (m : MemNfa) (i : Nat) (t : MTrans) :
    (m.setTr i t).sparse.size = m.sparse.size := Array.size_setIfInBounds

/-! ### `setMt` -/

theorem mt_setMt (m : MemNfa) (i : Nat) (x : MMatch) (j : Nat) :
    (m.setMt i x).mt j = if j = i ∧ i < m.matches_.size then x else m.mt j := by
  unfold MemNfa.mt MemNfa.setMt; exact arr_getD_set ..

@[simp] theorem tr_setMt (m : MemNfa) (i : Nat) (x : MMatch) (j : Nat) :
    (m.setMt i x).tr j = m.tr j := rfl
@[simp] theorem st_setMt (m : MemNfa) (i : Nat) (x : MMatch) (j : Nat) :
    (m.setMt i x).st j = m.st j := rfl
@[simp] theorem states_setMt (m : MemNfa) (i : Nat) (x : MMatch) :
    (m.setMt i x).states = m.states := rfl
@[simp] theorem sparse_setMt (m : MemNfa) (i : Nat) (x : MMatch) :
    (m.setMt i x).sparse = m.sparse := rfl
@[simp] theorem matches_size_setMt (m : MemNfa) (i : Nat) (x : MMatch) :
    (m.setMt i x).matches_.size = m.matches_.size := Array.size_setIfInBounds

/-! ### `setSt` -/

theorem st_setSt (m : MemNfa) (i : Nat) (s : MState) (j : Nat) :
    (m.setSt i s).st j = if j = i ∧ i < m.states.size then s else m.st j := by
  unfold MemNfa.st MemNfa.setSt; exact arr_getD_set ..

@[simp] theorem tr_setSt (m : MemNfa) (i : Nat) (s : MState) (j : Nat) :
    (m.setSt i s).tr j = m.tr j := rfl
@[simp] theorem mt_setSt (m : MemNfa) (i : Nat) (s : MState) (j : Nat) :
    (m.setSt i s).mt j = m.mt j := rfl
@[simp] theorem sparse_setSt (m : MemNfa) (i : Nat) (s : MState) :
    (m.setSt i s).sparse = m.sparse := rfl
@[simp] theorem matches_setSt (m : MemNfa) (i : Nat) (s : MState) :
    (m.setSt i s).matches_ = m.matches_ := rfl
@[simp] theorem states_size_setSt (m : MemNfa) (i : Nat) (s : MState) :
    (m.setSt i s).states.size = m.states.size := Array.size_setIfInBounds

/-! ### allocation -/

/-- a fresh `Transition::default()` reads like the out-of-bounds default: allocation only
changes the length of the vector -/
@[simp] theorem tr_allocTransition (m : MemNfa) (j : Nat) : m.allocTransition.1.tr j = m.tr j := by
  show (m.sparse.push {}).getD j {} = m.sparse.getD j {}
  rw [Array.getD_push]
  split
  · rename_i h; subst h; rw [Array.getD_of_size_le _ _ (Nat.le_refl _)]
  · rfl

@[simp] theorem allocTransition_snd (m : MemNfa) : m.allocTransition.2 = m.sparse.size := rfl
@[simp] theorem mt_allocTransition (m : MemNfa) (j : Nat) : m.allocTransition.1.mt j = m.mt j := rfl
@[simp] theorem st_allocTransition (m : MemNfa) (j : Nat) : m.allocTransition.1.st j = m.st j := rfl
@[simp] theorem states_allocTransition (m : MemNfa) : m.allocTransition.1.states = m.states := rfl
@[simp] theorem matches_allocTransition (m : MemNfa) :
    m.allocTransition.1.matches_ = m.matches_ := rfl
@[simp] theorem sparse_size_allocTransition (m : MemNfa) :
    m.allocTransition.1.sparse.size = m.sparse.size + 1 := Array.size_push _

@[simp] theorem mt_allocMatch (m : MemNfa) (j : Nat) : m.allocMatch.1.mt j = m.mt j := by
  show (m.matches_.push {}).getD j {} = m.matches_.getD j {}
  rw [Array.getD_push]
  split
  · rename_i h; subst h; rw [Array.getD_of_size_le _ _ (Nat.le_refl _)]
  · rfl

end AcVerif.MemP
