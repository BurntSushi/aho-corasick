import AcVerif.Proofs.AlphabetTrie
import AcVerif.Proofs.CompilerFinal
/-!
# L1-alphabet: `trieBytes` of the compiled NFA are the edge bytes of the trie

The phases after `build_trie` (`set_anchored_start_state`, `add_unanchored_start_state_loop`,
`fill_failure_transitions`, `close_start_state_loop_for_leftmost`) keep the transitions of the
nodes `≥ 4` and rewrite only the targets `FAIL` (to the start state, then possibly to `DEAD`) of
the unanchored start state – exactly the entries that `trieBytes` filters out (`Shape`,
`mem_trieBytes_iff`).  Hence `byteset_marks`: the byte set filled by `build_trie` holds exactly
`marksOf (trieBytes (compile k fold P))`.
-/
namespace AcVerif.AlphaP
open AcVerif AcVerif.CNfa AcVerif.Alphabet AcVerif.L1cP AcVerif.L1cFoldP AcVerif.MiscP
  AcVerif.BuildP AcVerif.MemC

/-- what the later phases do to the transitions -/
structure Shape (bt N : CNfa) : Prop where
  size : N.size = bt.size
  node : ∀ sid, 4 ≤ sid → (N.getD sid {}).trans = (bt.getD sid {}).trans
  root : ∃ h : Nat → Nat, (∀ t, 4 ≤ t → h t = t) ∧ (h SU = SU ∨ h SU = DEAD) ∧
    (N.getD SU {}).trans =
      (bt.getD SU {}).trans.map fun x => (x.1, h (if x.2 == FAIL then SU else x.2))

theorem shape_of_fill (k : MatchKind) {bt nf : CNfa} (h4 : 4 ≤ bt.size)
    (hs : nf.size = (startPhase bt).size)
    (ht : ∀ sid, (nf.getD sid {}).trans = ((startPhase bt).getD sid {}).trans) :
    Shape bt (closeStartLoop k nf) := by
  have hget := getD_startPhase bt h4
  have hsz : nf.size = bt.size := by rw [hs, size_startPhase]
  have hnode : ∀ sid, 4 ≤ sid → (nf.getD sid {}).trans = (bt.getD sid {}).trans := by
    intro sid h
    rw [ht, hget, if_neg (by simp only [SU]; omega), if_neg (by simp only [SA]; omega)]
  have hroot : (nf.getD SU {}).trans =
      (bt.getD SU {}).trans.map fun x => (x.1, if x.2 == FAIL then SU else x.2) := by
    rw [ht, hget, if_pos rfl]
  rw [closeStartLoop_eq]
  by_cases hc : (k.isLeftmost && isMatch nf SU) = true
  · rw [if_pos hc]
    have hSU : SU < nf.size := by rw [hsz]; simp only [SU]; omega
    have hg := getD_closeSU nf hSU
    refine ⟨by unfold closeSU; rw [Array.size_modify]; exact hsz, ?_, ?_⟩
    · intro sid h
      rw [hg, if_neg (by simp only [SU]; omega)]; exact hnode sid h
    · refine ⟨fun t => if t == SU then DEAD else t, ?_, Or.inr (by simp), ?_⟩
      · intro t h
        have : (t == SU) = false := by simp only [SU, beq_eq_false_iff_ne, ne_eq]; omega
        simp only [this, Bool.false_eq_true, if_false]
      · rw [hg, if_pos rfl]
        show (nf.getD SU {}).trans.map _ = _
        rw [hroot, List.map_map]
        rfl
  · rw [if_neg hc]
    exact ⟨hsz, hnode, id, fun _ _ => rfl, Or.inl rfl, hroot⟩

theorem compile_shape (k : MatchKind) (fold : Bool) (P : List (List UInt8)) :
    Shape (buildTrie k fold P) (compile k fold P) := by
  obtain ⟨L, pend, hT, hF, _⟩ := compile_phases k fold P
  exact shape_of_fill k (by rw [hT.size]; omega) hF.size hF.trans

theorem mem_trieBytes_iff {fold : Bool} {bt N : CNfa} {d : Nat → Nat} (hT : TI fold bt d)
    (hS : Shape bt N) (c : UInt8) :
    c ∈ trieBytes N ↔ Edge bt c := by
  obtain ⟨h, hh4, hhSU, hroot⟩ := hS.root
  have h4 := hT.size4
  have hroot' : ∀ y, y ∈ (bt.getD SU {}).trans → y.2 = FAIL ∨ (4 ≤ y.2 ∧ y.2 < bt.size) :=
    fun y hy => ((hT.edge 2 y hy).2.2.2 rfl).imp_right fun e => ⟨e, (hT.edge 2 y hy).1⟩
  unfold trieBytes
  rw [List.mem_flatMap]
  constructor
  · rintro ⟨sid, hsid, hc⟩
    by_cases hsp : (sid == DEAD || sid == FAIL || sid == SU || sid == SA) = true
    · rw [if_pos hsp] at hc
      by_cases hsu : (sid == SU) = true
      · rw [if_pos hsu] at hc
        have e : sid = SU := by simpa using hsu
        subst e
        obtain ⟨x, hx, hxc⟩ := List.mem_map.1 hc
        obtain ⟨hx1, hx2⟩ := List.mem_filter.1 hx
        rw [hroot] at hx1
        obtain ⟨y, hy, hyx⟩ := List.mem_map.1 hx1
        subst hyx
        simp only at hxc hx2
        rcases hroot' y hy with e | e
        · exfalso
          have e' : (y.2 == FAIL) = true := by rw [e]; simp
          rw [e', if_pos rfl] at hx2
          rcases hhSU with e2 | e2
          · rw [e2] at hx2; simp at hx2
          · rw [e2] at hx2; simp at hx2
        · have hne : y.2 ≠ FAIL := by simp only [FAIL]; omega
          exact ⟨SU, y.2, Or.inl rfl, hne, by rw [← hxc]; exact hy⟩
      · rw [if_neg hsu] at hc; simp at hc
    · rw [if_neg hsp] at hc
      have hs4 : 4 ≤ sid := by
        simp only [DEAD, FAIL, SU, SA, Bool.or_eq_true, beq_iff_eq, not_or] at hsp
        omega
      rw [hS.node sid hs4] at hc
      obtain ⟨x, hx, hxc⟩ := List.mem_map.1 hc
      have := (hT.edge sid x hx).2.2.1 hs4
      exact ⟨sid, x.2, Or.inr hs4, by simp only [FAIL]; omega, by rw [← hxc]; exact hx⟩
  · rintro ⟨sid, t, hs, ht, hm⟩
    rcases hs with e | e
    · subst e
      refine ⟨SU, List.mem_range.2 (by rw [hS.size]; simp only [SU]; omega), ?_⟩
      have hsp : (SU == DEAD || SU == FAIL || SU == SU || SU == SA) = true := by decide
      rw [if_pos hsp, if_pos (by simp)]
      rcases hroot' _ hm with e | e
      · exact absurd e ht
      · have e : 4 ≤ t ∧ t < bt.size := e
        have hne : (t == FAIL) = false := by simp only [FAIL, beq_eq_false_iff_ne, ne_eq]; omega
        refine List.mem_map.2 ⟨(c, t), List.mem_filter.2 ⟨?_, ?_⟩, rfl⟩
        · rw [hroot]
          refine List.mem_map.2 ⟨(c, t), hm, ?_⟩
          simp only [hne, Bool.false_eq_true, if_false, hh4 t e.1]
        · simp only [FAIL, SU, DEAD, Bool.and_eq_true, bne_iff_ne, ne_eq]
          omega
    · have hlt : sid < bt.size := by
        by_cases hlt : sid < bt.size
        · exact hlt
        · rw [Array.getD_of_size_le _ _ (by omega)] at hm; simp at hm
      refine ⟨sid, List.mem_range.2 (by rw [hS.size]; exact hlt), ?_⟩
      have hsp : ¬ (sid == DEAD || sid == FAIL || sid == SU || sid == SA) = true := by
        simp only [DEAD, FAIL, SU, SA, Bool.or_eq_true, beq_iff_eq, not_or]
        omega
      rw [if_neg hsp, hS.node sid e]
      exact List.mem_map.2 ⟨(c, t), hm, rfl⟩

theorem mem_trieBytes_compile (k : MatchKind) (fold : Bool) (P : List (List UInt8)) (c : UInt8) :
    c ∈ trieBytes (compile k fold P) ↔ Edge (buildTrie k fold P) c :=
  (buildTrieBS_inv k fold P).1.elim fun _ hT => mem_trieBytes_iff hT (compile_shape k fold P) c

theorem byteset_marks (k : MatchKind) (fold : Bool) (P : List (List UInt8)) (m : UInt8) :
    (buildTrieBS k fold P).2.set.contains m = true ↔
      m ∈ marksOf (trieBytes (compile k fold P)) := by
  rw [(buildTrieBS_inv k fold P).2.marks, mem_marksOf]
  constructor
  · rintro ⟨c, hc, hm⟩; exact ⟨c, (mem_trieBytes_compile k fold P c).2 hc, hm⟩
  · rintro ⟨c, hc, hm⟩; exact ⟨c, (mem_trieBytes_compile k fold P c).1 hc, hm⟩

end AcVerif.AlphaP
