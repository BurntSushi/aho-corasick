import AcVerif.Proofs.Leftmost
/-!
# Leftmost semantics: the anchored steps and the start state

`stepOK_anch` is `StepOK` for the anchored search, whose node is the consumed text itself and
needs no side invariant; `best_init` is `BestIn` for the empty text and the initial match `mat0Q`.
-/
namespace AcVerif.LmP
open AcVerif
set_option linter.unusedSectionVars false
variable {α : Type} [DecidableEq α] {Q : PatSet α}

/-! ## The anchored steps -/

theorem anch_no_new {s : Nat} {w : List α} {c : α} {mat : Option Mat}
    (hn : ∀ q ∈ Q, q.1 ≠ w ++ [c]) (hb : BestIn Q s true w mat) :
    BestIn Q s true (w ++ [c]) mat := by
  refine hb.mono fun q st h0 ho => Or.inl ?_
  rcases ho.old_or_new with h1 | h1
  · exact h1
  · have := ho.eq_drop h1
    rw [h0 rfl, List.drop_zero] at this
    exact absurd this (hn q ho.1)

theorem anch_new {s : Nat} {w : List α} {q : List α × Nat} (hq : q ∈ Q)
    (hqw : q.1 = w) (hleast : ∀ q' ∈ Q, q'.1 = w → q.2 ≤ q'.2) :
    BestIn Q s true w (some (matOf s q 0)) :=
  bestIn_of_end (fun _ => rfl) ⟨hq, Nat.zero_le _, hqw ▸ List.prefix_refl _⟩
    (by rw [hqw, Nat.zero_add]) (fun q' hq' he => hleast q' hq' (he.trans hqw))
    (fun _ _ _ _ => Nat.zero_le _)

theorem anch_dead {s : Nat} {w : List α} {c : α} {rest : List α}
    {mat : Option Mat} (hd : isPref Q (w ++ [c]) = false) (hb : BestIn Q s true w mat) :
    BestIn Q s true (w ++ c :: rest) mat := by
  refine hb.mono fun q st h0 ho => Or.inl ?_
  by_cases hl : st + q.1.length ≤ w.length
  · exact ho.of_append hl
  · -- a longer pattern at offset `0` would make `w ++ [c]` a trie node
    exfalso
    have hp := ho.2.2
    have h00 := h0 rfl
    rw [h00, List.drop_zero, List.append_cons] at hp
    have : w ++ [c] <+: q.1 :=
      List.prefix_of_prefix_length_le (List.prefix_append _ _) hp
        (by rw [List.length_append, List.length_singleton]; omega)
    rw [isPref_of_prefix this (isPref_of_mem ho.1)] at hd
    exact Bool.noConfusion hd

theorem outLm_cons_anch (hI : IdsInc Q) {plen : Nat → Nat}
    (hpl : ∀ q ∈ Q, plen q.2 = q.1.length) {u : List α} {pid : Nat} {t : List Nat}
    (ho : outLm Q u = pid :: t) :
    (plen pid = u.length ∧ ∃ q ∈ Q, q.1 = u ∧ q.2 = pid ∧ ∀ q' ∈ Q, q'.1 = u → q.2 ≤ q'.2) ∨
      (plen pid < u.length ∧ ∀ q ∈ Q, q.1 ≠ u) := by
  obtain ⟨k, hk, q, hq, hqk, hqp, hleast, hmin, _⟩ := outLm_cons hI ho
  have hplen : plen pid = u.length - k := by rw [← hqp, hpl q hq, hqk, List.length_drop]
  cases k with
  | zero =>
    rw [List.drop_zero] at hqk hleast
    exact Or.inl ⟨hplen, q, hq, hqk, hqp, fun q' hq' he => hqp ▸ hleast q' hq' he⟩
  | succ k =>
    refine Or.inr ⟨by omega, fun q' hq' he => hmin 0 (Nat.succ_pos k) q' hq' ?_⟩
    rw [List.drop_zero]; exact he

theorem stepOK_anch (hI : IdsInc Q) {plen : Nat → Nat} (hpl : ∀ q ∈ Q, plen q.2 = q.1.length)
    (s : Nat) (w : List α) (c : α) :
    StepOK Q plen s true w c (stepQ Q true w c) (w ++ [c]) True := by
  unfold StepOK
  simp only [stepQ, if_true, stepAnch]
  cases hp : isPref Q (w ++ [c]) with
  | false => exact fun mat rest hb => anch_dead hp hb
  | true =>
    refine ⟨rfl, trivial, ?_⟩
    unfold report
    cases ho : outLm Q (w ++ [c]) with
    | nil =>
      exact fun mat hb => anch_no_new (outLm_nil_ne ho) hb
    | cons pid t =>
      simp only [Bool.true_and]
      rcases outLm_cons_anch hI hpl ho with ⟨hplen, q, hq, hqu, hqp, hleast⟩ | ⟨hplen, hn⟩ <;>
        rw [List.length_append, List.length_singleton] at hplen
      · have hm : (⟨pid, s + w.length + 1 - plen pid, s + w.length + 1⟩ : Mat) =
            matOf s q 0 := by
          simp only [matOf, hplen, hqp, hqu, List.length_append, List.length_singleton,
            Mat.mk.injEq, true_and]
          omega
        simp only [decide_eq_false (show ¬ s + w.length + 1 - plen pid > s by omega),
          Bool.not_false, if_true, hm]
        exact anch_new hq hqu hleast
      · simp only [decide_eq_true (show s + w.length + 1 - plen pid > s by omega), Bool.not_true,
          Bool.false_eq_true, if_false]
        exact fun mat hb => anch_no_new hn hb

/-! ## The start state -/

/-- the initial `mat` of `findImp` on the ideal leftmost automaton -/
def mat0Q (Q : PatSet α) (plen : Nat → Nat) (s : Nat) : Option Mat :=
  match outLm Q [] with
  | [] => none
  | pid :: _ => some ⟨pid, s - plen pid, s⟩

theorem best_init (hI : IdsInc Q) {plen : Nat → Nat}
    (hpl : ∀ q ∈ Q, plen q.2 = q.1.length) (s : Nat) (anch : Bool) :
    BestIn Q s anch [] (mat0Q Q plen s) := by
  unfold mat0Q
  cases ho : outLm Q [] with
  | nil =>
    intro q st _ hoq
    have hq0 : q.1 = [] := List.eq_nil_of_length_eq_zero (Nat.le_zero.1 (Nat.le_of_add_left_le hoq.len_le))
    exact outLm_nil_ne ho q hoq.1 hq0
  | cons pid t =>
    obtain ⟨k, hk, q, hq, hqk, hqp, hleast, _, _⟩ := outLm_cons hI ho
    rw [List.drop_nil] at hqk hleast
    have hplen : plen pid = 0 := by rw [← hqp, hpl q hq, hqk]; rfl
    have hm : (⟨pid, s - plen pid, s⟩ : Mat) = matOf s q 0 := by
      simp only [matOf, hplen, hqp, hqk]; rfl
    simp only [hm]
    exact bestIn_of_end (fun _ => rfl) ⟨hq, Nat.zero_le _, hqk ▸ List.prefix_refl _⟩
      (by rw [hqk]; rfl) (fun q' hq' he => hqp ▸ hleast q' hq' (he.trans hqk))
      (fun _ _ _ _ => Nat.zero_le _)

end AcVerif.LmP
