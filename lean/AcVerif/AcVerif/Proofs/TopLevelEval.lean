import AcVerif.Proofs.TopLevelApi
import AcVerif.Proofs.Struct
/-!
# Capstone: a structurally recursive form of `topFind`

`findLoop` is a well-founded recursion, which the kernel cannot evaluate.  `tryFindS` is
`try_find_fwd` (no prefilter) with the loop replaced by its structural form `findS`
(`tryFindFwd_findS`); `topFind_eq_S` lets concrete instances of the top-level function be
evaluated by `decide +kernel` (the examples), and it is the form in which the search is seen to
read the span only (`topFind_frame_nopre` in `Proofs/TopLevel2Span.lean`).
-/
namespace AcVerif.TopP
open AcVerif
variable {σ α : Type}

/-- `try_find_fwd_imp` without prefilter, structural loop -/
def findImpS (A : Aut σ α) (i : Input α) (anch earliest : Bool) : Except MatchErr (Option Mat) :=
  match A.start i.anch with
  | none => .error (if i.anch then .invalidInputAnchored else .invalidInputUnanchored)
  | some sid =>
    let mat0 := if A.isMatch sid then some (getMatch A sid 0 i.s) else none
    if A.isMatch sid && earliest then .ok mat0
    else .ok (findS A i.s anch earliest sid i.s mat0 ((i.hay.take i.e).drop i.s))

/-- `try_find_fwd` without prefilter, structural loop -/
def tryFindS (A : Aut σ α) (i : Input α) : Except MatchErr (Option Mat) :=
  if i.isDone then
    match A.start i.anch with
    | none => .error (if i.anch then .invalidInputAnchored else .invalidInputUnanchored)
    | some _ => .ok none
  else findImpS A i i.anch (A.kind == .std || i.earliest)

theorem tryFindFwd_eq_S (A : Aut σ α) (i : Input α) : tryFindFwd A none i = tryFindS A i := by
  unfold tryFindS findImpS
  cases hs : A.start i.anch with
  | none => rw [tryFindFwd_nostart A none i hs]; cases i.isDone <;> rfl
  | some q =>
    rw [tryFindFwd_findS A i hs]; simp only []
    cases i.isDone <;> cases A.isMatch q <;> cases (A.kind == MatchKind.std || i.earliest) <;> rfl

/-- `AhoCorasick::try_find` on a searcher without prefilter, structural loop -/
def topFindS (s : Searcher) (i : Input UInt8) : Except MatchErr (Option Mat) :=
  match anchoredGate s.cfg.startKind i.anch with
  | some e => .error e
  | none => tryFindS s.aut i

theorem topFind_eq_S (s : Searcher) (hpre : s.pre = none) (i : Input UInt8) :
    topFind s i = topFindS s i := by
  unfold topFind topFindS
  rw [hpre, tryFindFwd_eq_S]
  cases anchoredGate s.cfg.startKind i.anch <;> rfl

end AcVerif.TopP
