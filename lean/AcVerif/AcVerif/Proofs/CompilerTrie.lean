import AcVerif.Proofs.CompilerBase
import AcVerif.Proofs.CompilerMath
import AcVerif.Proofs.FoldFacts
/-!
# The noncontiguous compiler (L1c): the trie phase (`build_trie`)

With `fold` (ASCII case-insensitive) the patterns are inserted as given and every new edge on a
byte `b` is doubled by an edge on `oppositeAsciiCase b` to the same node.  The nodes are named by
the folded strings: the trie is the trie of the folded patterns, with the edge filed under
`foldByte b` taken on every `b`.  `foldIf fold` is that filing map, the identity without `fold`,
and the development is carried out once, for both settings: the invariant `TIg`, kept by
`TIg.advance`, `TIg.extend` (a node is allocated) and `TIg.finish` (a pattern id is recorded);
`addPattern_spec`; `buildTrie_specG`.

The suffix `g` / `G` of a name (`TIg`, `PBg`, `buildTrie_specG`, `compile_specG`,
`L1cG_obsEquiv`, …) says that the notion or theorem takes `fold` as a parameter.  Namespace
`L1cFoldP`: the `fold = true` instances written out with `foldByte` in place of `foldIf true`, for
reading – `TIf` (here), `PBf` (`CompilerStart`), `FSf` (`CompilerFinal`, the form in which
`Theorems/L1cFold.lean` states the specification) – and `SeenI` (`CompilerBfs`), the invariant of
the `seen` set: the first loop (`fillStart`) consults the set in both settings, the later ones
(`FillInv`) only for `fold = true`.
-/
namespace AcVerif.L1cP
open AcVerif AcVerif.CNfa AcVerif.MiscP

def foldIf : Bool → UInt8 → UInt8
  | true, b => foldByte b
  | false, b => b

theorem foldIf_idem (fold : Bool) (b : UInt8) : foldIf fold (foldIf fold b) = foldIf fold b := by
  cases fold
  · rfl
  · exact fold_idem b

theorem map_foldIf_false (v : List UInt8) : v.map (foldIf false) = v := List.map_id'' (fun _ => rfl) v

/-- The trie invariant.  `L` lists the (folded) strings of the states `4, 5, …` in allocation
order, `Qs` is the set of (folded) patterns added so far, `w` the (folded) part of the current
pattern already walked. -/
structure TIg (fold : Bool) (n : CNfa) (L : List (List UInt8)) (Qs : PatSet UInt8)
    (w : List UInt8) : Prop where
  size : n.size = L.length + 4
  nodup : L.Nodup
  mem : ∀ v, v ∈ L ↔ v ≠ [] ∧ (isPref Qs v = true ∨ v <+: w)
  folded : ∀ v, v ∈ L → v.map (foldIf fold) = v
  goto_in : ∀ u b, (u = [] ∨ u ∈ L) → u ++ [foldIf fold b] ∈ L →
    follow n (nu L u) b = nu L (u ++ [foldIf fold b])
  goto_out : ∀ u b, (u = [] ∨ u ∈ L) → u ++ [foldIf fold b] ∉ L → follow n (nu L u) b = FAIL
  sorted : ∀ sid, Sorted (n.getD sid {}).trans
  nofail : ∀ u, u ∈ L → ∀ x ∈ (n.getD (nu L u) {}).trans, x.2 ≠ FAIL
  full : ∀ b, ∃ t, (b, t) ∈ (n.getD SU {}).trans
  mats : ∀ u, (u = [] ∨ u ∈ L) → (n.getD (nu L u) {}).matches_ = idsOf Qs u
  fail : ∀ sid, (n.getD sid {}).fail = SU
  s0 : n.getD 0 {} = { trans := fullTrans DEAD, fail := SU }
  s1 : n.getD 1 {} = { fail := SU }
  s3 : n.getD 3 {} = { trans := fullTrans FAIL, fail := SU }
  depth : ∀ u, u ∈ L → u.length + 3 ≤ nu L u

theorem nu_cases (L : List (List UInt8)) (u : List UInt8) : nu L u = 2 ∨ 4 ≤ nu L u := by
  unfold nu; split
  · left; rfl
  · right; omega

namespace TIg
variable {fold : Bool} {n : CNfa} {L : List (List UInt8)} {Qs : PatSet UInt8} {w : List UInt8}

theorem nil_not_mem (h : TIg fold n L Qs w) : [] ∉ L := fun hm => ((h.mem []).1 hm).1 rfl

theorem closed (h : TIg fold n L Qs w) {v : List UInt8} {b : UInt8} (hm : v ++ [b] ∈ L) :
    v = [] ∨ v ∈ L := by
  by_cases h0 : v = []
  · exact Or.inl h0
  · right
    rw [h.mem] at hm ⊢
    refine ⟨h0, ?_⟩
    rcases hm.2 with hp | hp
    · exact Or.inl (LmP.isPref_of_append hp)
    · exact Or.inr ((List.prefix_append v [b]).trans hp)

theorem cur (h : TIg fold n L Qs w) : w = [] ∨ w ∈ L := by
  by_cases h0 : w = []
  · exact Or.inl h0
  · exact Or.inr ((h.mem w).2 ⟨h0, Or.inr (List.prefix_refl w)⟩)

theorem cur_folded (h : TIg fold n L Qs w) : w.map (foldIf fold) = w := by
  rcases h.cur with e | e
  · subst e; rfl
  · exact h.folded w e

theorem nu_lt_size (h : TIg fold n L Qs w) {u : List UInt8} (hu : u = [] ∨ u ∈ L) :
    nu L u < n.size := by
  rw [h.size]
  rcases hu with h0 | hm
  · subst h0; simp [SU]
  · exact nu_lt hm (fun e => h.nil_not_mem (e ▸ hm))

theorem len_le (h : TIg fold n L Qs w) {u : List UInt8} (hu : u = [] ∨ u ∈ L) :
    u.length ≤ L.length := by
  rcases hu with h0 | hm
  · subst h0; simp
  · have h1 := h.depth u hm
    have h2 := nu_lt hm (fun e => h.nil_not_mem (e ▸ hm))
    omega

theorem advance (h : TIg fold n L Qs w) (b : UInt8) (hx : w ++ [b] ∈ L) :
    TIg fold n L Qs (w ++ [b]) := by
  refine { h with mem := ?_ }
  intro v
  rw [h.mem v, List.prefix_concat_iff]
  constructor
  · rintro ⟨h0, hp | hp⟩
    · exact ⟨h0, Or.inl hp⟩
    · exact ⟨h0, Or.inr (Or.inr hp)⟩
  · rintro ⟨h0, hp | hp | hp⟩
    · exact ⟨h0, Or.inl hp⟩
    · subst hp; exact (h.mem _).1 hx
    · exact ⟨h0, Or.inr hp⟩

end TIg

/-! ## the allocation of a node -/

theorem lookup_newEdges (fold : Bool) (b : UInt8) (t : Nat) (l : List (UInt8 × Nat)) (c : UInt8) :
    lookup (newEdges fold b t l) c = if foldIf fold c = foldIf fold b then t else lookup l c := by
  cases fold
  · exact lookup_insertTrans b t l c
  · show lookup (insertTrans (oppositeAsciiCase b) t (insertTrans b t l)) c =
      if foldByte c = foldByte b then t else lookup l c
    rw [lookup_insertTrans, lookup_insertTrans]
    by_cases hc : foldByte c = foldByte b
    · rw [if_pos hc]
      rcases (fold_eq_iff c b).1 hc with e | e
      · rw [if_pos e, ite_self]
      · rw [if_pos e]
    · rw [if_neg hc, if_neg (fun e => hc ((fold_eq_iff c b).2 (Or.inr e))),
        if_neg (fun e => hc ((fold_eq_iff c b).2 (Or.inl e)))]

theorem follow_newChild (fold : Bool) (n : CNfa) (prev : Nat) (b : UInt8) (hp : prev < n.size)
    (sid : Nat) (c : UInt8) :
    follow (newChild fold n prev b) sid c =
      if sid = prev ∧ foldIf fold c = foldIf fold b then n.size else follow n sid c := by
  rw [follow_eq, getD_newChild fold n prev b hp]
  by_cases h : sid = prev
  · rw [if_pos h, h]
    show lookup (newEdges fold b n.size (n.getD prev {}).trans) c = _
    rw [lookup_newEdges, follow_eq]
    simp only [true_and]
  · rw [if_neg h, if_neg (fun hh => h hh.1), follow_eq]

theorem TIg.extend {fold : Bool} {n : CNfa} {L : List (List UInt8)} {Qs : PatSet UInt8}
    {w : List UInt8} (h : TIg fold n L Qs w) (b : UInt8) (hx : w ++ [foldIf fold b] ∉ L) :
    TIg fold (newChild fold n (nu L w) b) (L ++ [w ++ [foldIf fold b]]) Qs
      (w ++ [foldIf fold b]) := by
  have hw := h.cur
  have hprev : nu L w < n.size := h.nu_lt_size hw
  have hx0 : w ++ [foldIf fold b] ≠ [] := by simp
  have hnu_old : ∀ {v}, (v = [] ∨ v ∈ L) → nu (L ++ [w ++ [foldIf fold b]]) v = nu L v :=
    fun hv => nu_append _ hv
  have hnu_x : nu (L ++ [w ++ [foldIf fold b]]) (w ++ [foldIf fold b]) = n.size := by
    rw [nu_new hx hx0, h.size]
  have hget := getD_newChild fold n (nu L w) b hprev
  have hmemL' : ∀ v, v ∈ L ++ [w ++ [foldIf fold b]] ↔ v ∈ L ∨ v = w ++ [foldIf fold b] := by
    intro v; simp [List.mem_append]
  -- a node of the new list is the new one or an old one
  have hsplit : ∀ {u}, (u = [] ∨ u ∈ L ++ [w ++ [foldIf fold b]]) →
      u = w ++ [foldIf fold b] ∨ (u = [] ∨ u ∈ L) := by
    rintro u (h0 | hm)
    · exact Or.inr (Or.inl h0)
    · exact ((hmemL' u).1 hm).symm.imp_right Or.inr
  -- the new state is still the default state
  have hnew : (newChild fold n (nu L w) b).getD n.size {} = {} := by
    rw [hget, if_neg (by omega), Array.getD_of_size_le _ _ (Nat.le_refl _)]
  -- at every state, only the transitions may have changed
  have hrest : ∀ sid, ((newChild fold n (nu L w) b).getD sid {}).matches_ = (n.getD sid {}).matches_ ∧
      ((newChild fold n (nu L w) b).getD sid {}).fail = (n.getD sid {}).fail := by
    intro sid
    rw [hget]
    by_cases e : sid = nu L w
    · rw [if_pos e, e]; exact ⟨rfl, rfl⟩
    · rw [if_neg e]; exact ⟨rfl, rfl⟩
  have hsmall : ∀ sid, sid < 4 → sid ≠ 2 → (newChild fold n (nu L w) b).getD sid {} = n.getD sid {} := by
    intro sid hs hs2
    rw [hget, if_neg (by rcases nu_cases L w with e | e <;> omega)]
  -- the transitions out of the old nodes
  have hfol : ∀ {u} c, (u = [] ∨ u ∈ L) →
      follow (newChild fold n (nu L w) b) (nu L u) c =
        if u ++ [foldIf fold c] = w ++ [foldIf fold b] then n.size else follow n (nu L u) c := by
    intro u c hu
    rw [follow_newChild fold n (nu L w) b hprev]
    by_cases e : u ++ [foldIf fold c] = w ++ [foldIf fold b]
    · obtain ⟨e1, e2⟩ := List.append_inj' e rfl
      rw [if_pos e, if_pos ⟨by rw [e1], by simpa using e2⟩]
    · rw [if_neg e, if_neg]
      rintro ⟨e1, e2⟩
      exact e (by rw [nu_inj hu hw e1, e2])
  refine
    { size := ?_, nodup := ?_, mem := ?_, folded := ?_, goto_in := ?_, goto_out := ?_,
      sorted := ?_, nofail := ?_, full := ?_, mats := ?_, fail := ?_,
      s0 := (hsmall 0 (by omega) (by omega)).trans h.s0,
      s1 := (hsmall 1 (by omega) (by omega)).trans h.s1,
      s3 := (hsmall 3 (by omega) (by omega)).trans h.s3, depth := ?_ }
  · -- size
    rw [size_newChild, h.size]; simp
  · -- nodup
    rw [List.nodup_append]
    refine ⟨h.nodup, by simp, ?_⟩
    intro a ha b' hb'
    rw [List.mem_singleton] at hb'
    subst hb'
    intro e; subst e; exact hx ha
  · -- mem
    intro v
    rw [hmemL', h.mem v, List.prefix_concat_iff]
    constructor
    · rintro (⟨h0, hp | hp⟩ | hv)
      · exact ⟨h0, Or.inl hp⟩
      · exact ⟨h0, Or.inr (Or.inr hp)⟩
      · subst hv; exact ⟨hx0, Or.inr (Or.inl rfl)⟩
    · rintro ⟨h0, hp | hp | hp⟩
      · exact Or.inl ⟨h0, Or.inl hp⟩
      · exact Or.inr hp
      · exact Or.inl ⟨h0, Or.inr hp⟩
  · -- folded
    intro v hv
    rcases (hmemL' v).1 hv with hv | hv
    · exact h.folded v hv
    · subst hv
      rw [List.map_append, List.map_singleton, foldIf_idem, h.cur_folded]
  · -- goto_in
    intro u c hu hin
    -- the parent of an existing node is old
    have hu' : u = [] ∨ u ∈ L := by
      rcases hsplit hu with e | hu'
      · subst e
        rcases (hmemL' _).1 hin with hin | hin
        · exact absurd ((h.closed hin).resolve_left hx0) hx
        · have := congrArg List.length hin
          simp at this
      · exact hu'
    rw [hnu_old hu', hfol c hu']
    rcases (hmemL' _).1 hin with hin1 | hin1
    · rw [if_neg (fun e => hx (by rw [← e]; exact hin1)), hnu_old (Or.inr hin1)]
      exact h.goto_in u c hu' hin1
    · rw [if_pos hin1, hin1, hnu_x]
  · -- goto_out
    intro u c hu hout
    rw [hmemL', not_or] at hout
    rcases hsplit hu with e | hu'
    · rw [e, hnu_x, follow_eq, hnew]; rfl
    · rw [hnu_old hu', hfol c hu', if_neg hout.2]
      exact h.goto_out u c hu' hout.1
  · -- sorted
    intro sid
    rw [hget]
    by_cases e : sid = nu L w
    · rw [if_pos e]; exact sorted_newEdges fold b _ (h.sorted _)
    · rw [if_neg e]; exact h.sorted sid
  · -- nofail
    intro u hu x hxm
    rcases (hmemL' u).1 hu with hu' | e
    · rw [hnu_old (Or.inr hu'), hget] at hxm
      by_cases e : nu L u = nu L w
      · rw [if_pos e] at hxm
        rcases mem_newEdges hxm with e' | e'
        · have := nu_ge_two L w
          rw [e']; simp only [FAIL]; omega
        · exact h.nofail u hu' x (by rw [e]; exact e')
      · rw [if_neg e] at hxm; exact h.nofail u hu' x hxm
    · rw [e, hnu_x, hnew] at hxm
      simp at hxm
  · -- full
    intro c
    rw [hget]
    by_cases e : SU = nu L w
    · rw [if_pos e]
      exact key_mem_newEdges fold b _ (e ▸ h.full c)
    · rw [if_neg e]; exact h.full c
  · -- mats
    intro u hu
    rcases hsplit hu with e | hu'
    · have hnp : isPref Qs (w ++ [foldIf fold b]) = false := by
        cases hp : isPref Qs (w ++ [foldIf fold b])
        · rfl
        · exact absurd ((h.mem _).2 ⟨hx0, Or.inl hp⟩) hx
      rw [e, hnu_x, hnew, LmP.idsOf_nil_of_not_isPref hnp]
    · rw [hnu_old hu', (hrest _).1]; exact h.mats u hu'
  · -- fail
    intro sid
    rw [(hrest sid).2]; exact h.fail sid
  · -- depth
    intro u hu
    rcases (hmemL' u).1 hu with hm | hm
    · rw [hnu_old (Or.inr hm)]; exact h.depth u hm
    · subst hm
      rw [hnu_x, h.size]
      have := h.len_le hw
      simp only [List.length_append, List.length_singleton]; omega

theorem TIg_init (fold : Bool) : TIg fold init [] [] [] := by
  have g2 : init.getD 2 {} = { trans := fullTrans FAIL, fail := SU } := rfl
  have hall : ∀ (p : CState → Prop), p (init.getD 0 {}) → p (init.getD 1 {}) → p (init.getD 2 {}) →
      p (init.getD 3 {}) → p {} → ∀ sid, p (init.getD sid {}) := by
    intro p h0 h1 h2 h3 h4 sid
    match sid with
    | 0 => exact h0
    | 1 => exact h1
    | 2 => exact h2
    | 3 => exact h3
    | m + 4 => rw [Array.getD_of_size_le _ _ (by show 4 ≤ m + 4; omega)]; exact h4
  refine
    { size := rfl, nodup := List.nodup_nil, mem := ?_, folded := fun v hv => by simp at hv,
      goto_in := fun u b _ hin => by simp at hin, goto_out := ?_,
      sorted := hall (fun st => Sorted st.trans) (sorted_fullTrans _) sorted_nil
        (sorted_fullTrans _) (sorted_fullTrans _) sorted_nil,
      nofail := fun u hu => by simp at hu, full := fun b => ⟨FAIL, mem_fullTrans FAIL b⟩,
      mats := ?_, fail := hall (fun st => st.fail = SU) rfl rfl rfl rfl rfl,
      s0 := rfl, s1 := rfl, s3 := rfl, depth := fun u hu => by simp at hu }
  · intro v
    constructor
    · intro h; simp at h
    · rintro ⟨h0, hp | hp⟩
      · simp [isPref] at hp
      · exact absurd (List.prefix_nil.1 hp) h0
  · rintro u b (rfl | hm) _
    · rw [nu_nil, follow_eq]
      exact lookup_fullTrans FAIL b
    · simp at hm
  · rintro u (rfl | hm)
    · rfl
    · simp at hm

/-! ## one pattern -/

theorem isMatch_eq (n : CNfa) (sid : Nat) : isMatch n sid = !(n.getD sid {}).matches_.isEmpty := rfl

/-- what `addPattern` returns when it continues from the node `w` with the bytes `rest`: under
leftmost-first it gives up iff a node on the way, the last one excluded, is a match -/
def AddSpec (lf fold : Bool) (Qs : PatSet UInt8) (w rest : List UInt8) :
    Option (CNfa × Nat) → Prop
  | none => lf = true ∧ ∃ j, j < rest.length ∧ idsOf Qs (w ++ (rest.take j).map (foldIf fold)) ≠ []
  | some (n', last) =>
    (lf = true → ∀ j, j < rest.length → idsOf Qs (w ++ (rest.take j).map (foldIf fold)) = []) ∧
      ∃ L', TIg fold n' L' Qs (w ++ rest.map (foldIf fold)) ∧
        last = nu L' (w ++ rest.map (foldIf fold))

theorem AddSpec.cons {lf fold : Bool} {Qs : PatSet UInt8} {w rest : List UInt8} {b : UInt8}
    (hw0 : lf = true → idsOf Qs w = []) :
    ∀ {r}, AddSpec lf fold Qs (w ++ [foldIf fold b]) rest r → AddSpec lf fold Qs w (b :: rest) r
  | none, ⟨hlf, j, hj, hne⟩ => ⟨hlf, j + 1, Nat.succ_lt_succ hj, by simpa using hne⟩
  | some (n', last), ⟨h1, L', hT, hl⟩ => by
    refine ⟨fun hlf j hj => ?_, L', by simpa using hT, by simpa using hl⟩
    cases j with
    | zero => simpa using hw0 hlf
    | succ j => simpa using h1 hlf j (Nat.lt_of_succ_lt_succ hj)

theorem addPattern_spec (lf fold : Bool) (Qs : PatSet UInt8) :
    ∀ (rest : List UInt8) (n : CNfa) (L : List (List UInt8)) (w : List UInt8) (saw : Bool),
      TIg fold n L Qs w → (lf = true → saw = false) →
      AddSpec lf fold Qs w rest (addPattern lf fold n (nu L w) saw rest)
  | [], n, L, w, saw, h, _ => by
    simp only [addPattern, AddSpec, List.map_nil, List.append_nil]
    exact ⟨fun _ j hj => absurd hj (Nat.not_lt_zero j), L, h, rfl⟩
  | b :: rest, n, L, w, saw, h, hsaw => by
    have hw := h.cur
    rw [addPattern_cons, isMatch_eq, h.mats w hw]
    by_cases hc : (lf && (saw || !(idsOf Qs w).isEmpty)) = true
    · rw [if_pos hc]
      simp only [Bool.and_eq_true, Bool.or_eq_true] at hc
      obtain ⟨hlf, hs | hs⟩ := hc
      · rw [hsaw hlf] at hs; cases hs
      · refine ⟨hlf, 0, by simp, ?_⟩
        simp only [List.take_zero, List.map_nil, List.append_nil]
        intro e; rw [e] at hs; simp at hs
    · rw [if_neg hc]
      have hsaw' : lf = true → (saw || !(idsOf Qs w).isEmpty) = false := by
        intro hlf
        rw [hlf, Bool.true_and] at hc
        exact Bool.eq_false_iff.2 hc
      have hw0 : lf = true → idsOf Qs w = [] := by
        intro hlf
        have := hsaw' hlf
        simp only [Bool.or_eq_false_iff, Bool.not_eq_false', List.isEmpty_iff] at this
        exact this.2
      apply AddSpec.cons hw0
      by_cases hx : w ++ [foldIf fold b] ∈ L
      · have hf := h.goto_in w b hw hx
        rw [if_pos (by rw [hf]; exact nu_ne_fail L _), hf]
        exact addPattern_spec lf fold Qs rest n L _ _ (h.advance _ hx) hsaw'
      · rw [if_neg (fun hne => hne (h.goto_out w b hw hx))]
        have hnx : n.size = nu (L ++ [w ++ [foldIf fold b]]) (w ++ [foldIf fold b]) := by
          rw [nu_new hx (by simp), h.size]
        rw [hnx]
        exact addPattern_spec lf fold Qs rest _ _ _ _ (h.extend b hx) hsaw'

/-! ## the fold over the patterns -/

theorem TIg.finish {fold : Bool} {n : CNfa} {L : List (List UInt8)} {Qs : PatSet UInt8}
    {p : List UInt8} (h : TIg fold n L Qs p) (pid : Nat) :
    TIg fold (n.modify (nu L p) fun st => { st with matches_ := st.matches_ ++ [pid] }) L
      (Qs ++ [(p, pid)]) [] := by
  have hp := h.cur
  have hget : ∀ sid, (n.modify (nu L p) fun st => { st with matches_ := st.matches_ ++ [pid] }).getD
      sid {} = if sid = nu L p then { n.getD sid {} with matches_ := (n.getD sid {}).matches_ ++ [pid] }
        else n.getD sid {} := by
    intro sid
    rw [Array.getD_modify_of_lt n (h.nu_lt_size hp)]
    by_cases e : sid = nu L p
    · rw [if_pos e, if_pos e, e]
    · rw [if_neg e, if_neg e]
  have hsmall : ∀ sid, sid < 4 → sid ≠ 2 → (n.modify (nu L p) fun st =>
      { st with matches_ := st.matches_ ++ [pid] }).getD sid {} = n.getD sid {} := by
    intro sid hs hs2
    rw [hget, if_neg (by rcases nu_cases L p with e | e <;> omega)]
  -- transitions and failure links are untouched
  have hrest : ∀ sid, ((n.modify (nu L p) fun st =>
        { st with matches_ := st.matches_ ++ [pid] }).getD sid {}).trans = (n.getD sid {}).trans ∧
      ((n.modify (nu L p) fun st =>
        { st with matches_ := st.matches_ ++ [pid] }).getD sid {}).fail = (n.getD sid {}).fail := by
    intro sid; rw [hget]; split <;> exact ⟨rfl, rfl⟩
  have hfol : ∀ sid c, follow (n.modify (nu L p) fun st =>
      { st with matches_ := st.matches_ ++ [pid] }) sid c = follow n sid c := by
    intro sid c; rw [follow_eq, follow_eq, (hrest sid).1]
  refine
    { size := by rw [Array.size_modify]; exact h.size, nodup := h.nodup, mem := ?_,
      folded := h.folded, goto_in := ?_, goto_out := ?_, sorted := ?_, nofail := ?_, full := ?_,
      mats := ?_, fail := ?_,
      s0 := (hsmall 0 (by omega) (by omega)).trans h.s0,
      s1 := (hsmall 1 (by omega) (by omega)).trans h.s1,
      s3 := (hsmall 3 (by omega) (by omega)).trans h.s3, depth := h.depth }
  · intro v
    rw [h.mem v, isPref_append_single, Bool.or_eq_true, List.isPrefixOf_iff_prefix, List.prefix_nil]
    exact and_congr_right fun h0 => (or_iff_left h0).symm
  · intro u b hu hin; rw [hfol]; exact h.goto_in u b hu hin
  · intro u b hu hout; rw [hfol]; exact h.goto_out u b hu hout
  · intro sid; rw [(hrest sid).1]; exact h.sorted sid
  · intro u hu x hx; rw [(hrest _).1] at hx; exact h.nofail u hu x hx
  · intro b; rw [(hrest _).1]; exact h.full b
  · intro u hu
    rw [hget, idsOf_append_single]
    by_cases e : nu L u = nu L p
    · rw [if_pos e, if_pos (nu_inj hu hp e).symm]
      show (n.getD (nu L u) {}).matches_ ++ [pid] = _
      rw [h.mats u hu]
    · rw [if_neg e, if_neg (fun e' => e (by rw [e'])), List.append_nil]; exact h.mats u hu
  · intro sid; rw [(hrest sid).2]; exact h.fail sid

theorem buildTrie_snoc (k : MatchKind) (fold : Bool) (P : List (List UInt8)) (p : List UInt8) :
    buildTrie k fold (P ++ [p]) =
      match addPattern (k == .lf) fold (buildTrie k fold P) SU false p with
      | none => buildTrie k fold P
      | some (n, last) => n.modify last fun st => { st with matches_ := st.matches_ ++ [P.length] } := by
  unfold buildTrie
  rw [List.zipIdx_append, List.foldl_append]
  simp only [List.zipIdx_cons, List.zipIdx_nil, List.foldl_cons, List.foldl_nil, Nat.zero_add]
  rfl

/-- the trie phase: the states `≥ 4` are the non-empty prefixes of the kept (folded) patterns;
the edge to the child `u ++ [foldIf fold b]` is taken on `b`; the match list of a node lists the
kept patterns whose (folded) string is the node's; the leftmost-first skipping rule is `keepLF` of
the (folded) patterns -/
theorem buildTrie_specG (k : MatchKind) (fold : Bool) :
    ∀ P : List (List UInt8),
      ∃ L, TIg fold (buildTrie k fold P) L (patSet k (P.map (List.map (foldIf fold)))) [] := by
  apply List.reverse_induction
  · exact ⟨[], by
      have : patSet k ([] : List (List UInt8)) = [] := by cases k <;> rfl
      rw [List.map_nil, this]; exact TIg_init fold⟩
  · intro P p ⟨L, hT⟩
    rw [buildTrie_snoc, List.map_append, List.map_singleton, patSet_concat, List.length_map]
    have hspec := addPattern_spec (k == .lf) fold _ p _ L [] false hT (fun _ => rfl)
    rw [nu_nil] at hspec
    have hkeep : (k = .lf ∧ keepLF (P.map (List.map (foldIf fold)) ++ [p.map (foldIf fold)])
          (p.map (foldIf fold), P.length) = false) ↔
        k = .lf ∧ ∃ j, j < p.length ∧
          idsOf (patSet .lf (P.map (List.map (foldIf fold)))) ((p.take j).map (foldIf fold)) ≠ [] := by
      have := keepLF_concat_false_iff (P.map (List.map (foldIf fold))) (p.map (foldIf fold))
      simp only [List.length_map, ← List.map_take] at this
      rw [this]
    cases hr : addPattern (k == .lf) fold (buildTrie k fold P) SU false p with
    | none =>
      rw [hr] at hspec
      obtain ⟨hlf, j, hj, hne⟩ := hspec
      have hk : k = .lf := by simpa using hlf
      subst hk
      rw [if_pos (hkeep.2 ⟨rfl, j, hj, hne⟩), List.append_nil]
      exact ⟨L, hT⟩
    | some r =>
      obtain ⟨n', last⟩ := r
      rw [hr] at hspec
      obtain ⟨h1, L', hT', hl⟩ := hspec
      rw [List.nil_append] at hT' hl
      rw [if_neg]
      · subst hl
        exact ⟨L', hT'.finish P.length⟩
      · intro hc
        obtain ⟨hk, j, hj, hne⟩ := hkeep.1 hc
        subst hk
        exact hne (h1 rfl j hj)

/-! ## the two settings of `fold`, written out -/

structure TI (n : CNfa) (L : List (List UInt8)) (Qs : PatSet UInt8) (w : List UInt8) : Prop where
  size : n.size = L.length + 4
  nodup : L.Nodup
  mem : ∀ v, v ∈ L ↔ v ≠ [] ∧ (isPref Qs v = true ∨ v <+: w)
  goto_in : ∀ u b, (u = [] ∨ u ∈ L) → u ++ [b] ∈ L → follow n (nu L u) b = nu L (u ++ [b])
  goto_out : ∀ u b, (u = [] ∨ u ∈ L) → u ++ [b] ∉ L → follow n (nu L u) b = FAIL
  sorted : ∀ sid, Sorted (n.getD sid {}).trans
  nofail : ∀ u, u ∈ L → ∀ x ∈ (n.getD (nu L u) {}).trans, x.2 ≠ FAIL
  full : ∀ b, ∃ t, (b, t) ∈ (n.getD SU {}).trans
  mats : ∀ u, (u = [] ∨ u ∈ L) → (n.getD (nu L u) {}).matches_ = idsOf Qs u
  fail : ∀ sid, (n.getD sid {}).fail = SU
  s0 : n.getD 0 {} = { trans := fullTrans DEAD, fail := SU }
  s1 : n.getD 1 {} = { fail := SU }
  s3 : n.getD 3 {} = { trans := fullTrans FAIL, fail := SU }
  depth : ∀ u, u ∈ L → u.length + 3 ≤ nu L u

namespace TI
variable {n : CNfa} {L : List (List UInt8)} {Qs : PatSet UInt8} {w : List UInt8}

theorem toG (h : TI n L Qs w) : TIg false n L Qs w :=
  { h with folded := fun v _ => map_foldIf_false v }

theorem closed (h : TI n L Qs w) {v : List UInt8} {b : UInt8} (hm : v ++ [b] ∈ L) :
    v = [] ∨ v ∈ L := h.toG.closed hm

end TI

end AcVerif.L1cP

namespace AcVerif.L1cFoldP
open AcVerif AcVerif.CNfa AcVerif.L1cP AcVerif.MiscP

abbrev fs (u : List UInt8) : List UInt8 := u.map foldByte

theorem fs_fs (u : List UInt8) : fs (fs u) = fs u := by
  simp only [fs, List.map_map]
  apply List.map_congr_left
  intro b _
  exact fold_idem b

structure TIf (n : CNfa) (L : List (List UInt8)) (Qs : PatSet UInt8) (w : List UInt8) : Prop where
  size : n.size = L.length + 4
  nodup : L.Nodup
  mem : ∀ v, v ∈ L ↔ v ≠ [] ∧ (isPref Qs v = true ∨ v <+: w)
  folded : ∀ v, v ∈ L → fs v = v
  goto_in : ∀ u b, (u = [] ∨ u ∈ L) → u ++ [foldByte b] ∈ L →
    follow n (nu L u) b = nu L (u ++ [foldByte b])
  goto_out : ∀ u b, (u = [] ∨ u ∈ L) → u ++ [foldByte b] ∉ L → follow n (nu L u) b = FAIL
  sorted : ∀ sid, Sorted (n.getD sid {}).trans
  nofail : ∀ u, u ∈ L → ∀ x ∈ (n.getD (nu L u) {}).trans, x.2 ≠ FAIL
  full : ∀ b, ∃ t, (b, t) ∈ (n.getD SU {}).trans
  mats : ∀ u, (u = [] ∨ u ∈ L) → (n.getD (nu L u) {}).matches_ = idsOf Qs u
  fail : ∀ sid, (n.getD sid {}).fail = SU
  s0 : n.getD 0 {} = { trans := fullTrans DEAD, fail := SU }
  s1 : n.getD 1 {} = { fail := SU }
  s3 : n.getD 3 {} = { trans := fullTrans FAIL, fail := SU }
  depth : ∀ u, u ∈ L → u.length + 3 ≤ nu L u

namespace TIf
variable {n : CNfa} {L : List (List UInt8)} {Qs : PatSet UInt8} {w : List UInt8}

theorem toG (h : TIf n L Qs w) : TIg true n L Qs w := { h with }

theorem closed (h : TIf n L Qs w) {v : List UInt8} {b : UInt8} (hm : v ++ [b] ∈ L) :
    v = [] ∨ v ∈ L := h.toG.closed hm

end TIf

end AcVerif.L1cFoldP
