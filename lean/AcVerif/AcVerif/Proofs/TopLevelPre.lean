import AcVerif.Proofs.TopLevelRef
import AcVerif.Theorems.C05Resumed
import AcVerif.Theorems.C06
import AcVerif.Theorems.C19Scan
/-!
# Capstone proofs: sound prefilters

* `PreSoundFor` / `PreSoundOvlFor`: what the engines need of a prefilter function, uniformly in
  `ascii_case_insensitive` (the prefilter reads the raw haystack, occurrences are read on
  `specPats` / `specHay`); `PreOK` / `PreOKOvl`: the hypothesis on the optional prefilter of a
  searcher; `ref_*_pre`: on the reference automaton the engines with such a prefilter are the
  engines without (C05, C05Resumed);
* `build_packed_exact`, `builder_ok`, `builder_ok_ovl`: **every** prefilter
  `prefilter::Builder::build` can return is sound, with no side hypothesis: a packed searcher it
  returns is `PackedSearcher.new` of exactly the supplied patterns and the matching kind, so C06
  discharges the hypothesis `hC06` of `C05_builder_sound`.
-/
namespace AcVerif.TopP
open AcVerif AcVerif.MiscP AcVerif.PreP AcVerif.PreP2

/-! ## soundness of a prefilter function, uniformly in `fold` -/

def PreSoundFor (f : Bool) (k : MatchKind) (P : List (List UInt8)) (pre : Prefilter UInt8) : Prop :=
  ∀ hay, PrefilterSoundAt k (specPats f P) (pre hay) (specHay f hay)

def PreSoundOvlFor (f : Bool) (P : List (List UInt8)) (pre : Prefilter UInt8) : Prop :=
  ∀ hay, PrefilterSoundOvlAt (specPats f P) (pre hay) (specHay f hay)

/-- the hypothesis on the prefilter of a searcher: none, or a sound one for non-empty patterns
(the real builder attaches no prefilter when a pattern is empty) -/
def PreOK (f : Bool) (k : MatchKind) (P : List (List UInt8)) :
    Option (Prefilter UInt8) → Prop
  | none => True
  | some p => (∀ q ∈ P, q ≠ []) ∧ PreSoundFor f k P p

def PreOKOvl (f : Bool) (P : List (List UInt8)) : Option (Prefilter UInt8) → Prop
  | none => True
  | some p => (∀ q ∈ P, q ≠ []) ∧ PreSoundOvlFor f P p

/-! ## transparency on the reference automaton -/

section ref
variable {f : Bool} {k : MatchKind} {P : List (List UInt8)} {po : Option (Prefilter UInt8)}
  (sk : StartKind) (i : Input UInt8)

theorem PreSoundFor.at {pre : Prefilter UInt8} (hs : PreSoundFor f k P pre) (hay : List UInt8) :
    PrefilterSoundAt k (specPats f P) (pre hay) (hay.map (L1cP.foldIf f)) :=
  specHay_eq f hay ▸ hs hay

theorem PreSoundOvlFor.at {pre : Prefilter UInt8} (hs : PreSoundOvlFor f P pre)
    (hay : List UInt8) :
    PrefilterSoundOvlAt (specPats f P) (pre hay) (hay.map (L1cP.foldIf f)) :=
  specHay_eq f hay ▸ hs hay

/-- C05: with a sound prefilter (or none) and the matching prefilter flag, the search is the
prefilter-free search -/
theorem ref_find_pre (hok : PreOK f k P po) (he : k = .std ∨ i.earliest = false)
    (h : supportsAnch sk i.anch) :
    tryFindFwd (refAut f k P sk po.isSome) po i = tryFindFwd (refAut f k P sk false) none i := by
  cases po with
  | none => rfl
  | some pre =>
    rw [refAut_eq, refAut_eq]
    exact transparent_comap k _ (specPats_ne f hok.1) pre sk _ i (hok.2.at i.hay) he h

theorem ref_iter_pre (hok : PreOK f k P po) (he : k = .std ∨ i.earliest = false)
    (h : supportsAnch sk i.anch) :
    findIter (refAut f k P sk po.isSome) po i = findIter (refAut f k P sk false) none i := by
  cases po with
  | none => rfl
  | some pre =>
    rw [refAut_eq, refAut_eq]
    exact findIter_transparent_comap k _ (specPats_ne f hok.1) pre sk _ i (hok.2.at i.hay) he h

theorem ref_overlap_pre (hok : PreOKOvl f P po) (h : supportsAnch sk i.anch) (n : Nat) :
    ovlCalls (refAut f .std P sk po.isSome) po i n OState.start =
      ovlCalls (refAut f .std P sk false) none i n OState.start := by
  cases po with
  | none => rfl
  | some pre =>
    rw [refAut_eq, refAut_eq]
    exact ovlCalls_transparent_comap _ (specPats_ne f hok.1) pre sk _ i (hok.2.at i.hay) h n _

theorem ref_overlap_iter_pre (hok : PreOKOvl f P po) (h : supportsAnch sk i.anch) (fuel : Nat) :
    ovlIterAux (refAut f .std P sk po.isSome) po i fuel OState.start =
      ovlIterAux (refAut f .std P sk false) none i fuel OState.start := by
  cases po with
  | none => rfl
  | some pre =>
    rw [refAut_eq, refAut_eq]
    exact ovlIterAux_transparent_comap _ (specPats_ne f hok.1) pre sk _ i (hok.2.at i.hay) h
      fuel _

end ref

/-! ## the prefilters of the builder model are sound -/

theorem foldl_packed (K : Consts) (freq : UInt8 → Nat) (pats : List (List UInt8))
    (hne : ∀ p ∈ pats, p ≠ []) : ∀ (b : PreBuilder), b.enabled = true →
    ∀ ps, (pats.foldl (PreBuilder.add K freq) b).packed = some ps →
      ∃ ps0, b.packed = some ps0 ∧ ps = ps0 ++ pats := by
  induction pats with
  | nil => intro b _ ps h; exact ⟨ps, h, (List.append_nil _).symm⟩
  | cons p rest ih =>
    intro b hb ps h
    have hp : p ≠ [] := hne p (by simp)
    have hen := (PreBuilder.add_nonempty K freq b p hb hp).1
    obtain ⟨ps1, h1, h2⟩ := ih (fun q hq => hne q (by simp [hq])) _ hen ps h
    have he : p.isEmpty = false := by
      cases p with
      | nil => exact absurd rfl hp
      | cons _ _ => rfl
    have hpk : (b.add K freq p).packed =
        match b.packed with
        | none => none
        | some ps => if ps.length ≥ K.patternLimit then none else some (ps ++ [p]) := by
      unfold PreBuilder.add
      simp [he, hb]
      cases b.packed <;> rfl
    rw [hpk] at h1
    cases hbp : b.packed with
    | none => rw [hbp] at h1; cases h1
    | some ps0 =>
      rw [hbp] at h1
      simp only at h1
      split at h1
      · cases h1
      · injection h1 with h1
        refine ⟨ps0, rfl, ?_⟩
        rw [h2, ← h1, List.append_assoc]; rfl

theorem build_packed_exact (K : Consts) (k : MatchKind) (fold : Bool) (freq : UInt8 → Nat)
    (pats : List (List UInt8)) (avx2 ssse3 : Bool) (hne : ∀ p ∈ pats, p ≠ [])
    (srch : PackedSearcher)
    (hb : buildPrefilter K k fold freq pats avx2 ssse3 = some (.packed srch)) :
    pats ≠ [] ∧ ∃ kind v, kind.toMatchKind = k ∧ srch = PackedSearcher.new kind pats v := by
  unfold buildPrefilter at hb
  obtain ⟨kind, ps, hk, hps, hpb⟩ := build_packed_shape hb
  obtain ⟨_, _, hkind, _⟩ :=
    PreBuilder.foldl_nonempty K freq pats hne (PreBuilder.new k fold) rfl
  have hkind' : (pats.foldl (PreBuilder.add K freq) (PreBuilder.new k fold)).kind = k := hkind
  rw [hkind'] at hk
  obtain ⟨ps0, h0, hpp⟩ := foldl_packed K freq pats hne (PreBuilder.new k fold) rfl ps hps
  have : ps0 = [] := by
    have : (PreBuilder.new k fold).packed = some [] := rfl
    rw [this] at h0; injection h0 with h0; exact h0.symm
  subst this
  rw [List.nil_append] at hpp
  subst hpp
  obtain ⟨hnil, _, v, hv⟩ := packedBuild_some hpb
  refine ⟨hnil, kind, v, ?_, hv⟩
  cases k
  · cases hk
  · injection hk with hk; subst hk; rfl
  · injection hk with hk; subst hk; rfl

/-! ## a searcher's prefilter, if any, is sound -/

theorem builder_ok (K : Consts) (k : MatchKind) (f : Bool) (freq : UInt8 → Nat)
    (pats : List (List UInt8)) (avx2 ssse3 : Bool) :
    PreOK f k pats ((buildPrefilter K k f freq pats avx2 ssse3).map PreChoice.findIn) := by
  cases hb : buildPrefilter K k f freq pats avx2 ssse3 with
  | none => exact trivial
  | some ch =>
    have hne := build_pats_ne hb
    refine ⟨hne, fun hay => ?_⟩
    cases f
    · refine (C05_builder_sound K k freq pats avx2 ssse3 hne ch hb ?_).at hay
      intro srch hch hay s e hse he
      subst hch
      obtain ⟨hnil, kind, v, hk, rfl⟩ := build_packed_exact K k false freq pats avx2 ssse3 hne _ hb
      exact hk ▸ C06_packed kind pats hnil hne v hay s e ⟨hse, he⟩
    · exact C05_builder_sound_fold K k freq pats avx2 ssse3 hne ch hb hay

theorem builder_ok_ovl (K : Consts) (f : Bool) (freq : UInt8 → Nat)
    (pats : List (List UInt8)) (avx2 ssse3 : Bool) :
    PreOKOvl f pats ((buildPrefilter K .std f freq pats avx2 ssse3).map PreChoice.findIn) := by
  cases hb : buildPrefilter K .std f freq pats avx2 ssse3 with
  | none => exact trivial
  | some ch =>
    have hne := build_pats_ne hb
    refine ⟨hne, fun hay => ?_⟩
    cases f
    · exact (C05_builder_sound_ovl K freq pats avx2 ssse3 hne ch hb).at hay
    · exact C05_builder_sound_ovl_fold K freq pats avx2 ssse3 hne ch hb hay

end AcVerif.TopP
