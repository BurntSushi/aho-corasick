import AcVerif.ContigModel
/-!
# The shuffle of the noncontiguous NFA: names and what is needed of it

`cOrder`, `cNa`, `cPos`: `order`, `nextAvail` of `shuffleOrder` and the inverse table `pos`;
`posOf`: the shuffled position of an old id; `ShufOK`: all that the stored automata (the contiguous
NFA, the noncontiguous NFA and the DFA as stored) need of the shuffle.
-/
namespace AcVerif.L1eP
open AcVerif AcVerif.CNfa

/-- `order[newpos] = old id` -/
def cOrder (n : CNfa) : Array Nat := (shuffleOrder n).1

/-- `nextAvail` after the match states were moved to the front -/
def cNa (n : CNfa) : Nat := (shuffleOrder n).2

/-- old id → shuffled position -/
def cPos (n : CNfa) : Array Nat :=
  (List.range n.size).foldl (fun (p : Array Nat) i => p.set! ((cOrder n).getD i 0) i)
    (Array.replicate n.size 0)

/-- the shuffle is a permutation fixing `DEAD` and `FAIL`; the match states with old id `≥ 4` sit
at positions `2 .. nextAvail - 3`, then the two start states, then the other states -/
structure ShufOK (n : CNfa) : Prop where
  size_order : (cOrder n).size = n.size
  size_pos : (cPos n).size = n.size
  order_lt : ∀ i, i < n.size → (cOrder n).getD i 0 < n.size
  pos_lt : ∀ s, s < n.size → (cPos n).getD s 0 < n.size
  order_pos : ∀ s, s < n.size → (cOrder n).getD ((cPos n).getD s 0) 0 = s
  pos_order : ∀ i, i < n.size → (cPos n).getD ((cOrder n).getD i 0) 0 = i
  na_ge : 4 ≤ cNa n
  na_le : cNa n ≤ n.size
  pos0 : (cPos n).getD 0 0 = 0
  pos1 : (cPos n).getD 1 0 = 1
  posSU : (cPos n).getD 2 0 = cNa n - 2
  posSA : (cPos n).getD 3 0 = cNa n - 1
  pos_match : ∀ s, 4 ≤ s → s < n.size → CNfa.isMatch n s = true →
    2 ≤ (cPos n).getD s 0 ∧ (cPos n).getD s 0 + 3 ≤ cNa n
  pos_nomatch : ∀ s, 4 ≤ s → s < n.size → CNfa.isMatch n s = false → cNa n ≤ (cPos n).getD s 0

def posOf (n : CNfa) (s : Nat) : Nat := (cPos n).getD s 0

end AcVerif.L1eP
