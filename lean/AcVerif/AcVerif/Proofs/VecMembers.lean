import AcVerif.Proofs.VecMask
/-!
# `Mask::members1..4` at the vector level is `Teddy.member` lane by lane

`memV t fat w chunk i` is the `i`-th member vector (two `V.shuffleBytes` into the lo/hi table of
`maskTables t fat i`, indexed by the low/high nybbles of `chunk`, then `V.and`); `membersV` is
the list of them (`membersV_eq`).  `memV_eq` gives byte `j` as a lookup in `tblOf`; with
`tbl_slim` / `tbl_fat` of `VecMask` this yields `memV_slim_lane` and `memV_fat_lane`:
`laneOfSlim` resp. `laneOfFat` of the member vector is `chunk.map (t.member i)`.
-/
namespace AcVerif.VecP
open AcVerif.PackedP

def memV (t : Teddy) (fat : Bool) (w : Nat) (chunk : Vec8) (i : Nat) : Vec8 :=
  V.and (V.shuffleBytes ((maskTables t fat i).1.take w) (V.and chunk (V.splat w 0xF)))
    (V.shuffleBytes ((maskTables t fat i).2.take w)
      (V.and (V.shift8bitLaneRight4 chunk) (V.splat w 0xF)))

theorem membersV_eq (t : Teddy) (fat : Bool) (w : Nat) (chunk : Vec8) :
    membersV t fat w chunk = (List.range t.maskLen).map (memV t fat w chunk) := rfl

theorem membersV_getD (t : Teddy) (fat : Bool) (w : Nat) (chunk : Vec8) (i : Nat)
    (hi : i < t.maskLen) : (membersV t fat w chunk).getD i [] = memV t fat w chunk i := by
  rw [membersV_eq, List.getD_eq_getElem?_getD, List.getElem?_map, List.getElem?_range hi]
  rfl

theorem membersV_length (t : Teddy) (fat : Bool) (w : Nat) (chunk : Vec8) :
    (membersV t fat w chunk).length = t.maskLen := by
  rw [membersV_eq, List.length_map, List.length_range]

/-- Byte `j` of a member vector: the two shuffles look the nybbles of byte `j` up in the 16-byte
block `j / 16` of the `lo` and the `hi` table. -/
theorem memV_eq (t : Teddy) (fat : Bool) (w : Nat) (hw : w = 16 ∨ w = 32) (cv : Vec8)
    (hc : cv.length = w) (i : Nat) :
    memV t fat w cv i = (List.range w).map fun j =>
      (tblOf t fat i (fun c => c &&& 0xF)).getD (j / 16 * 16 + (cv.getD j 0 &&& 0xF).toNat) 0 &&&
      (tblOf t fat i (fun c => c >>> 4)).getD (j / 16 * 16 + (cv.getD j 0 >>> 4).toNat) 0 := by
  have hmem : ∀ (f : UInt8 → UInt8), (∀ c, (f c).toNat < 16) → ∀ x ∈ cv.map f, x.toNat < 16 := by
    intro f hf x hx
    obtain ⟨c, _, rfl⟩ := List.mem_map.1 hx
    exact hf c
  unfold memV
  rw [maskTables_eq, and_splat _ _ _ hc, hhi_eq _ _ hc, shuffle_nyb _ _ (hmem _ lo_nyb_lt),
    shuffle_nyb _ _ (hmem _ hi_nyb_lt), List.length_map, List.length_map, hc]
  unfold V.and
  rw [zipWith_map_same]
  apply List.map_congr_left
  intro j hj
  have hj' : j < cv.length := by rw [hc]; exact List.mem_range.1 hj
  rw [List.getD_map _ cv j 0 0 hj', List.getD_map _ cv j 0 0 hj',
    List.getD_take_of_lt _ _ _ _ (by have := lo_nyb_lt (cv.getD j 0); omega),
    List.getD_take_of_lt _ _ _ _ (by have := hi_nyb_lt (cv.getD j 0); omega)]

theorem memV_length (t : Teddy) (fat : Bool) (w : Nat) (hw : w = 16 ∨ w = 32) (cv : Vec8)
    (hc : cv.length = w) (i : Nat) : (memV t fat w cv i).length = w := by
  rw [memV_eq t fat w hw cv hc, List.length_map, List.length_range]

theorem memV_slim_lane (t : Teddy) (hB : t.nBuckets = 8) (w : Nat) (hw : w = 16 ∨ w = 32)
    (chunk : Vec8) (hc : chunk.length = w) (i : Nat) :
    laneOfSlim (memV t false w chunk i) = chunk.map (t.member i) := by
  rw [memV_eq t false w hw chunk hc, ← List.map_range_getD (t.member i) chunk 0, hc]
  unfold laneOfSlim
  rw [List.map_map]
  apply List.map_congr_left
  intro j hj
  have hj' := List.mem_range.1 hj
  have hh : j / 16 * 16 = 0 ∨ j / 16 * 16 = 16 := by omega
  rw [Function.comp, UInt8.toNat_and, Nat.add_comm, Nat.add_comm (j / 16 * 16),
    tbl_slim t hB i _ lo_nyb_lt _ (lo_nyb_lt _) _ hh, tbl_slim t hB i _ hi_nyb_lt _ (hi_nyb_lt _) _ hh]
  rfl

theorem memV_fat_lane (t : Teddy) (hB : t.nBuckets = 16) (chunk : Vec8) (hc : chunk.length = 16)
    (i : Nat) :
    laneOfFat (memV t true 32 (V.loadHalf chunk) i) = chunk.map (t.member i) := by
  have hl : (V.loadHalf chunk).length = 32 := by unfold V.loadHalf; rw [List.length_append, hc]
  rw [memV_eq t true 32 (Or.inr rfl) _ hl, ← List.map_range_getD (t.member i) chunk 0, hc]
  apply List.map_congr_left
  intro j hj
  have hj' := List.mem_range.1 hj
  -- bytes `j` and `j + 16` of the broadcast chunk are byte `j` of the chunk, in blocks 0 and 1
  have e1 : (V.loadHalf chunk).getD j 0 = chunk.getD j 0 := by
    unfold V.loadHalf
    exact List.getD_append_left _ _ _ (by rw [hc]; exact hj')
  have e2 : (V.loadHalf chunk).getD (j + 16) 0 = chunk.getD j 0 := by
    unfold V.loadHalf
    rw [Nat.add_comm j, ← hc]; exact List.getD_append_right ..
  rw [List.getD_of_lt _ _ _ (by rw [List.length_map, List.length_range]; omega),
    List.getD_of_lt _ _ _ (by rw [List.length_map, List.length_range]; omega), List.getElem_map,
    List.getElem_map, List.getElem_range, List.getElem_range, e1, e2,
    show j / 16 * 16 = 0 by omega, show (j + 16) / 16 * 16 = 16 by omega, Nat.zero_add, Nat.zero_add]
  show fatPair _ _ = _
  rw [fatPair_and]
  unfold fatPair
  rw [(tbl_fat t hB i _ lo_nyb_lt _ (lo_nyb_lt _)).1, (tbl_fat t hB i _ lo_nyb_lt _ (lo_nyb_lt _)).2,
    (tbl_fat t hB i _ hi_nyb_lt _ (hi_nyb_lt _)).1, (tbl_fat t hB i _ hi_nyb_lt _ (hi_nyb_lt _)).2,
    split256, split256]
  rfl

end AcVerif.VecP
