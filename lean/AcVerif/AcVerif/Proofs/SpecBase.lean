import AcVerif.Spec
/-!
# Best member and sorted enumeration of a set of matches

`IsFind k P hay s e anch` is `IsBest (better k)` of the set `IsOccA P hay s e anch`
(`isFind_iff_best`), and `IsOverlapList P hay s e anch` unfolds to `IsEnum ovlBefore` of the same
set.  What the development needs of the two notions does not depend on the set being a set of
occurrences: both are determined by the set (`unique`), only depend on the set (`congr`), and move
along a re-indexing `φ` of the members that respects the order (`map`: slices, with
`φ = (·.shift s)`); the head of the enumeration is the best member for every reflexive order that
contains the enumeration's (`IsEnum.head`).

What is special to occurrences is in `EngP`: `better k` is antisymmetric on them (two that are each
preferred to the other share pattern and start, which fix the end, `occ_stop_eq`; leftmost-first
does not look at the end at all), `ovlBefore` is asymmetric and contained in `betterStd`.
-/
namespace AcVerif
variable {β β' : Type}

def IsBest (R : β → β → Prop) (S : β → Prop) : Option β → Prop
  | none => ∀ b, ¬ S b
  | some b => S b ∧ ∀ b', S b' → R b b'

def IsEnum (R : β → β → Prop) (S : β → Prop) (l : List β) : Prop :=
  l.Pairwise R ∧ ∀ b, b ∈ l ↔ S b

section
variable {R : β → β → Prop} {R' : β' → β' → Prop} {S : β → Prop} {S' : β' → Prop}

theorem IsBest.unique (anti : ∀ a b, S a → S b → R a b → R b a → a = b) {r r' : Option β}
    (h : IsBest R S r) (h' : IsBest R S r') : r = r' := by
  cases r with
  | none =>
    cases r' with
    | none => rfl
    | some b' => exact absurd h'.1 (h b')
  | some b =>
    cases r' with
    | none => exact absurd h.1 (h' b)
    | some b' => rw [anti b b' h.1 h'.1 (h.2 b' h'.1) (h'.2 b h.1)]

theorem IsBest.map (φ : β' → β) (hS : ∀ b, S' b ↔ S (φ b)) (hsurj : ∀ b, S b → ∃ b', b = φ b')
    (hR : ∀ a b, R (φ a) (φ b) ↔ R' a b) (r : Option β') :
    IsBest R' S' r ↔ IsBest R S (r.map φ) := by
  cases r with
  | none =>
    refine ⟨fun h b hb => ?_, fun h b hb => h _ ((hS b).1 hb)⟩
    obtain ⟨b', rfl⟩ := hsurj b hb
    exact h b' ((hS b').2 hb)
  | some a =>
    refine and_congr (hS a) ⟨fun h b hb => ?_, fun h b hb => (hR a b).1 (h _ ((hS b).1 hb))⟩
    obtain ⟨b', rfl⟩ := hsurj b hb
    exact (hR a b').2 (h b' ((hS b').2 hb))

theorem IsBest.congr {S₂ : β → Prop} (h : ∀ b, S b ↔ S₂ b) (r : Option β) :
    IsBest R S r ↔ IsBest R S₂ r := by
  rw [show S = S₂ from funext fun b => propext (h b)]

theorem IsEnum.unique (asym : ∀ a b, R a b → R b a → False) {l l' : List β}
    (h : IsEnum R S l) (h' : IsEnum R S l') : l = l' := by
  have nd : ∀ {l : List β}, l.Pairwise R → l.Nodup :=
    fun h => List.Pairwise.imp (fun {a b} (hab : R a b) (e : a = b) => asym a b hab (e ▸ hab)) h
  exact ((List.perm_ext_iff_of_nodup (nd h.1) (nd h'.1)).2
    fun b => (h.2 b).trans (h'.2 b).symm).eq_of_pairwise
    (fun a b _ _ hab hba => (asym a b hab hba).elim) h.1 h'.1

theorem IsEnum.map (φ : β' → β) (hinj : ∀ a b, φ a = φ b → a = b) (hS : ∀ b, S' b ↔ S (φ b))
    (hsurj : ∀ b, S b → ∃ b', b = φ b') (hR : ∀ a b, R (φ a) (φ b) ↔ R' a b) (l : List β') :
    IsEnum R' S' l ↔ IsEnum R S (l.map φ) := by
  unfold IsEnum
  rw [List.pairwise_map]
  simp only [hR, List.mem_map]
  refine and_congr_right fun _ => ⟨fun h b => ⟨?_, fun hb => ?_⟩, fun h b => ?_⟩
  · rintro ⟨b', hb', rfl⟩
    exact (hS b').1 ((h b').1 hb')
  · obtain ⟨b', rfl⟩ := hsurj b hb
    exact ⟨b', (h b').2 ((hS b').2 hb), rfl⟩
  · rw [hS, ← h]
    exact ⟨fun hb => ⟨b, hb, rfl⟩, fun ⟨b', hb', e⟩ => hinj _ _ e ▸ hb'⟩

theorem IsEnum.congr {S₂ : β → Prop} (h : ∀ b, S b ↔ S₂ b) (l : List β) :
    IsEnum R S l ↔ IsEnum R S₂ l := by
  rw [show S = S₂ from funext fun b => propext (h b)]

theorem IsEnum.head {R₂ : β → β → Prop} (hR : ∀ a b, R a b → R₂ a b) (hrefl : ∀ a, R₂ a a)
    {l : List β} (h : IsEnum R S l) : IsBest R₂ S l.head? := by
  cases l with
  | nil => exact fun b hb => List.not_mem_nil ((h.2 b).2 hb)
  | cons a l =>
    refine ⟨(h.2 a).1 List.mem_cons_self, fun b hb => ?_⟩
    rcases List.mem_cons.1 ((h.2 b).2 hb) with rfl | hmem
    · exact hrefl _
    · exact hR _ _ ((List.pairwise_cons.1 h.1).1 b hmem)

end

/-! ## the specification's two notions -/
variable {α : Type}

theorem isFind_iff_best {k : MatchKind} {P : List (List α)} {hay : List α} {s e : Nat}
    {anch : Bool} {r : Option Mat} :
    IsFind k P hay s e anch r ↔ IsBest (better k) (IsOccA P hay s e anch) r := by
  cases r <;> exact Iff.rfl

/-! ## the specification's orders on occurrences -/
namespace EngP

theorem occ_stop_eq {P : List (List α)} {hay : List α} {s e : Nat} {m m' : Mat}
    (h : IsOcc P hay s e m) (h' : IsOcc P hay s e m') (hp : m.pid = m'.pid)
    (hs : m.start = m'.start) : m.stop = m'.stop := by
  obtain ⟨p, h1, _, h3, _, _⟩ := h
  obtain ⟨p', h1', _, h3', _, _⟩ := h'
  rw [hp, h1'] at h1
  cases h1
  omega

theorem Mat.ext' {a b : Mat} (h1 : a.pid = b.pid) (h2 : a.start = b.start) (h3 : a.stop = b.stop) :
    a = b := by
  cases a; cases b; simp_all

theorem better_antisymm (k : MatchKind) {P : List (List α)} {hay : List α} {s e : Nat}
    {m m' : Mat} (h : IsOcc P hay s e m) (h' : IsOcc P hay s e m')
    (hb : better k m m') (hb' : better k m' m) : m = m' := by
  have : m.pid = m'.pid ∧ m.start = m'.start := by
    cases k <;> simp only [better, betterStd, betterLF, betterLL] at hb hb' <;> omega
  exact Mat.ext' this.1 this.2 (occ_stop_eq h h' this.1 this.2)

theorem ovlBefore_asymm (a b : Mat) (h : ovlBefore a b) (h' : ovlBefore b a) : False := by
  simp only [ovlBefore] at h h'; omega

theorem betterStd_of_ovlBefore (a b : Mat) (h : ovlBefore a b) : betterStd a b := by
  rcases h with h1 | ⟨h1, h2 | ⟨h2, h3⟩⟩
  · exact Or.inl h1
  · exact Or.inr ⟨h1, Or.inl h2⟩
  · exact Or.inr ⟨h1, Or.inr ⟨h2, Nat.le_of_lt h3⟩⟩

theorem betterStd_refl (a : Mat) : betterStd a a := Or.inr ⟨rfl, Or.inr ⟨rfl, Nat.le_refl _⟩⟩

end EngP

end AcVerif
