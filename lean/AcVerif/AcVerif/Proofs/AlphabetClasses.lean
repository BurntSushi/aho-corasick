import AcVerif.Alphabet
import AcVerif.DfaModel
import AcVerif.DfaIds
import AcVerif.Proofs.ListArray
/-!
# The byte classes: `ByteSet` bit arithmetic, `set_range`, the `byte_classes` loop

Namespace `AlphaP` (this file and the other `Alphabet*` files): `ByteSet` / `ByteClasses` of
`AcVerif/Alphabet.lean`, as the compiler fills them, give the byte classes that
`AcVerif/DfaModel.lean` describes through `trieBytes` and `marksOf`.

Here: `contains_add` and `contains_empty`, from the `byte / 128`, `byte % 128`, `1 << bit`, `|=`, `&`
arithmetic on the two 128-bit words; `contains_feed`: after `set_range(b, b)` for the bytes of a list
the set holds its `marksOf`; `classOfMarks marks b` is the count `cnt` of marks below `b`, `loop_spec`
is the invariant of the transcribed `byte_classes()` loop and `byteClasses_spec` its result.
-/
namespace AcVerif.AlphaP
open AcVerif AcVerif.Alphabet

/-- the index into `[u128; 2]` is in bounds -/
theorem bucket_lt_two (b : UInt8) : (b / 128).toNat < 2 := by
  rw [UInt8.toNat_div]
  have := b.toNat_lt
  show b.toNat / 128 < 2
  omega

/-- the shift `1 << bit` stays inside the `u128` -/
theorem bit_lt (b : UInt8) : (b % 128).toNat < 128 := by
  rw [UInt8.toNat_mod]
  show b.toNat % 128 < 128
  omega

theorem byte_eq_iff (c b : UInt8) :
    c = b ↔ (c / 128).toNat = (b / 128).toNat ∧ (c % 128).toNat = (b % 128).toNat := by
  constructor
  · rintro rfl; exact ⟨rfl, rfl⟩
  · rintro ⟨h1, h2⟩
    rw [UInt8.toNat_div, UInt8.toNat_div] at h1
    rw [UInt8.toNat_mod, UInt8.toNat_mod] at h2
    apply UInt8.toNat_inj.1
    have e : (128 : UInt8).toNat = 128 := rfl
    rw [e] at h1 h2
    omega

theorem one_shiftLeft (i : Nat) : (1 : BitVec 128) <<< i = BitVec.twoPow 128 i :=
  (BitVec.twoPow_eq 128 i).symm

theorem mask_pos_iff (w : BitVec 128) (i : Nat) :
    (w &&& ((1 : BitVec 128) <<< i) > 0) ↔ w.getLsbD i = true := by
  rw [one_shiftLeft, BitVec.and_twoPow]
  by_cases h : w.getLsbD i = true
  · have hi : i < 128 := BitVec.lt_of_getLsbD h
    simp [h, GT.gt, BitVec.lt_def, BitVec.toNat_twoPow_of_lt hi, Nat.two_pow_pos]
  · simp [h, GT.gt]

def bitAt (s : ByteSet) (c : UInt8) : Bool :=
  (s.bits.word (c / 128).toNat).getLsbD (c % 128).toNat

theorem contains_eq_bitAt (s : ByteSet) (c : UInt8) : s.contains c = bitAt s c := by
  unfold ByteSet.contains bitAt
  rw [Bool.eq_iff_iff, decide_eq_true_iff]
  exact mask_pos_iff _ _

theorem word_setWord (s : BitSet) (i j : Nat) (w : BitVec 128) (hi : i < 2) (hj : j < 2) :
    (s.setWord i w).word j = if j = i then w else s.word j := by
  rcases (by omega : i = 0 ∨ i = 1) with rfl | rfl <;>
    rcases (by omega : j = 0 ∨ j = 1) with rfl | rfl <;> simp [BitSet.setWord, BitSet.word]

theorem bitAt_add (s : ByteSet) (b c : UInt8) :
    bitAt (s.add b) c = (decide (c = b) || bitAt s c) := by
  unfold ByteSet.add bitAt
  simp only
  rw [word_setWord _ _ _ _ (bucket_lt_two b) (bucket_lt_two c), one_shiftLeft]
  by_cases hb : (c / 128).toNat = (b / 128).toNat
  · rw [if_pos hb, BitVec.getLsbD_or, BitVec.getLsbD_twoPow, hb, decide_eq_true (bit_lt b),
      Bool.true_and, Bool.or_comm]
    congr 1
    exact decide_eq_decide.2 ⟨fun h => (byte_eq_iff c b).2 ⟨hb, h.symm⟩,
      fun h => ((byte_eq_iff c b).1 h).2.symm⟩
  · rw [if_neg hb, decide_eq_false fun e => hb ((byte_eq_iff c b).1 e).1, Bool.false_or]

theorem contains_add' (s : ByteSet) (b c : UInt8) :
    (s.add b).contains c = (decide (c = b) || s.contains c) := by
  rw [contains_eq_bitAt, contains_eq_bitAt, bitAt_add]

theorem contains_add (s : ByteSet) (b c : UInt8) :
    (s.add b).contains c = true ↔ c = b ∨ s.contains c = true := by
  rw [contains_add']; simp

theorem contains_empty (c : UInt8) : ByteSet.empty.contains c = false := by
  rw [contains_eq_bitAt]
  unfold bitAt ByteSet.empty BitSet.word
  by_cases h : (c / 128).toNat = 0 <;> simp [h]

theorem add_comm_contains (s : ByteSet) (a b c : UInt8) :
    ((s.add a).add b).contains c = ((s.add b).add a).contains c := by
  simp only [contains_add']
  cases decide (c = a) <;> cases decide (c = b) <;> rfl

/-! ## `set_range` -/

/-- `m` is one of the bits that `set_range(c, c)` sets -/
def Mark (c m : UInt8) : Prop := m = c ∨ (0 < c ∧ m = c - 1)

theorem contains_setRange_gen (s : ByteClassSet) (st en m : UInt8) :
    (s.setRange st en).set.contains m = true ↔
      s.set.contains m = true ∨ m = en ∨ (0 < st ∧ m = st - 1) := by
  by_cases h : 0 < st <;> simp [ByteClassSet.setRange, contains_add, h, or_assoc, or_comm]

theorem contains_setRange (s : ByteClassSet) (b m : UInt8) :
    (s.setRange b b).set.contains m = true ↔ s.set.contains m = true ∨ Mark b m :=
  contains_setRange_gen s b b m

theorem mem_marks_one (c m : UInt8) : m ∈ (if c > 0 then [c - 1, c] else [c]) ↔ Mark c m := by
  by_cases h : 0 < c <;> simp [Mark, h, or_comm]

theorem mem_marksOf (bytes : List UInt8) (m : UInt8) :
    m ∈ marksOf bytes ↔ ∃ c, c ∈ bytes ∧ Mark c m := by
  simp only [marksOf, List.mem_flatMap, mem_marks_one]

theorem contains_feed (bytes : List UInt8) : ∀ (s : ByteClassSet) (m : UInt8),
    (s.feed bytes).set.contains m = true ↔ s.set.contains m = true ∨ m ∈ marksOf bytes := by
  induction bytes with
  | nil => intro s m; simp [ByteClassSet.feed, marksOf]
  | cons b rest ih =>
    intro s m
    have e : s.feed (b :: rest) = (s.setRange b b).feed rest := rfl
    have e' : marksOf (b :: rest) = (if b > 0 then [b - 1, b] else [b]) ++ marksOf rest := rfl
    rw [e, ih, contains_setRange, e', List.mem_append, mem_marks_one, or_assoc]

/-! ## counting marks -/

def cnt (p : Nat → Bool) (n : Nat) : Nat := ((List.range n).filter p).length

theorem cnt_zero (p : Nat → Bool) : cnt p 0 = 0 := rfl

theorem cnt_succ (p : Nat → Bool) (n : Nat) : cnt p (n + 1) = cnt p n + if p n = true then 1 else 0 := by
  unfold cnt
  rw [List.range_succ, List.filter_append, List.length_append]
  by_cases h : p n = true
  · simp [h]
  · simp [h]

theorem cnt_le (p : Nat → Bool) (n : Nat) : cnt p n ≤ n := by
  unfold cnt
  have := List.length_filter_le p (List.range n)
  rw [List.length_range] at this
  exact this

theorem cnt_mono (p : Nat → Bool) {n n' : Nat} (h : n ≤ n') : cnt p n ≤ cnt p n' := by
  induction n' with
  | zero => rw [Nat.le_zero.1 h]; exact Nat.le_refl _
  | succ n' ih =>
    rcases Nat.le_succ_iff.1 h with h | h
    · rw [cnt_succ]; exact Nat.le_trans (ih h) (Nat.le_add_right _ _)
    · rw [h]; exact Nat.le_refl _

theorem classOfMarks_eq_cnt (marks : List UInt8) (b : UInt8) :
    classOfMarks marks b = cnt (fun m => marks.contains m.toUInt8) b.toNat := rfl

theorem classOfMarks_le (marks : List UInt8) (b : UInt8) : classOfMarks marks b ≤ b.toNat :=
  cnt_le _ _

/-! ## the loop -/

theorem toNat_succ (a : UInt8) (h : a.toNat + 1 < 256) : (a + 1).toNat = a.toNat + 1 := by
  rw [UInt8.toNat_add]
  have e : (1 : UInt8).toNat = 1 := rfl
  rw [e]
  exact Nat.mod_eq_of_lt h

theorem checkedAdd_one (a : UInt8) (h : a.toNat + 1 < 256) : checkedAdd a 1 = some (a + 1) := by
  unfold checkedAdd
  have e : (1 : UInt8).toNat = 1 := rfl
  rw [e, if_pos h]

theorem getD_set (c : ByteClasses) (b cls : UInt8) (hs : c.arr.size = 256) (j : Nat) :
    (c.set b cls).arr.getD j 0 = if j = b.toNat then cls else c.arr.getD j 0 := by
  unfold ByteClasses.set
  rw [Array.getD_set!]
  by_cases h : j = b.toNat
  · subst h; rw [if_pos ⟨rfl, by rw [hs]; exact b.toNat_lt⟩, if_pos rfl]
  · rw [if_neg (fun e => h e.1.symm), if_neg h]

theorem size_set (c : ByteClasses) (b cls : UInt8) : (c.set b cls).arr.size = c.arr.size := by
  unfold ByteClasses.set
  simp only [Array.set!_eq_setIfInBounds, Array.size_setIfInBounds]

theorem byteClassesLoop_last (s : ByteSet) (fuel : Nat) (classes : ByteClasses) (cls : UInt8) :
    byteClassesLoop s (fuel + 1) classes cls 255 = some (classes.set 255 cls) := by
  rw [byteClassesLoop]; rfl

/-- a round before the last: neither `unwrap` fires while byte and class stay below 255 -/
theorem byteClassesLoop_step (s : ByteSet) (fuel : Nat) (classes : ByteClasses) {cls b : UInt8}
    (hb : b.toNat + 1 < 256) (hc : cls.toNat + 1 < 256) :
    byteClassesLoop s (fuel + 1) classes cls b =
      byteClassesLoop s fuel (classes.set b cls) (if s.contains b then cls + 1 else cls) (b + 1) := by
  have hne : (b == 255) = false := by
    rw [beq_eq_false_iff_ne]; rintro rfl; exact absurd hb (by decide)
  rw [byteClassesLoop]
  simp only [hne, checkedAdd_one b hb, Bool.false_eq_true, if_false]
  by_cases h : s.contains b = true <;>
    simp only [h, checkedAdd_one cls hc, if_true, Bool.false_eq_true, if_false]

theorem loop_spec (s : ByteSet) (p : Nat → Bool)
    (hp : ∀ b : UInt8, s.contains b = p b.toNat) :
    ∀ (fuel : Nat) (classes : ByteClasses) (cls b : UInt8), b.toNat + fuel = 256 →
      cls.toNat = cnt p b.toNat → classes.arr.size = 256 →
      (∀ j, j < b.toNat → (classes.arr.getD j 0).toNat = cnt p j) →
      ∃ r, byteClassesLoop s fuel classes cls b = some r ∧ r.arr.size = 256 ∧
        ∀ j, j < 256 → (r.arr.getD j 0).toNat = cnt p j := by
  intro fuel
  induction fuel with
  | zero => intro classes cls b h; have := b.toNat_lt; omega
  | succ fuel ih =>
    intro classes cls b hfuel hcls hsz hinv
    have hsz' : (classes.set b cls).arr.size = 256 := by rw [size_set]; exact hsz
    have hinv' : ∀ j, j < b.toNat + 1 → ((classes.set b cls).arr.getD j 0).toNat = cnt p j := by
      intro j hj
      rw [getD_set _ _ _ hsz]
      by_cases e : j = b.toNat
      · rw [if_pos e, hcls, e]
      · rw [if_neg e]; exact hinv j (by omega)
    by_cases h255 : b = 255
    · subst h255
      rw [byteClassesLoop_last]
      exact ⟨_, rfl, hsz', hinv'⟩
    · have hb : b.toNat + 1 < 256 := by
        have h1 : b.toNat ≠ 255 := fun e => h255 (UInt8.toNat_inj.1 e)
        have h2 := b.toNat_lt
        omega
      have hc : cls.toNat + 1 < 256 := by have := cnt_le p b.toNat; omega
      have hb' := toNat_succ b hb
      rw [byteClassesLoop_step s fuel classes hb hc]
      refine ih _ _ (b + 1) (by omega) ?_ hsz' (by rw [hb']; exact hinv')
      rw [hb', hp b, cnt_succ]
      split
      · rw [toNat_succ cls hc, hcls]
      · rw [hcls, Nat.add_zero]

theorem size_empty : ByteClasses.empty.arr.size = 256 := by
  unfold ByteClasses.empty; simp

/-- `byte_classes()` neither panics nor runs out of fuel, and class `b` is the number of marks
below `b` -/
theorem byteClasses_spec (s : ByteClassSet) (marks : List UInt8)
    (h : ∀ m, s.set.contains m = true ↔ m ∈ marks) :
    ∃ bc, s.byteClasses = some bc ∧ bc.arr.size = 256 ∧
      ∀ b : UInt8, (bc.get b).toNat = classOfMarks marks b := by
  have hp : ∀ b : UInt8, s.set.contains b = (fun m : Nat => marks.contains m.toUInt8) b.toNat := by
    intro b
    have e : b.toNat.toUInt8 = b := by simp
    simp only [e]
    rw [Bool.eq_iff_iff, h b, List.contains_iff_mem]
  obtain ⟨r, hr, hsz, hall⟩ := loop_spec s.set (fun m : Nat => marks.contains m.toUInt8) hp 256
    ByteClasses.empty 0 0 rfl rfl size_empty (fun j hj => absurd hj (Nat.not_lt_zero j))
  exact ⟨r, hr, hsz, fun b => by
    rw [classOfMarks_eq_cnt]; exact hall b.toNat b.toNat_lt⟩

theorem stride2Of_spec {a : Nat} (h : a ≤ 256) :
    a ≤ 2 ^ stride2Of a ∧ (stride2Of a = 0 ∨ 2 ^ (stride2Of a - 1) < a) := by
  unfold stride2Of
  cases hf : (List.range 9).find? fun k => decide (a ≤ 2 ^ k) with
  | none => exact absurd h (by simpa using List.find?_range_eq_none.1 hf 8 (by decide))
  | some k =>
    obtain ⟨h1, _, h3⟩ := List.find?_range_eq_some.1 hf
    refine ⟨by simpa using h1, ?_⟩
    cases k with
    | zero => exact Or.inl rfl
    | succ k => exact Or.inr (by simpa using h3 k (Nat.lt_succ_self k))

/-! ## `ByteClasses::singletons`, `alphabet_len`, `is_singleton` -/

theorem singletons_prefix : ∀ n, n ≤ 256 →
    ((List.range n).foldl (fun (classes : ByteClasses) b => classes.set b.toUInt8 b.toUInt8)
        ByteClasses.empty).arr.size = 256 ∧
    ∀ j, j < n →
      ((List.range n).foldl (fun (classes : ByteClasses) b => classes.set b.toUInt8 b.toUInt8)
        ByteClasses.empty).arr.getD j 0 = j.toUInt8 := by
  intro n
  induction n with
  | zero => intro _; exact ⟨size_empty, fun j hj => by omega⟩
  | succ n ih =>
    intro hn
    obtain ⟨h1, h2⟩ := ih (by omega)
    rw [List.range_succ, List.foldl_append]
    simp only [List.foldl_cons, List.foldl_nil]
    refine ⟨by rw [size_set]; exact h1, ?_⟩
    intro j hj
    rw [getD_set _ _ _ h1]
    have hn' : n.toUInt8.toNat = n := by
      simp only [Nat.toUInt8, UInt8.toNat_ofNat']
      exact Nat.mod_eq_of_lt (by omega)
    rw [hn']
    by_cases e : j = n
    · rw [if_pos e, e]
    · rw [if_neg e]; exact h2 j (by omega)

theorem alphabetLen_of_get {c : ByteClasses} {x : UInt8} (h : c.get 255 = x) :
    c.alphabetLen = x.toNat + 1 := by
  unfold ByteClasses.alphabetLen; rw [h]

theorem isSingleton_iff (c : ByteClasses) : c.isSingleton = true ↔ c.alphabetLen = 256 := by
  unfold ByteClasses.isSingleton; exact beq_iff_eq

end AcVerif.AlphaP
