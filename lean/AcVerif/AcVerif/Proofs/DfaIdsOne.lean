import AcVerif.Proofs.DfaIdsSim
/-!
# `finish_build_one_start` with premultiplied ids: the id map `pos s << stride2` satisfies `Sim`

`oneD N bc anch hasPre` is `idsOne` at the class map `clsOf N bc`; `oneRows` / `oneMs` name the rows
(the `dfaRow` of the state at each shuffled position, targets mapped to ids) and the match lists it
tabulates.  `gOne N bc s = posOf N s <<< s2Of N bc` is the id of the (pre-shuffle) NFA state `s`,
and the row index of `s` is its position: `one_ixSim` (by `row_spec`), `rangeId_gOne` (ids are
ordered like positions), and from the two `one_sim` by `IxSim.toSim`.
-/
namespace AcVerif.L1dIdsP
open AcVerif AcVerif.CNfa AcVerif.L1cP AcVerif.L1dP AcVerif.L1eP

def oneD (N : CNfa) (bc anch hasPre : Bool) : DfaI := idsOne N (clsOf N bc) (ncOf N bc) anch hasPre

def gOne (N : CNfa) (bc : Bool) (s : Nat) : Nat := posOf N s <<< s2Of N bc

def oneRows (N : CNfa) (bc anch : Bool) : Array (Array Nat) :=
  (Array.range N.size).map fun i =>
    if i == FAIL then Array.replicate (ncOf N bc) 0
    else (dfaRow N (clsOf N bc) (ncOf N bc) anch ((cOrder N).getD i 0)).map
      fun t => (cPos N).getD t 0 <<< s2Of N bc

def oneMs (N : CNfa) : Array (List Nat) :=
  (Array.range N.size).map fun i => (N.getD ((cOrder N).getD i 0) {}).matches_

theorem gOne_eq (N : CNfa) (bc : Bool) (s : Nat) : gOne N bc s = posOf N s * 2 ^ s2Of N bc :=
  Nat.shiftLeft_eq _ _

theorem rangeId_gOne {N : CNfa} (hS : ShufOK N) (bc : Bool) {s : Nat} (hs : s < N.size)
    (h1 : s ≠ 1) : RangeId N (· <<< s2Of N bc) s (gOne N bc s) :=
  ⟨hs, h1, fun p _ => by rw [gOne_eq, Nat.shiftLeft_eq]; exact mul_pow_le_iff _ _ _,
    by rw [gOne_eq, mul_pow_eq_zero_iff]; exact posOf_eq_zero_iff hS hs⟩

section
variable {f : UInt8 → UInt8} {k : MatchKind} {Q : PatSet UInt8} {L : List (List UInt8)} {N : CNfa}

theorem one_ixSim (h : NfaSpec f k Q L N) (bc anch : Bool) :
    IxSim N L anch (clsOf N bc) (2 ^ s2Of N bc) (oneRows N bc anch) (oneMs N)
      (if anch then 0 else cNa N - 2) (if anch then cNa N - 1 else 0) (posOf N) (gOne N bc) := by
  have hS := shufOK N h.four_le_size
  have h4 := hS.na_ge
  have hC := classOK_clsOf N bc
  have eo : ∀ s, s < N.size → (cOrder N).getD (posOf N s) 0 = s := hS.order_pos
  have hp : ∀ s, s < N.size → posOf N s < N.size := hS.pos_lt
  refine ⟨fun s _ => gOne_eq N bc s, ?_, ?_, fun s hv => posOf_eq_zero_iff hS (h.LvA_lt_size hv),
    ?_, ?_⟩
  · intro s hv b
    have hs := h.LvA_lt_size hv
    have hp1 : (posOf N s == FAIL) = false :=
      beq_eq_false_iff_ne.2 (posOf_ne_one hS hs (h.LvA_ne_fail hv))
    unfold oneRows
    rw [Array.getD_map_range _ _ _ _ (hp s hs), hp1, if_neg Bool.false_ne_true, eo s hs,
      Array.getD_map_of_lt _ _ 0 0 (by rw [dfaRow_size]; exact hC.lt b), h.row_spec hC hv b]
    rfl
  · intro s hv
    have hs := h.LvA_lt_size hv
    unfold oneMs
    rw [Array.getD_map_range _ _ _ _ (hp s hs), eo s hs]
  · cases anch
    · exact hS.posSU.symm
    · exact hS.posSA.symm
  · -- the index of the other mode's start state is that of `DEAD`
    intro s hv h0
    have hs := h.LvA_lt_size hv
    have hp0 : posOf N s ≠ 0 := fun e => h0 ((posOf_eq_zero_iff hS hs).1 e)
    obtain ⟨hu, ha⟩ := posOf_start_iff hS hs (h.LvA_ne_fail hv)
    cases anch
    · show (posOf N s = cNa N - 2 ∨ posOf N s = 0) ↔ s = 2
      rw [← hu]; omega
    · show (posOf N s = 0 ∨ posOf N s = cNa N - 1) ↔ s = 3
      rw [← ha]; omega

theorem one_sim (h : NfaSpec f k Q L N) (bc anch hasPre : Bool) :
    Sim N L hasPre (oneD N bc anch hasPre) anch (gOne N bc) := by
  have hS := shufOK N h.four_le_size
  have hmm := h.isMatch_su_sa
  refine (one_ixSim h bc anch).toSim (D := oneD N bc anch hasPre) rfl hS hmm
    (fun s hv => rangeId_gOne hS bc (h.LvA_lt_size hv) (h.LvA_ne_fail hv))
    (fun s hv => hS.pos_lt s (h.LvA_lt_size hv)) (fun s hv h0 hm => ?_) (cls_lt_stride N bc) rfl rfl
    rfl rfl ?_ ?_
  · -- a match state sits at a position in `2 ..= max_match_id`
    have hs := h.LvA_lt_size hv
    have := (pos_le_maxMatch_iff hS hmm hs (h.LvA_ne_fail hv)).2 ⟨h0, hm⟩
    have := posOf_ne_one hS hs (h.LvA_ne_fail hv)
    show 2 ≤ posOf N s ∧ posOf N s - 2 < nfaMaxMatch N (cNa N) - 1
    omega
  · cases anch
    · exact Nat.shiftLeft_eq _ _
    · exact (Nat.zero_mul _).symm
  · cases anch
    · exact (Nat.zero_mul _).symm
    · exact Nat.shiftLeft_eq _ _

end

end AcVerif.L1dIdsP
