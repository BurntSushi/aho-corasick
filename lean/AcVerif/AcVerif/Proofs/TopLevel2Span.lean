import AcVerif.TopLevel2
import AcVerif.Proofs.IterFacts
import AcVerif.Proofs.TopLevelEval
/-!
# Capstone proofs: a span is the sub-slice (C10)

`tryFindS_frame`: without a prefilter the engine reads the haystack only inside the span, in every
mode.  `specHay_slice`, `specHay_same`: the specification's haystack of a sub-slice.  With these,
`EngP.find_slice_at` / `find_frame` and their lifting to `iterSpec` (`MiscP.iter_slice`,
`iter_frame`), C10 for the public methods of a searcher returned by the builder is the span fields
of `TopP.Good.spec2` (`Theorems/TopLevel2.lean`).
-/
namespace AcVerif.TopP
open AcVerif
variable {α : Type}

/-! ## the engine without prefilter only reads the span (every mode) -/

theorem tryFindS_frame {σ : Type} (A : Aut σ α) (i i' : Input α)
    (hs' : i'.s = i.s) (he' : i'.e = i.e) (ha : i'.anch = i.anch)
    (hea : i'.earliest = i.earliest)
    (hsame : (i.hay.take i.e).drop i.s = (i'.hay.take i.e).drop i.s) :
    tryFindS A i = tryFindS A i' := by
  unfold tryFindS findImpS Input.isDone
  rw [hs', he', ha, hea, ← hsame]

theorem topFind_frame_nopre (s : Searcher) (hpre : s.pre = none) (i i' : Input UInt8)
    (hs' : i'.s = i.s) (he' : i'.e = i.e) (ha : i'.anch = i.anch)
    (hea : i'.earliest = i.earliest)
    (hsame : (i.hay.take i.e).drop i.s = (i'.hay.take i.e).drop i.s) :
    topFind s i = topFind s i' := by
  rw [topFind_eq_S s hpre, topFind_eq_S s hpre]
  unfold topFindS
  rw [ha, tryFindS_frame s.aut i i' hs' he' ha hea hsame]

/-! ## the specification's haystack of a sub-slice -/

theorem specHay_slice (f : Bool) (hay : List UInt8) (s e : Nat) :
    specHay f ((hay.take e).drop s) = ((specHay f hay).take e).drop s := by
  cases f
  · rfl
  · simp only [specHay, List.map_drop, List.map_take]

theorem specHay_same (f : Bool) {hay hay' : List UInt8} {s e : Nat}
    (h : (hay.take e).drop s = (hay'.take e).drop s) :
    ((specHay f hay).take e).drop s = ((specHay f hay').take e).drop s := by
  rw [← specHay_slice, ← specHay_slice, h]

theorem specHay_length (f : Bool) (hay : List UInt8) : (specHay f hay).length = hay.length := by
  cases f
  · rfl
  · exact List.length_map _

end AcVerif.TopP
