import AcVerif.Proofs.NfaMemCompileTrie
/-!
# `fill_failure_transitions` on the memory

* `forTrans_eq`: walking a transition list with `next_link` while the body leaves `nfa.sparse`
  alone visits the cells the list had when the loop started (this is what lets `Compiler.lean`
  take a snapshot of the list);
* `chase_sim`, `rel_child`: the failure chase and the body of the inner loop on the memory, given
  the local facts `L1cP.ChaseOK` / `L1cP.ChildOK` (the chase never looks at the failure link of a
  state `< 3`; `copy_matches(fail, next)` is not called with `fail == next`);
* `sim_fillState`, `sim_bfs`: the inductions over the two runs thread the loop invariants of the
  compiler proof, `L1cP.FillInv` / `L1cP.BfsInv`; `sim_fillStart` (the first loop: what it needs is
  known of the start state's list beforehand); `sim_fillFailure`, the phase.
-/
namespace AcVerif.MemC
open AcVerif AcVerif.CNfa AcVerif.L1cP AcVerif.BuildP AcVerif.MemP

/-! ## the list walk -/

theorem forTrans_eq {σ : Type} (nfa : σ → MemNfa) (sid : Nat) (body : σ → MTrans → σ)
    (hbody : ∀ s t, (nfa (body s t)).sparse = (nfa s).sparse) :
    ∀ (l : List Nat) (fuel : Nat) (s : σ) (prev : Option Nat),
      IsChain (tlink (nfa s)) (curLink (nfa s) sid prev) l → l.length ≤ fuel →
      MemNfa.forTrans nfa sid body fuel s prev = (l.map (nfa s).tr).foldl body s := by
  intro l
  induction l with
  | nil =>
    intro fuel s prev hc _
    have hc0 : curLink (nfa s) sid prev = 0 := hc
    cases fuel with
    | zero => rfl
    | succ f => simp only [MemNfa.forTrans, nextLink_eq, hc0, if_true, List.map_nil, List.foldl_nil]
  | cons c rest ih =>
    intro fuel s prev hc hf
    obtain ⟨e, hc0, hrest⟩ := hc
    cases fuel with
    | zero => simp at hf
    | succ f =>
      simp only [MemNfa.forTrans, nextLink_eq, e, if_neg hc0, List.map_cons, List.foldl_cons]
      have hsp := hbody s ((nfa s).tr c)
      have htr : ∀ i, (nfa (body s ((nfa s).tr c))).tr i = (nfa s).tr i := tr_of_sparse hsp
      have htl : tlink (nfa (body s ((nfa s).tr c))) = tlink (nfa s) :=
        funext fun i => by unfold tlink; rw [htr]
      have hcur : curLink (nfa (body s ((nfa s).tr c))) sid (some c) = tlink (nfa s) c := by
        show ((nfa (body s ((nfa s).tr c))).tr c).link = _
        rw [htr]; rfl
      rw [ih f _ (some c) (by rw [hcur, htl]; exact hrest) (by simpa using hf)]
      congr 1
      exact List.map_congr_left fun i _ => htr i

/-- what `iter_trans` yields, from a cell -/
def bn (t : MTrans) : UInt8 × Nat := (t.byte, t.next)

theorem forTrans_state {σ : Type} (nfa : σ → MemNfa) (sid : Nat) (body : σ → MTrans → σ)
    (hbody : ∀ s t, (nfa (body s t)).sparse = (nfa s).sparse) (s : σ) (hok : MemOK (nfa s)) :
    ∃ ts : List MTrans, ts.map bn = (nfa s).iterTrans sid ∧
      MemNfa.forTrans nfa sid body ((nfa s).sparse.size + 1) s none = ts.foldl body s := by
  obtain ⟨tc, mc, hw⟩ := hok
  refine ⟨(tc sid).map (nfa s).tr, ?_, ?_⟩
  · rw [iterTrans_eq hw, List.map_map]; rfl
  · exact forTrans_eq nfa sid body hbody (tc sid) _ s none (hw.tchain sid)
      (Nat.le_succ_of_le (hw.tlen sid))

/-! ## the failure chase -/

theorem chase_sim {m : MemNfa} {n : CNfa} (h : Rel m n) (b : UInt8) :
    ∀ (fuel g : Nat), ChaseOK n b fuel g → m.chaseFail b fuel g = CNfa.chaseFail n b fuel g := by
  intro fuel
  induction fuel with
  | zero => intro g _; rfl
  | succ fuel ih =>
    intro g hok
    rw [MemNfa.chaseFail, h.follow]
    by_cases hf : CNfa.follow n g b = FAIL
    · obtain ⟨hg3, hgs, hrec⟩ := hok hf
      rw [chaseFail_go _ _ _ _ hf]
      have : (CNfa.follow n g b == MemNfa.FAIL) = true := by rw [hf]; rfl
      rw [if_pos this, h.fail hg3 hgs]
      exact ih _ hrec
    · rw [chaseFail_stop _ _ _ _ hf]
      have : ¬ (CNfa.follow n g b == MemNfa.FAIL) = true := by
        intro e
        exact hf (by simpa [MemNfa.FAIL, FAIL] using e)
      rw [if_neg this]

/-! ## one transition of a dequeued state -/

/-- lines 1368-1382 on the memory -/
def memChild (lm sim : Bool) (m : MemNfa) (id : Nat) (t : MTrans) : MemNfa :=
  if lm && (sim || m.isMatch t.next) then m.setFail t.next MemNfa.DEAD
  else
    let f := m.followTransitionSparse (m.chaseFail t.byte m.states.size (m.st id).fail) t.byte
    (m.setFail t.next f).copyMatches f t.next

theorem fillStateBody_eq (lm sim us : Bool) (id : Nat) (m : MemNfa) (q seen : List Nat) (t : MTrans) :
    MemNfa.fillStateBody lm sim us id (m, q, seen) t =
      if (us && seen.contains t.next) = true then (m, q, seen)
      else (memChild lm sim m id t, q ++ [t.next], if us then t.next :: seen else seen) := by
  unfold MemNfa.fillStateBody memChild
  by_cases h1 : (us && seen.contains t.next) = true
  · simp only [h1, if_true]
  · simp only [h1]
    by_cases h2 : (lm && (sim || m.isMatch t.next)) = true
    · simp only [h2, if_true]
    · simp only [h2]
      rfl

theorem setFail_sparse (m : MemNfa) (s f : Nat) : (m.setFail s f).sparse = m.sparse := rfl

theorem memChild_sparse (lm sim : Bool) (m : MemNfa) (id : Nat) (t : MTrans) :
    (memChild lm sim m id t).sparse = m.sparse := by
  unfold memChild
  split
  · rfl
  · simp only [sparse_copyMatches, setFail_sparse]

theorem rel_child {m : MemNfa} {n : CNfa} (h : Rel m n) {lm sim : Bool} {id : Nat} {t : MTrans}
    (g : ChildOK lm sim n id t.byte t.next) :
    Rel (memChild lm sim m id t) (procChild lm sim n id t.byte t.next) := by
  unfold memChild procChild
  rw [h.isMatch]
  by_cases hc : (lm && (sim || CNfa.isMatch n t.next)) = true
  · rw [if_pos hc, if_pos hc]
    exact h.setFail g.nextlt g.next3 _
  · obtain ⟨c1, c2⟩ := g.chase hc
    have hch : m.chaseFail t.byte m.states.size (m.st id).fail =
        CNfa.chaseFail n t.byte n.size (n.getD id {}).fail := by
      rw [h.size, h.fail g.id3 g.idlt]
      exact chase_sim h t.byte _ _ c1
    rw [if_neg hc, if_neg hc, hch, h.follow]
    exact (h.setFail g.nextlt g.next3 _).copyMatches (by rw [Array.size_modify]; exact g.nextlt) c2

/-- the inner loop of the second phase: that the invariant holds again after an iteration, and what
the memory operations need at it (`ChildOK`), both come from `FillInv.cons` -/
theorem sim_fillState {fold : Bool} {k : MatchKind} {Q : PatSet UInt8} {L : List (List UInt8)}
    {n0 : CNfa} (hB : PBg fold Q L n0) (u : List UInt8) (cnt : Nat) :
    ∀ (ts : List MTrans) (m : MemNfa) (n : CNfa) (q seen : List Nat),
      Rel m n → FillInv fold k Q L n0 u cnt (ts.map bn) (n, q, seen) →
      ∃ m' n' q' seen',
        ts.foldl (MemNfa.fillStateBody k.isLeftmost (!(idsOf Q []).isEmpty) fold (nu L u))
          (m, q, seen) = (m', q', seen') ∧
        fillState k.isLeftmost (!(idsOf Q []).isEmpty) fold (nu L u) (ts.map bn) (n, q, seen) =
          (n', q', seen') ∧
        Rel m' n' ∧ FillInv fold k Q L n0 u cnt [] (n', q', seen') := by
  intro ts
  induction ts with
  | nil => intro m n q seen h hI; exact ⟨m, n, q, seen, rfl, rfl, h, hI⟩
  | cons t rest ih =>
    intro m n q seen h hI
    have hstep := FillInv.cons hB (c := t.byte) (next := t.next) hI
    rw [List.foldl_cons, List.map_cons, fillStateBody_eq]
    show ∃ m' n' q' seen', _ ∧ fillState _ _ _ _ ((t.byte, t.next) :: _) _ = _ ∧ _
    rw [fillState_cons]
    by_cases h1 : (fold && seen.contains t.next) = true
    · rw [if_pos h1] at hstep
      rw [if_pos h1, if_pos h1]
      exact ih m n q seen h hstep
    · rw [if_neg h1] at hstep
      rw [if_neg h1, if_neg h1]
      exact ih _ _ _ _ (rel_child h hstep.1) hstep.2

/-! ## one transition of the start state -/

/-- lines 1313-1327 on the memory -/
def memStart (lm sim : Bool) (m : MemNfa) (next : Nat) : MemNfa :=
  let m1 := if lm && (sim || m.isMatch next) then m.setFail next MemNfa.DEAD else m
  if !lm then m1.copyMatches 2 next else m1

theorem memStart_true (sim : Bool) (m : MemNfa) (next : Nat) :
    memStart true sim m next =
      if (sim || m.isMatch next) = true then m.setFail next MemNfa.DEAD else m := rfl

theorem memStart_false (sim : Bool) (m : MemNfa) (next : Nat) :
    memStart false sim m next = m.copyMatches 2 next := by unfold memStart; exact if_pos rfl

theorem fillStartBody_eq (lm sim us : Bool) (m : MemNfa) (q seen : List Nat) (t : MTrans) :
    MemNfa.fillStartBody lm sim us 2 (m, q, seen) t =
      if (t.next == SU || (us && seen.contains t.next)) = true then (m, q, seen)
      else (memStart lm sim m t.next, q ++ [t.next], if us then t.next :: seen else seen) := by
  unfold MemNfa.fillStartBody memStart
  rw [show (t.next == SU) = ((2 : Nat) == t.next) from BEq.comm]

theorem memStart_sparse (lm sim : Bool) (m : MemNfa) (next : Nat) :
    (memStart lm sim m next).sparse = m.sparse := by
  unfold memStart
  simp only
  split
  · rw [sparse_copyMatches]; split <;> rfl
  · split <;> rfl

theorem rel_start {m : MemNfa} {n : CNfa} (h : Rel m n) (lm sim : Bool) {next : Nat}
    (hn : next < n.size) (hn4 : 4 ≤ next) :
    Rel (memStart lm sim m next) (procStart lm sim n next) := by
  cases lm with
  | true =>
    rw [memStart_true, procStart_true, h.isMatch]
    split
    · exact h.setFail hn (Nat.le_of_succ_le hn4) _
    · exact h
  | false =>
    rw [memStart_false, procStart_false]
    exact h.copyMatches hn (Nat.ne_of_lt (Nat.lt_of_succ_lt (Nat.lt_of_succ_le hn4)))

/-- the first loop, against `fillStartU`: what the memory operations need is known of the start
state's list when the loop begins, and the loop does not change that list -/
theorem sim_fillStart (lm sim us : Bool) (sz : Nat) :
    ∀ (ts : List MTrans) (m : MemNfa) (n : CNfa) (q seen : List Nat),
      Rel m n → n.size = sz → (∀ t ∈ ts, t.next = 2 ∨ (4 ≤ t.next ∧ t.next < sz)) →
      ∃ m' n' q' seen',
        ts.foldl (MemNfa.fillStartBody lm sim us 2) (m, q, seen) = (m', q', seen') ∧
        fillStartU us lm sim (ts.map bn) (n, q, seen) = (n', q', seen') ∧ Rel m' n' := by
  intro ts
  induction ts with
  | nil => intro m n q seen h _ _; exact ⟨m, n, q, seen, rfl, rfl, h⟩
  | cons t rest ih =>
    intro m n q seen h hsz hmem
    rw [List.foldl_cons, List.map_cons, fillStartBody_eq]
    show ∃ m' n' q' seen', _ ∧ fillStartU us lm sim ((t.byte, t.next) :: _) _ = _ ∧ _
    rw [fillStartU]
    have hrest := fun t' ht' => hmem t' (List.mem_cons_of_mem _ ht')
    by_cases h1 : (t.next == SU || (us && seen.contains t.next)) = true
    · rw [if_pos h1, if_pos h1]
      exact ih m n q seen h hsz hrest
    · rw [if_neg h1, if_neg h1]
      obtain ⟨hn4, hlt⟩ := (hmem t List.mem_cons_self).resolve_left fun e => h1 (by rw [e]; rfl)
      exact ih _ _ _ _ (rel_start h lm sim (hsz ▸ hlt) hn4) ((size_procStart ..).trans hsz) hrest

/-! ## the queue loop and the phase -/

theorem fillStateBody_sparse (lm sim us : Bool) (id : Nat) (s : MemNfa × List Nat × List Nat)
    (t : MTrans) : (MemNfa.fillStateBody lm sim us id s t).1.sparse = s.1.sparse := by
  obtain ⟨m, q, seen⟩ := s
  rw [fillStateBody_eq]
  split
  · rfl
  · exact memChild_sparse ..

theorem fillStartBody_sparse (lm sim us : Bool) (s : MemNfa × List Nat × List Nat)
    (t : MTrans) : (MemNfa.fillStartBody lm sim us 2 s t).1.sparse = s.1.sparse := by
  obtain ⟨m, q, seen⟩ := s
  rw [fillStartBody_eq]
  split
  · rfl
  · exact memStart_sparse ..

section
variable {fold : Bool} {k : MatchKind} {Q : PatSet UInt8} {L : List (List UInt8)} {n0 : CNfa}
  {d : Nat → Nat}

theorem sim_bfs (hB : PBg fold Q L n0) :
    ∀ (fuel cnt : Nat) (m : MemNfa) (n : CNfa) (q seen : List Nat),
      Rel m n → BfsInv fold k Q L n0 cnt (n, q, seen) →
      Rel (MemNfa.bfs k.isLeftmost (!(idsOf Q []).isEmpty) fold fuel (m, q, seen))
        (bfs k.isLeftmost (!(idsOf Q []).isEmpty) fold fuel (n, q, seen)) := by
  intro fuel
  induction fuel with
  | zero => intro cnt m n q seen h _; exact h
  | succ fuel ih =>
    intro cnt m n q seen h hI
    cases q with
    | nil => exact h
    | cons id q =>
      obtain ⟨u, c, hid, _, hF⟩ := hI.pop hB
      rw [MemNfa.bfs, bfs]
      obtain ⟨ts, hts, hwalk⟩ := forTrans_state (σ := MemNfa × List Nat × List Nat) (·.1) id
        (MemNfa.fillStateBody k.isLeftmost (!(idsOf Q []).isEmpty) fold id)
        (fillStateBody_sparse _ _ _ id) (m, q, seen) h.ok
      simp only at hts hwalk
      rw [hwalk]
      rw [h.iterTrans] at hts
      rw [← hts] at hF
      subst hid
      obtain ⟨m', n', q', seen', e1, e2, r1, r2⟩ := sim_fillState hB u c ts m n q seen h hF
      rw [e1, ← hts, e2]
      exact ih c m' n' q' seen' r1 r2.finish

/-- the loop state after the first loop, in the form the memory runs it (`fillStartU`) -/
theorem bfsInv_fillStartU (hB : PBg fold Q L n0) (hP : FP fold n0 d) :
    BfsInv fold k Q L n0 L.length
      (fillStartU fold k.isLeftmost (!(idsOf Q []).isEmpty) (n0.getD SU {}).trans (n0, [], [])) := by
  obtain ⟨n', Us, pend, seen, e, hF, hQ, hSe, hcnt⟩ := fillStart_inv (k := k) hB
  cases fold with
  | true =>
    rw [fillStartU_true, e]
    exact ⟨Us, pend, { queue := rfl, fi := hF, qi := hQ, seenI := fun _ => hSe, count := hcnt }⟩
  | false =>
    obtain ⟨h1, h2, _⟩ := fillStartU_inert k.isLeftmost (!(idsOf Q []).isEmpty)
      (n0.getD SU {}).trans n0 [] [] (hP.distinct rfl) (fun x hx => (hP.edge 2 x hx).2.2.2 rfl)
      (fun s hs => by cases hs)
    rw [e] at h1 h2
    exact ⟨Us, pend,
      { queue := h2, fi := h1 ▸ hF, qi := hQ, seenI := fun hf => (nomatch hf), count := hcnt }⟩

/-- **`fill_failure_transitions` on the memory refines `fillFailure`**: `hB` is what the compiler
proof knows of the automaton when the phase begins, `hP` its shape -/
theorem sim_fillFailure {m : MemNfa} (hB : PBg fold Q L n0) (hP : FP fold n0 d) (h : Rel m n0)
    (k : MatchKind) :
    Rel (m.fillFailureTransitions k fold 2) (fillFailure k fold n0) := by
  have hsim : isMatch n0 SU = !(idsOf Q []).isEmpty := by rw [L1cP.isMatch_eq, hB.mats_su]
  rw [fillFailure_eq_U k fold hP]
  unfold MemNfa.fillFailureTransitions
  obtain ⟨ts, hts, hwalk⟩ := forTrans_state (σ := MemNfa × List Nat × List Nat) (·.1) 2
    (MemNfa.fillStartBody k.isLeftmost (m.isMatch 2) fold 2)
    (fillStartBody_sparse k.isLeftmost (m.isMatch 2) fold) (m, [], []) h.ok
  simp only at hts hwalk ⊢
  rw [hwalk]
  rw [h.iterTrans] at hts
  have hts' : ts.map bn = (n0.getD SU {}).trans := hts
  obtain ⟨m', n', q', seen', e1, e2, r1⟩ :=
    sim_fillStart k.isLeftmost (m.isMatch 2) fold n0.size ts m n0 [] [] h rfl (fun t ht => by
      obtain ⟨a1, _, _, a4⟩ := hP.edge 2 (bn t) (hts' ▸ List.mem_map.2 ⟨t, ht, rfl⟩)
      exact (a4 rfl).imp_right fun a => ⟨a, a1⟩)
  have hI := bfsInv_fillStartU (k := k) hB hP
  rw [e1]
  rw [h.isMatch, hts', show isMatch n0 2 = isMatch n0 SU from rfl, hsim] at e2
  rw [e2] at hI
  rw [hsim, e2]
  show Rel (MemNfa.bfs _ _ _ m'.states.size (m', q', seen')) (bfs _ _ _ n'.size (n', q', seen'))
  rw [r1.size, h.isMatch, show isMatch n0 2 = isMatch n0 SU from rfl, hsim]
  exact sim_bfs hB n'.size _ m' n' q' seen' r1 hI

end

end AcVerif.MemC
