import AcVerif.Proofs.CompilerTrie
/-!
# The noncontiguous compiler (L1c): `set_anchored_start_state`, `add_unanchored_start_state_loop`

`PBg` is what is known of the automaton when the failure phase begins; `PBg_startPhase`
establishes it from the trie invariant.  `Nodes` is the part of it that the later phases keep and
that `NfaSpec` (`CompilerFinal`) has as well: `L` names the states.
-/
namespace AcVerif.L1cP
open AcVerif AcVerif.CNfa

/-- `L` lists the trie nodes of `Q`, the non-empty prefixes of its patterns; the node `u` is the
state `nu L u` of an automaton with `sz` states -/
structure Nodes (Q : PatSet UInt8) (L : List (List UInt8)) (sz : Nat) : Prop where
  size : sz = L.length + 4
  mem : ∀ v, v ∈ L ↔ v ≠ [] ∧ isPref Q v = true
  depth : ∀ u, u ∈ L → u.length + 3 ≤ nu L u

namespace Nodes
variable {Q : PatSet UInt8} {L : List (List UInt8)} {sz : Nat}

theorem ne_nil (h : Nodes Q L sz) {u : List UInt8} (hu : u ∈ L) : u ≠ [] := ((h.mem u).1 hu).1

theorem nil_not_mem (h : Nodes Q L sz) : [] ∉ L := fun hm => h.ne_nil hm rfl

theorem four_le_size (h : Nodes Q L sz) : 4 ≤ sz := by rw [h.size]; omega

theorem closed (h : Nodes Q L sz) {v : List UInt8} {b : UInt8} (hm : v ++ [b] ∈ L) :
    v = [] ∨ v ∈ L := by
  by_cases h0 : v = []
  · exact Or.inl h0
  · right
    rw [h.mem] at hm ⊢
    exact ⟨h0, LmP.isPref_of_append hm.2⟩

theorem nu_lt_size (h : Nodes Q L sz) {u : List UInt8} (hu : u = [] ∨ u ∈ L) : nu L u < sz := by
  rw [h.size]
  rcases hu with h0 | hm
  · subst h0; simp [SU]
  · exact nu_lt hm (h.ne_nil hm)

theorem len_lt_size (h : Nodes Q L sz) {u : List UInt8} (hu : u = [] ∨ u ∈ L) :
    u.length + 3 < sz := by
  rcases hu with h0 | hm
  · subst h0; rw [h.size]; simp
  · have h1 := h.depth u hm
    have h2 := h.nu_lt_size (Or.inr hm)
    omega

theorem mem_of_isPref (h : Nodes Q L sz) {v : List UInt8} (hv : isPref Q v = true) :
    v = [] ∨ v ∈ L := by
  by_cases h0 : v = []
  · exact Or.inl h0
  · exact Or.inr ((h.mem v).2 ⟨h0, hv⟩)

theorem lsp_mem (h : Nodes Q L sz) (w : List UInt8) : lsp Q w = [] ∨ lsp Q w ∈ L := by
  by_cases h0 : lsp Q w = []
  · exact Or.inl h0
  · exact Or.inr ((h.mem _).2 ⟨h0, LmP.lsp_isPref h0⟩)

theorem isPref_iff_mem (h : Nodes Q L sz) (u : List UInt8) (b : UInt8) :
    isPref Q (u ++ [b]) = true ↔ u ++ [b] ∈ L := by
  rw [h.mem]; simp

end Nodes

/-- what is known of the automaton when the failure phase begins; transitions and the states
`DEAD`, `FAIL`, `SA` do not change afterwards.  The edge to the child `u ++ [foldIf fold b]` is
taken on `b`. -/
structure PBg (fold : Bool) (Q : PatSet UInt8) (L : List (List UInt8)) (n : CNfa) : Prop
    extends Nodes Q L n.size where
  nodup : L.Nodup
  folded : ∀ v, v ∈ L → v.map (foldIf fold) = v
  goto_in : ∀ u b, (u = [] ∨ u ∈ L) → u ++ [foldIf fold b] ∈ L →
    follow n (nu L u) b = nu L (u ++ [foldIf fold b])
  goto_out : ∀ u b, u ∈ L → u ++ [foldIf fold b] ∉ L → follow n (nu L u) b = FAIL
  goto_root : ∀ b, [foldIf fold b] ∉ L → follow n SU b = SU
  goto_dead : ∀ b, follow n DEAD b = DEAD
  goto_sa : ∀ b, follow n SA b = if [foldIf fold b] ∈ L then nu L [foldIf fold b] else FAIL
  sorted : ∀ sid, Sorted (n.getD sid {}).trans
  nofail : ∀ u, u ∈ L → ∀ x ∈ (n.getD (nu L u) {}).trans, x.2 ≠ FAIL
  full : ∀ b, ∃ t, (b, t) ∈ (n.getD SU {}).trans
  mats : ∀ u, (u = [] ∨ u ∈ L) → (n.getD (nu L u) {}).matches_ = idsOf Q u
  mats_dead : (n.getD DEAD {}).matches_ = []
  mats_sa : (n.getD SA {}).matches_ = idsOf Q []
  fail : ∀ u, u ∈ L → (n.getD (nu L u) {}).fail = SU

namespace PBg
variable {fold : Bool} {Q : PatSet UInt8} {L : List (List UInt8)} {n : CNfa}

theorem mats_su (h : PBg fold Q L n) : (n.getD SU {}).matches_ = idsOf Q [] :=
  nu_nil L ▸ h.mats [] (Or.inl rfl)

theorem last_folded (h : PBg fold Q L n) {u : List UInt8} {b : UInt8} (hm : u ++ [b] ∈ L) :
    foldIf fold b = b := by
  have := h.folded _ hm
  rw [List.map_append, List.map_singleton] at this
  simpa using (List.append_inj' this rfl).2

theorem child_of_mem (h : PBg fold Q L n) {u : List UInt8} (hu : u ∈ L) {x : UInt8 × Nat}
    (hx : x ∈ (n.getD (nu L u) {}).trans) :
    u ++ [foldIf fold x.1] ∈ L ∧ x.2 = nu L (u ++ [foldIf fold x.1]) := by
  obtain ⟨b, t⟩ := x
  have h1 : follow n (nu L u) b = t := by rw [follow_eq]; exact lookup_of_mem (h.sorted _) hx
  have h2 : t ≠ FAIL := h.nofail u hu _ hx
  by_cases hin : u ++ [foldIf fold b] ∈ L
  · refine ⟨hin, ?_⟩
    rw [← h1]; exact h.goto_in u b (Or.inr hu) hin
  · rw [h.goto_out u b hu hin] at h1
    exact absurd h1.symm h2

/-- every child is in the transition list (under its own, folded, byte) -/
theorem mem_of_child (h : PBg fold Q L n) {u : List UInt8} (hu : u = [] ∨ u ∈ L) {b : UInt8}
    (hin : u ++ [b] ∈ L) : (b, nu L (u ++ [b])) ∈ (n.getD (nu L u) {}).trans := by
  have hb := h.last_folded hin
  rw [← hb] at hin
  have := mem_of_lookup (h.goto_in u b hu hin) (nu_ne_fail _ _)
  rwa [hb] at this

theorem root_of_mem (h : PBg fold Q L n) {x : UInt8 × Nat} (hx : x ∈ (n.getD SU {}).trans) :
    ([foldIf fold x.1] ∈ L ∧ x.2 = nu L [foldIf fold x.1]) ∨
      ([foldIf fold x.1] ∉ L ∧ x.2 = SU) := by
  obtain ⟨b, t⟩ := x
  have h1 : follow n SU b = t := by rw [follow_eq]; exact lookup_of_mem (h.sorted _) hx
  by_cases hin : [foldIf fold b] ∈ L
  · left
    refine ⟨hin, ?_⟩
    have := h.goto_in [] b (Or.inl rfl) hin
    rw [nu_nil] at this
    rw [← h1]; exact this
  · right; exact ⟨hin, by rw [← h1]; exact h.goto_root b hin⟩

end PBg

/-! ## lookups in mapped lists -/

/-- `lookup` answers `FAIL` for a missing key: `g` keeps `FAIL`, or the key is there -/
theorem lookup_map (g : Nat → Nat) (l : List (UInt8 × Nat)) (c : UInt8)
    (h : g FAIL = FAIL ∨ ∃ t, (c, t) ∈ l) :
    lookup (l.map fun x => (x.1, g x.2)) c = g (lookup l c) := by
  induction l with
  | nil => exact h.elim Eq.symm fun ⟨_, ht⟩ => nomatch ht
  | cons y rest ih =>
    obtain ⟨d, s⟩ := y
    rw [List.map_cons, lookup_cons, lookup_cons]
    by_cases e : d = c
    · rw [if_pos e, if_pos e]
    · rw [if_neg e, if_neg e]
      refine ih (h.imp_right fun ⟨t, ht⟩ => ?_)
      rcases List.mem_cons.1 ht with e' | e'
      · injection e' with e1 e2; exact absurd e1.symm e
      · exact ⟨t, e'⟩

theorem sorted_map (g : Nat → Nat) {l : List (UInt8 × Nat)} (h : Sorted l) :
    Sorted (l.map fun x => (x.1, g x.2)) := by
  unfold Sorted at *
  rw [List.pairwise_map]; exact h

theorem mapTrans_eq (g : Nat → Nat) (l : List (UInt8 × Nat)) :
    (l.map fun (b, t) => (b, g t)) = l.map fun x => (x.1, g x.2) := rfl

/-! ## the two start-state steps -/

/-- the automaton after `set_anchored_start_state` and `add_unanchored_start_state_loop` -/
def startPhase (n : CNfa) : CNfa := addStartLoop (setAnchoredStart n)

theorem getD_startPhase (n : CNfa) (h4 : 4 ≤ n.size) (sid : Nat) :
    (startPhase n).getD sid {} =
      if sid = SU then
        { n.getD SU {} with
          trans := (n.getD SU {}).trans.map fun x => (x.1, if x.2 == FAIL then SU else x.2) }
      else if sid = SA then
        { trans := (n.getD SU {}).trans, fail := DEAD,
          matches_ := (n.getD SA {}).matches_ ++ (n.getD SU {}).matches_ }
      else n.getD sid {} := by
  have hSA : SA < n.size := by simp only [SA]; omega
  have hSU : SU < (setAnchoredStart n).size := by
    unfold setAnchoredStart copyMatches
    rw [Array.size_modify, Array.size_modify]; simp only [SU]; omega
  have h1 : ∀ j, (setAnchoredStart n).getD j {} =
      if j = SA then
        { trans := (n.getD SU {}).trans, fail := DEAD,
          matches_ := (n.getD SA {}).matches_ ++ (n.getD SU {}).matches_ }
      else n.getD j {} := by
    intro j
    unfold setAnchoredStart copyMatches
    rw [Array.getD_modify_of_lt _ (by rw [Array.size_modify]; exact hSA),
      Array.getD_modify_self _ _ _ hSA, Array.getD_modify_ne _ _ _ (show SA ≠ SU by decide)]
    by_cases e : j = SA
    · rw [if_pos e, if_pos e]
    · rw [if_neg e, if_neg e, Array.getD_modify_ne _ _ _ (Ne.symm e)]
  unfold startPhase addStartLoop
  rw [Array.getD_modify_of_lt _ hSU, h1, h1, if_neg (show SU ≠ SA by decide)]

theorem size_startPhase (n : CNfa) : (startPhase n).size = n.size := by
  unfold startPhase addStartLoop setAnchoredStart copyMatches
  rw [Array.size_modify, Array.size_modify, Array.size_modify]

theorem PBg_startPhase {fold : Bool} {n : CNfa} {L : List (List UInt8)} {Q : PatSet UInt8}
    (h : TIg fold n L Q []) : PBg fold Q L (startPhase n) := by
  have h4 : 4 ≤ n.size := by rw [h.size]; omega
  have hget := getD_startPhase n h4
  have hnode : ∀ u, u ∈ L → (startPhase n).getD (nu L u) {} = n.getD (nu L u) {} := by
    intro u hu
    have := nu_ge (L := L) (fun e => h.nil_not_mem (e ▸ hu))
    rw [hget, if_neg (by simp only [SU]; omega), if_neg (by simp only [SA]; omega)]
  have hSU : (startPhase n).getD SU {} = { n.getD SU {} with
      trans := (n.getD SU {}).trans.map fun x => (x.1, if x.2 == FAIL then SU else x.2) } := by
    rw [hget, if_pos rfl]
  have hSA : (startPhase n).getD SA {} =
      { trans := (n.getD SU {}).trans, fail := DEAD,
        matches_ := (n.getD SA {}).matches_ ++ (n.getD SU {}).matches_ } := by
    rw [hget, if_neg (by simp [SA, SU]), if_pos rfl]
  have hDEAD : (startPhase n).getD DEAD {} = { trans := fullTrans DEAD, fail := SU } := by
    rw [hget, if_neg (by simp [DEAD, SU]), if_neg (by simp [DEAD, SA])]; exact h.s0
  have hroot : ∀ b, follow n SU b =
      if [foldIf fold b] ∈ L then nu L [foldIf fold b] else FAIL := by
    intro b
    have hi := h.goto_in [] b (Or.inl rfl)
    have ho := h.goto_out [] b (Or.inl rfl)
    rw [nu_nil] at hi ho
    by_cases hin : [foldIf fold b] ∈ L
    · rw [if_pos hin]; exact hi hin
    · rw [if_neg hin]; exact ho hin
  have hfolSU : ∀ b, follow (startPhase n) SU b =
      if follow n SU b = FAIL then SU else follow n SU b := by
    intro b
    rw [follow_eq, hSU]
    show lookup ((n.getD SU {}).trans.map fun x => (x.1, if x.2 == FAIL then SU else x.2)) b = _
    rw [lookup_map (fun t => if t == FAIL then SU else t) _ b (Or.inr (h.full b)), ← follow_eq]
    by_cases e : follow n SU b = FAIL <;> simp [e]
  have hmSU : (n.getD SU {}).matches_ = idsOf Q [] := nu_nil L ▸ h.mats [] (Or.inl rfl)
  refine
    { size := by rw [size_startPhase]; exact h.size, nodup := h.nodup, mem := ?_,
      folded := h.folded,
      goto_in := ?_, goto_out := ?_, goto_root := ?_, goto_dead := ?_, goto_sa := ?_,
      sorted := ?_, nofail := ?_, full := ?_, mats := ?_, mats_dead := ?_, mats_sa := ?_,
      fail := ?_, depth := h.depth }
  · -- mem
    intro v
    rw [h.mem v, List.prefix_nil]
    exact and_congr_right fun h0 => or_iff_left h0
  · -- goto_in
    rintro u b (rfl | hm) hin
    · rw [List.nil_append] at hin
      rw [nu_nil, hfolSU, hroot, if_pos hin, if_neg (nu_ne_fail _ _)]; rfl
    · rw [follow_eq, hnode u hm, ← follow_eq]; exact h.goto_in u b (Or.inr hm) hin
  · -- goto_out
    intro u b hu hout
    rw [follow_eq, hnode u hu, ← follow_eq]; exact h.goto_out u b (Or.inr hu) hout
  · -- goto_root
    intro b hout
    rw [hfolSU, hroot, if_neg hout, if_pos rfl]
  · -- goto_dead
    intro b
    rw [follow_eq, hDEAD]; exact lookup_fullTrans DEAD b
  · -- goto_sa
    intro b
    rw [follow_eq, hSA]; exact hroot b
  · -- sorted
    intro sid
    rw [hget]
    by_cases e : sid = SU
    · rw [if_pos e]
      exact sorted_map (fun t => if t == FAIL then SU else t) (h.sorted SU)
    · rw [if_neg e]
      by_cases e' : sid = SA
      · rw [if_pos e']; exact h.sorted SU
      · rw [if_neg e']; exact h.sorted sid
  · -- nofail
    intro u hu x hx
    rw [hnode u hu] at hx; exact h.nofail u hu x hx
  · -- full
    intro b
    obtain ⟨t, ht⟩ := h.full b
    rw [hSU]
    exact ⟨if t == FAIL then SU else t, List.mem_map.2 ⟨(b, t), ht, rfl⟩⟩
  · -- mats
    rintro u (rfl | hm)
    · rw [nu_nil, hSU]; exact hmSU
    · rw [hnode u hm]; exact h.mats u (Or.inr hm)
  · -- mats_dead
    rw [hDEAD]
  · -- mats_sa
    rw [hSA]
    show (n.getD 3 {}).matches_ ++ (n.getD SU {}).matches_ = _
    rw [h.s3, hmSU]; rfl
  · -- fail
    intro u hu
    rw [hnode u hu]; exact h.fail _

/-! ## the two settings of `fold`, written out -/

structure PB (Q : PatSet UInt8) (L : List (List UInt8)) (n : CNfa) : Prop where
  size : n.size = L.length + 4
  nodup : L.Nodup
  mem : ∀ v, v ∈ L ↔ v ≠ [] ∧ isPref Q v = true
  goto_in : ∀ u b, (u = [] ∨ u ∈ L) → u ++ [b] ∈ L → follow n (nu L u) b = nu L (u ++ [b])
  goto_out : ∀ u b, u ∈ L → u ++ [b] ∉ L → follow n (nu L u) b = FAIL
  goto_root : ∀ b, [b] ∉ L → follow n SU b = SU
  goto_dead : ∀ b, follow n DEAD b = DEAD
  goto_sa : ∀ b, follow n SA b = if [b] ∈ L then nu L [b] else FAIL
  sorted : ∀ sid, Sorted (n.getD sid {}).trans
  nofail : ∀ u, u ∈ L → ∀ x ∈ (n.getD (nu L u) {}).trans, x.2 ≠ FAIL
  full : ∀ b, ∃ t, (b, t) ∈ (n.getD SU {}).trans
  mats : ∀ u, (u = [] ∨ u ∈ L) → (n.getD (nu L u) {}).matches_ = idsOf Q u
  mats_dead : (n.getD DEAD {}).matches_ = []
  mats_sa : (n.getD SA {}).matches_ = idsOf Q []
  fail : ∀ u, u ∈ L → (n.getD (nu L u) {}).fail = SU
  depth : ∀ u, u ∈ L → u.length + 3 ≤ nu L u

namespace PB
variable {Q : PatSet UInt8} {L : List (List UInt8)} {n : CNfa}

theorem toG (h : PB Q L n) : PBg false Q L n :=
  { h with folded := fun v _ => map_foldIf_false v }

theorem closed (h : PB Q L n) {v : List UInt8} {b : UInt8} (hm : v ++ [b] ∈ L) :
    v = [] ∨ v ∈ L := h.toG.closed hm

theorem mem_of_isPref (h : PB Q L n) {v : List UInt8} (hv : isPref Q v = true) :
    v = [] ∨ v ∈ L := h.toG.mem_of_isPref hv

end PB

end AcVerif.L1cP

namespace AcVerif.L1cFoldP
open AcVerif AcVerif.CNfa AcVerif.L1cP

structure PBf (Q : PatSet UInt8) (L : List (List UInt8)) (n : CNfa) : Prop where
  size : n.size = L.length + 4
  nodup : L.Nodup
  mem : ∀ v, v ∈ L ↔ v ≠ [] ∧ isPref Q v = true
  folded : ∀ v, v ∈ L → fs v = v
  goto_in : ∀ u b, (u = [] ∨ u ∈ L) → u ++ [foldByte b] ∈ L →
    follow n (nu L u) b = nu L (u ++ [foldByte b])
  goto_out : ∀ u b, u ∈ L → u ++ [foldByte b] ∉ L → follow n (nu L u) b = FAIL
  goto_root : ∀ b, [foldByte b] ∉ L → follow n SU b = SU
  goto_dead : ∀ b, follow n DEAD b = DEAD
  goto_sa : ∀ b, follow n SA b = if [foldByte b] ∈ L then nu L [foldByte b] else FAIL
  sorted : ∀ sid, Sorted (n.getD sid {}).trans
  nofail : ∀ u, u ∈ L → ∀ x ∈ (n.getD (nu L u) {}).trans, x.2 ≠ FAIL
  full : ∀ b, ∃ t, (b, t) ∈ (n.getD SU {}).trans
  mats : ∀ u, (u = [] ∨ u ∈ L) → (n.getD (nu L u) {}).matches_ = idsOf Q u
  mats_dead : (n.getD DEAD {}).matches_ = []
  mats_sa : (n.getD SA {}).matches_ = idsOf Q []
  fail : ∀ u, u ∈ L → (n.getD (nu L u) {}).fail = SU
  depth : ∀ u, u ∈ L → u.length + 3 ≤ nu L u

namespace PBf
variable {Q : PatSet UInt8} {L : List (List UInt8)} {n : CNfa}

theorem toG (h : PBf Q L n) : PBg true Q L n := { h with }

theorem closed (h : PBf Q L n) {v : List UInt8} {b : UInt8} (hm : v ++ [b] ∈ L) :
    v = [] ∨ v ∈ L := h.toG.closed hm

end PBf

end AcVerif.L1cFoldP
