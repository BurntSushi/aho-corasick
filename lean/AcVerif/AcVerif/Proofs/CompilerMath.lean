import AcVerif.Proofs.CostBounds
/-!
# Model-side lemmas for the noncontiguous compiler (L1c)

How the quantities the compiler computes node by node read in the model: `outStd_step` and
`outLm_step` (the match list of a node from that of its failure target), `stepLm_root`, and
`patSet_concat` with `keepLF_concat_false_iff` (the leftmost-first skipping rule, one pattern at a
time, from `LmP.kept_prefix`).  The leftmost failure link of a child from that of its parent is
`CostP.lmFail_step` (`Proofs/CostBounds.lean`, beside its search-time reading `stepLm_link`); the
facts on `idsOf`, `keepLF` and `stepLm` alone are in `Proofs/LmBasic.lean`.
-/
namespace AcVerif.L1cP
open AcVerif AcVerif.LmP AcVerif.CostP
set_option linter.unusedSectionVars false
variable {α : Type} [DecidableEq α]

/-! ## `idsOf`, `isPref` -/

theorem idsOf_eq_nil_iff {Q : PatSet α} {v : List α} : idsOf Q v = [] ↔ ∀ q ∈ Q, q.1 ≠ v :=
  LmP.idsOf_eq_nil_iff

theorem isPref_append_single (Q : PatSet α) (p : List α) (i : Nat) (v : List α) :
    isPref (Q ++ [(p, i)]) v = (isPref Q v || v.isPrefixOf p) := by
  simp [isPref, List.any_append]

theorem idsOf_append_single (Q : PatSet α) (p : List α) (i : Nat) (v : List α) :
    idsOf (Q ++ [(p, i)]) v = idsOf Q v ++ (if p = v then [i] else []) := by
  by_cases h : p = v <;> simp [idsOf, h]

/-! ## `outStd` -/

theorem outStd_nil (Q : PatSet α) : outStd Q [] = idsOf Q [] := by
  simp [outStd]

theorem outStd_cons (Q : PatSet α) (c : α) (t : List α) :
    outStd Q (c :: t) = idsOf Q (c :: t) ++ outStd Q t := by
  unfold outStd
  rw [List.length_cons, List.range_succ_eq_map, List.flatMap_cons, List.flatMap_map]
  rfl

theorem outStd_lsp (Q : PatSet α) (w : List α) : outStd Q (lsp Q w) = outStd Q w := by
  induction w with
  | nil => rfl
  | cons c t ih =>
    rw [lsp]
    split
    · rfl
    · rename_i h
      rw [ih, outStd_cons, idsOf_nil_of_not_isPref (by simpa using h), List.nil_append]

theorem outStd_step (Q : PatSet α) (c : α) (t : List α) :
    outStd Q (c :: t) = idsOf Q (c :: t) ++ outStd Q (lsp Q t) := by
  rw [outStd_cons, outStd_lsp]

/-! ## small `blocked` facts -/

theorem blocked_one {Q : PatSet α} {u : List α} :
    blocked Q u 1 = true ↔ ∃ q ∈ Q, q.1 <+: u := by
  rw [blocked_iff]
  constructor
  · rintro ⟨st, hst, q, hq, hp⟩
    obtain rfl : st = 0 := by omega
    exact ⟨q, hq, hp⟩
  · rintro ⟨q, hq, hp⟩
    exact ⟨0, Nat.one_pos, q, hq, hp⟩

/-- the empty pattern, or `u` itself, occurs in `u` at offset 0 -/
theorem blocked_of_pat {Q : PatSet α} {u : List α} {j : Nat}
    (h : idsOf Q [] ≠ [] ∨ idsOf Q u ≠ []) (hj : 0 < j) : blocked Q u j = true := by
  apply blocked_mono hj
  rw [blocked_one]
  rcases h with h | h <;> obtain ⟨q, hq, hv⟩ := idsOf_ne_nil_iff.1 h
  · exact ⟨q, hq, hv ▸ List.nil_prefix⟩
  · exact ⟨q, hq, hv ▸ List.prefix_refl _⟩

theorem blocked_single {Q : PatSet α} {b : α} :
    blocked Q [b] 1 = (!(idsOf Q []).isEmpty || !(idsOf Q [b]).isEmpty) := by
  rw [Bool.eq_iff_iff, blocked_one, Bool.or_eq_true, List.not_isEmpty_eq_true,
    List.not_isEmpty_eq_true, idsOf_ne_nil_iff, idsOf_ne_nil_iff, ← exists_or]
  refine exists_congr fun q => ?_
  rw [← and_or_left]
  refine and_congr_right fun _ => ?_
  cases q.1 with
  | nil => simp
  | cons x r => simp [List.cons_prefix_cons]

/-! ## `stepLm` at the root -/

theorem blocked_nil_one (Q : PatSet α) : blocked Q [] 1 = !(idsOf Q []).isEmpty := by
  rw [Bool.eq_iff_iff, blocked_one, List.not_isEmpty_eq_true, idsOf_ne_nil_iff]
  exact exists_congr fun q => and_congr_right fun _ => List.prefix_nil

theorem stepLm_root (Q : PatSet α) (c : α) :
    stepLm Q [] c =
      if isPref Q [c] then .at [c] else if (idsOf Q []).isEmpty then .at [] else .dead := by
  unfold stepLm
  simp only [List.nil_append]
  split
  · rfl
  · rename_i h
    have hl : lsp Q [c] = [] := by simp [lsp, h]
    simp only [hl, List.length_nil, Nat.zero_add, Nat.sub_zero, blocked_nil_one]
    cases (idsOf Q []).isEmpty <;> simp

/-! ## `outLm` -/

def FirstK (Q : PatSet α) (u : List α) (k : Nat) : Prop :=
  k ≤ u.length ∧ idsOf Q (u.drop k) ≠ [] ∧ ∀ j, j < k → idsOf Q (u.drop j) = []

theorem outLm_cases (Q : PatSet α) (u : List α) :
    (∃ k, FirstK Q u k ∧ outLm Q u = if blocked Q u k then [] else idsOf Q (u.drop k)) ∨
    ((∀ j, j ≤ u.length → idsOf Q (u.drop j) = []) ∧ outLm Q u = []) := by
  rcases LmP.outLm_cases Q u with ⟨h0, hn⟩ | ⟨k, hk, hex, hmin, hout⟩
  · exact Or.inr ⟨fun j hj => idsOf_eq_nil_iff.2 (hn j hj), h0⟩
  · exact Or.inl ⟨k, ⟨hk, idsOf_ne_nil_iff.2 hex, fun j hj => idsOf_eq_nil_iff.2 (hmin j hj)⟩, hout⟩

theorem FirstK.unique {Q : PatSet α} {u : List α} {k k' : Nat} (h : FirstK Q u k)
    (h' : FirstK Q u k') : k = k' := by
  apply Nat.le_antisymm
  · apply Nat.le_of_not_lt
    intro hlt
    exact h'.2.1 (h.2.2 k' hlt)
  · apply Nat.le_of_not_lt
    intro hlt
    exact h.2.1 (h'.2.2 k hlt)

theorem outLm_of_first {Q : PatSet α} {u : List α} {k : Nat} (h : FirstK Q u k) :
    outLm Q u = if blocked Q u k then [] else idsOf Q (u.drop k) := by
  rcases outLm_cases Q u with ⟨k', hk', he⟩ | ⟨hn, _⟩
  · rw [h.unique hk']; exact he
  · exact absurd (hn k h.1) h.2.1

theorem outLm_of_none {Q : PatSet α} {u : List α}
    (h : ∀ j, j ≤ u.length → idsOf Q (u.drop j) = []) : outLm Q u = [] := by
  rcases outLm_cases Q u with ⟨k', hk', _⟩ | ⟨_, he⟩
  · exact absurd (h k' hk'.1) hk'.2.1
  · exact he

theorem outLm_of_ids {Q : PatSet α} {u : List α} (h : idsOf Q u ≠ []) : outLm Q u = idsOf Q u := by
  have hf : FirstK Q u 0 := ⟨Nat.zero_le _, by simpa using h, fun j hj => absurd hj (Nat.not_lt_zero j)⟩
  rw [outLm_of_first hf, blocked_zero]
  simp

theorem outLm_nil_eq (Q : PatSet α) : outLm Q [] = idsOf Q [] := by
  by_cases h : idsOf Q [] = []
  · rw [h]
    apply outLm_of_none
    intro j _
    simpa using h
  · exact outLm_of_ids h

theorem outLm_self {Q : PatSet α} {u : List α} (h : idsOf Q [] ≠ [] ∨ idsOf Q u ≠ []) :
    outLm Q u = idsOf Q u := by
  by_cases hu : idsOf Q u = []
  · rw [hu]
    rcases outLm_cases Q u with ⟨k, hk, he⟩ | ⟨_, he⟩
    · have hk0 : 0 < k := Nat.pos_of_ne_zero fun e => hk.2.1 (by simpa [e] using hu)
      rw [he, blocked_of_pat h hk0]
      rfl
    · exact he
  · exact outLm_of_ids hu

theorem outLm_step {Q : PatSet α} {c : α} {t : List α} (h : idsOf Q (c :: t) = []) :
    outLm Q (c :: t) =
      if blocked Q (c :: t) ((c :: t).length - (lsp Q t).length) then []
      else outLm Q (lsp Q t) := by
  have hs : lsp Q t <:+ c :: t := (lsp_suffix Q t).trans (List.suffix_cons c t)
  have hwl : (lsp Q t).length ≤ t.length := lsp_length_le Q t
  have hlen : (c :: t).length = t.length + 1 := List.length_cons
  -- with `d = (c :: t).length - (lsp Q t).length`: offsets `j < d` carry no pattern (one at
  -- `1 ≤ j` would give a longer prefix than `lsp Q t`)
  have hlow : ∀ j, j < (c :: t).length - (lsp Q t).length → idsOf Q ((c :: t).drop j) = [] := by
    intro j hjd
    cases j with
    | zero => exact h
    | succ j' =>
      apply Classical.byContradiction
      intro hne
      have hp := isPref_of_idsOf_ne_nil hne
      rw [List.drop_succ_cons] at hp
      have := (lsp_max (List.drop_suffix j' t) hp).length_le
      simp only [List.length_drop] at this
      omega
  -- offsets `≥ d` are offsets in `lsp Q t`
  have hB : ∀ j, (c :: t).drop (j + ((c :: t).length - (lsp Q t).length)) = (lsp Q t).drop j :=
    fun j => drop_of_suffix hs j
  have hhigh : ∀ j, ¬ j < (c :: t).length - (lsp Q t).length →
      (c :: t).drop j = (lsp Q t).drop (j - ((c :: t).length - (lsp Q t).length)) := by
    intro j hj
    rw [← hB, Nat.sub_add_cancel (Nat.le_of_not_lt hj)]
  rcases outLm_cases Q (lsp Q t) with ⟨k', hk', he⟩ | ⟨hn, he⟩
  · have hf : FirstK Q (c :: t) (k' + ((c :: t).length - (lsp Q t).length)) := by
      refine ⟨?_, ?_, ?_⟩
      · have := hk'.1; omega
      · rw [hB]; exact hk'.2.1
      · intro j hj
        by_cases hjd : j < (c :: t).length - (lsp Q t).length
        · exact hlow j hjd
        · rw [hhigh j hjd]; exact hk'.2.2 _ (by omega)
    rw [outLm_of_first hf, he, hB, Nat.add_comm k', blocked_add_suffix hs]
    cases blocked Q (c :: t) ((c :: t).length - (lsp Q t).length) <;> rfl
  · have : outLm Q (c :: t) = [] := by
      apply outLm_of_none
      intro j hj
      by_cases hjd : j < (c :: t).length - (lsp Q t).length
      · exact hlow j hjd
      · rw [hhigh j hjd]; exact hn _ (by omega)
    rw [this, he]
    simp

/-! ## `patSet` of a pattern list extended by one pattern -/

theorem keepLF_append {P' : List (List α)} (r : List (List α)) {q : List α × Nat}
    (hq : q.2 ≤ P'.length) : keepLF (P' ++ r) q = keepLF P' q := by
  unfold keepLF
  congr 1
  rw [Bool.eq_iff_iff, List.any_eq_true, List.any_eq_true]
  refine exists_congr fun i => and_congr_right fun hi => ?_
  rw [List.getElem?_append_left (by have := List.mem_range.1 hi; omega)]

theorem enumPats_concat (P' : List (List α)) (p : List α) :
    enumPats (P' ++ [p]) = enumPats P' ++ [(p, P'.length)] := by
  simp [enumPats, List.zipIdx_append]

theorem patSet_concat (k : MatchKind) (P' : List (List α)) (p : List α) :
    patSet k (P' ++ [p]) = patSet k P' ++
      (if k = .lf ∧ keepLF (P' ++ [p]) (p, P'.length) = false then [] else [(p, P'.length)]) := by
  cases k with
  | std => simp [patSet, enumPats_concat]
  | ll => simp [patSet, enumPats_concat]
  | lf =>
    simp only [patSet, enumPats_concat, List.filter_append, true_and]
    congr 1
    · apply List.filter_congr
      intro q hq
      exact keepLF_append _ (Nat.le_of_lt (List.getElem?_eq_some_iff.1 (mem_enumPats.1 hq)).1)
    · cases hk : keepLF (P' ++ [p]) (p, P'.length) <;> simp [hk]

theorem keepLF_concat_false_iff (P' : List (List α)) (p : List α) :
    keepLF (P' ++ [p]) (p, P'.length) = false ↔
      ∃ j, j < p.length ∧ idsOf (patSet .lf P') (p.take j) ≠ [] := by
  rw [keepLF_append [p] (Nat.le_refl _), keepLF_eq_false]
  constructor
  · -- an earlier proper prefix of `p` has a kept prefix of its own
    rintro ⟨i, _, p', hp, hpre, hl⟩
    obtain ⟨i', p'', _, hp'', hpre', hk⟩ := kept_prefix P' i p' hp
    refine ⟨p''.length, Nat.lt_of_le_of_lt hpre'.length_le hl, ?_⟩
    rw [← List.prefix_iff_eq_take.1 (hpre'.trans hpre)]
    exact idsOf_ne_nil_iff.2 ⟨(p'', i'), mem_patSet_lf.2 ⟨hp'', hk⟩, rfl⟩
  · rintro ⟨j, hj, hne⟩
    obtain ⟨q, hq, hv⟩ := idsOf_ne_nil_iff.1 hne
    have hget := mem_patSet hq
    refine ⟨q.2, (List.getElem?_eq_some_iff.1 hget).1, q.1, hget, hv ▸ List.take_prefix _ _, ?_⟩
    show q.1.length < p.length
    rw [hv, List.length_take]; omega

end AcVerif.L1cP
