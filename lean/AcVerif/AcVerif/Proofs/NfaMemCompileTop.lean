import AcVerif.Proofs.NfaMemCompileBfs
import AcVerif.Proofs.CompilerRun
/-!
# `Compiler::compile` on the memory; what a search can see

* `compile_rel`: the phases composed (the failure phase from what the compiler proof knows when it
  begins, `PBg_startPhase`); `Final_compile`: what `next_state` relies on, read off `NfaSpec`;
  `compile_sparseLen`: no phase after `build_trie` changes the number of stored transitions (a fact
  about `Compiler.lean`, from `compile_phases` and `TI`);
* `abs_eq_of_rel`: `Rel` as an equation (`zeroFail012`);
* `nextState_failEq`, `startEquiv_failEq`: `NFA::next_state` never reads the failure link of `DEAD`,
  `FAIL` or the unanchored start (`DEAD` and the unanchored start have all 256 transitions, so they
  are never left through a failure link, and `FAIL` is never entered), so two automata that differ
  only there make the same observations (flags and ordered match lists) after every input.
-/
namespace AcVerif

/-- the failure links of `DEAD`, `FAIL` and the unanchored start set to `0`, the value the crate's
`alloc_state` gives them (`special.start_unanchored_id` is still zero when they are allocated,
noncontiguous.rs:979-984); `CNfa.init` has `SU` there -/
def zeroFail012 (n : CNfa) : CNfa :=
  ((n.modify 0 fun st => { st with fail := 0 }).modify 1 fun st => { st with fail := 0 }).modify 2
    fun st => { st with fail := 0 }

namespace MemC
open AcVerif AcVerif.CNfa AcVerif.L1cP AcVerif.BuildP AcVerif.MemP

/-! ## the phases composed -/

theorem compile?_eq (k : MatchKind) (fold : Bool) (P : List (List UInt8)) :
    MemNfa.compile? k fold P =
      match (MemNfa.init.buildTrie k fold 2 P).setAnchoredStartState 2 3 with
      | none => none
      | some m => some (((m.addUnanchoredStartStateLoop 2).fillFailureTransitions k fold 2)
          |>.closeStartStateLoopForLeftmost 2 k.isLeftmost) := by
  unfold MemNfa.compile?
  rfl

/-- what `NFA::next_state` relies on in the finished automaton -/
structure Final (n : CNfa) : Prop where
  size4 : 4 ≤ n.size
  fullSU : ∀ b, follow n 2 b ≠ FAIL
  fullDead : ∀ b, follow n 0 b ≠ FAIL
  f3 : (n.getD 3 {}).fail = 0
  fl : ∀ s, 4 ≤ s → s < n.size → (n.getD s {}).fail ≠ 1

theorem Final_compile (k : MatchKind) (fold : Bool) (P : List (List UInt8)) :
    Final (CNfa.compile k fold P) := by
  obtain ⟨L, pend, hT, hF, hall⟩ := compile_phases k fold P
  have hS := NfaSpec_of_FI (PBg_startPhase hT) hF hall
  have h4 : 4 ≤ (buildTrie k fold P).size := by rw [hT.size]; omega
  have hSUlt : SU < (fillFailure k fold (startPhase (buildTrie k fold P))).size := by
    rw [hF.size, size_startPhase]; simp only [SU]; omega
  show Final (closeStartLoop k (fillFailure k fold (startPhase (buildTrie k fold P))))
  refine ⟨hS.four_le_size, fun b => ?_, fun b => ?_, ?_, fun s hs4 hs => ?_⟩
  · show follow _ SU b ≠ FAIL
    by_cases hin : [foldIf fold b] ∈ L
    · have := hS.goto_in [] b (Or.inl rfl) hin
      rw [nu_nil] at this
      rw [this]; exact nu_ne_fail _ _
    · rw [hS.goto_root b hin]; exact sidOf_ne_fail _ _
  · show follow _ DEAD b ≠ FAIL
    rw [hS.goto_dead]; decide
  · -- the anchored start keeps the failure link `set_anchored_start_state` gave it
    have h3 : ((fillFailure k fold (startPhase (buildTrie k fold P))).getD 3 {}).fail = 0 := by
      rw [hF.keep 3 (by omega), getD_startPhase _ h4, if_neg (by decide),
        if_pos (show 3 = SA from rfl)]; rfl
    rw [closeStartLoop_eq]
    split
    · rw [getD_closeSU _ hSUlt, if_neg (by decide)]; exact h3
    · exact h3
  · rcases hS.id_cases hT.nodup hs with e | e | e | ⟨u, hu, e⟩
    · rw [e] at hs4; exact absurd hs4 (by decide)
    · rw [e] at hs4; exact absurd hs4 (by decide)
    · rw [e] at hs4; exact absurd hs4 (by decide)
    · have hu' : u ∈ L := hu.resolve_left fun e0 => by
        rw [e, e0, nu_nil] at hs4; exact absurd hs4 (by decide)
      rw [e, hS.fail u hu']
      exact sidOf_ne_fail _ _

/-- **all phases of `Compiler::compile`**: the `unreachable!()` is not reached and the result refines
`CNfa.compile` -/
theorem compile_rel (k : MatchKind) (fold : Bool) (P : List (List UInt8)) :
    MemNfa.compile? k fold P = some (MemNfa.compile k fold P) ∧
      Rel (MemNfa.compile k fold P) (CNfa.compile k fold P) ∧ Final (CNfa.compile k fold P) := by
  have h1 := sim_buildTrie k fold P
  obtain ⟨d, hT⟩ := TI_buildTrie k fold P
  obtain ⟨L, hTg⟩ := buildTrie_specG k fold P
  obtain ⟨r, hr, h2⟩ := rel_setAnchored h1 hT
  have hsz2 : (setAnchoredStart (buildTrie k fold P)).size = (buildTrie k fold P).size := by
    rw [setAnchoredStart_eq, Array.size_modify]
  have h3 := rel_addLoop h2 (by rw [hsz2]; have := hT.size4; omega)
  have hP := FP_start hT
  have h4 := sim_fillFailure (PBg_startPhase hTg) hP h3 k
  have h5 := rel_closeLoop h4 (by
    rw [(grows_fillFailure k fold _).1]; exact Nat.le_of_succ_le hP.size4) k
  rw [show MemNfa.compile k fold P = ((r.addUnanchoredStartStateLoop 2).fillFailureTransitions k fold
      2).closeStartStateLoopForLeftmost 2 k.isLeftmost by
    unfold MemNfa.compile; rw [compile?_eq, hr]; rfl]
  exact ⟨by rw [compile?_eq, hr], h5, Final_compile k fold P⟩

/-- the failure phase keeps every transition list, the start phases give the anchored start the 256
entries it had and rewrite targets in place -/
theorem compile_sparseLen (k : MatchKind) (fold : Bool) (P : List (List UInt8)) :
    sparseLen (CNfa.compile k fold P) = sparseLen (buildTrie k fold P) := by
  obtain ⟨d, hT⟩ := TI_buildTrie k fold P
  obtain ⟨L, pend, _, hF, _⟩ := compile_phases k fold P
  have h1 : sparseLen (CNfa.compile k fold P) =
      sparseLen (fillFailure k fold (startPhase (buildTrie k fold P))) := by
    show sparseLen (closeStartLoop k _) = _
    unfold closeStartLoop
    split
    · exact sparseLen_modify _ _ fun _ => List.length_map ..
    · rfl
  rw [h1]
  refine sparseLen_congr (hF.size.trans (size_startPhase _)) fun s => ?_
  rw [hF.trans, getD_startPhase _ hT.size4]
  by_cases e2 : s = SU
  · rw [if_pos e2, e2]; exact List.length_map ..
  · rw [if_neg e2]
    by_cases e3 : s = SA
    · rw [if_pos e3, e3]
      have := congrArg List.length hT.keysSU
      rw [List.length_map, List.length_map] at this
      show ((buildTrie k fold P).getD 2 {}).trans.length = ((buildTrie k fold P).getD 3 {}).trans.length
      rw [this, hT.sa]
      simp [fullTrans]
    · rw [if_neg e3]

/-! ## `Rel` as an equation -/

theorem CState_ext {x y : CState} (h1 : x.trans = y.trans) (h2 : x.fail = y.fail)
    (h3 : x.matches_ = y.matches_) : x = y := by
  cases x; cases y; simp only at h1 h2 h3; subst h1; subst h2; subst h3; rfl

theorem getD_zeroFail012 (n : CNfa) (s : Nat) :
    (zeroFail012 n).getD s {} = if s < 3 ∧ s < n.size then { n.getD s {} with fail := 0 }
      else n.getD s {} := by
  unfold zeroFail012
  rw [Array.getD_modify, Array.getD_modify, Array.getD_modify]
  simp only [Array.size_modify]
  by_cases h2 : 2 = s ∧ s < n.size
  · obtain ⟨e, hs⟩ := h2
    subst e
    rw [if_pos ⟨rfl, hs⟩, if_neg (by omega), if_neg (by omega), if_pos ⟨by omega, hs⟩]
  · rw [if_neg h2]
    by_cases h1 : 1 = s ∧ s < n.size
    · obtain ⟨e, hs⟩ := h1
      subst e
      rw [if_pos ⟨rfl, hs⟩, if_neg (by omega), if_pos ⟨by omega, hs⟩]
    · rw [if_neg h1]
      by_cases h0 : 0 = s ∧ s < n.size
      · obtain ⟨e, hs⟩ := h0
        subst e
        rw [if_pos ⟨rfl, hs⟩, if_pos ⟨by omega, hs⟩]
      · rw [if_neg h0, if_neg (by omega)]

theorem abs_eq_of_rel {m : MemNfa} {n : CNfa} (h : Rel m n) : absNfa m = zeroFail012 n := by
  apply Array.ext_getD ({} : CState)
  · rw [h.eq.1]; unfold zeroFail012; simp only [Array.size_modify]
  · intro s hs
    rw [size_absNfa] at hs
    obtain ⟨e1, e2, e3⟩ := h.eq.2 s
    rw [getD_zeroFail012]
    by_cases h3 : s < 3
    · rw [if_pos ⟨h3, h.size ▸ hs⟩]
      refine CState_ext e1 ?_ e2
      rw [getD_absNfa_lt m hs]
      exact h.low s h3
    · rw [if_neg (fun e => h3 e.1)]
      exact CState_ext e1 (e3 (by omega)) e2

theorem failEq_zeroFail012 (n : CNfa) : FailEq (zeroFail012 n) n := by
  refine ⟨by unfold zeroFail012; simp only [Array.size_modify], fun s => ?_⟩
  rw [getD_zeroFail012]
  split
  · rename_i h; exact ⟨rfl, rfl, fun h3 => by omega⟩
  · exact SEq.refl _ _

/-! ## what a search can observe -/

/-- **`NFA::next_state` does not see the three links**: started anywhere but in `FAIL` it returns
the same state and the same number of failure hops in both automata, and never returns `FAIL` -/
theorem nextState_failEq {a n : CNfa} (h : FailEq a n) (hF : Final n) (anch : Bool) (b : UInt8) :
    ∀ (fuel sid hops : Nat), sid ≠ 1 →
      nextState a anch fuel sid b hops = nextState n anch fuel sid b hops ∧
      (nextState n anch fuel sid b hops).1 ≠ 1 := by
  intro fuel
  induction fuel with
  | zero => intro sid hops hs; exact ⟨rfl, hs⟩
  | succ fuel ih =>
    intro sid hops hs
    by_cases hf : CNfa.follow n sid b = FAIL
    · have hf' : CNfa.follow a sid b = FAIL := (h.follow sid b).trans hf
      cases anch with
      | true =>
        rw [nextState_anch_fail _ _ _ _ _ hf, nextState_anch_fail _ _ _ _ _ hf']
        exact ⟨rfl, show DEAD ≠ 1 by decide⟩
      | false =>
        rw [nextState_go _ _ _ _ _ hf, nextState_go _ _ _ _ _ hf']
        have hs3 : 3 ≤ sid := by
          have h0 : sid ≠ 0 := fun e => hF.fullDead b (e ▸ hf)
          have h2 : sid ≠ 2 := fun e => hF.fullSU b (e ▸ hf)
          omega
        rw [(h.2 sid).2.2 hs3]
        apply ih
        by_cases h4 : 4 ≤ sid
        · by_cases hsz : sid < n.size
          · exact hF.fl sid h4 hsz
          · rw [Array.getD_of_size_le _ _ (Nat.le_of_not_lt hsz)]; decide
        · have : sid = 3 := by omega
          subst this
          rw [hF.f3]; decide
    · rw [nextState_stop _ _ _ _ _ _ hf, nextState_stop _ _ _ _ _ _ ((h.follow sid b).symm ▸ hf),
        h.follow]
      exact ⟨rfl, hf⟩

def Same (s q : Nat) : Prop := s = q ∧ q ≠ 1

theorem same_step {a n : CNfa} (h : FailEq a n) (hF : Final n) (k : MatchKind)
    (P : List (List UInt8)) (hasPre anch : Bool) (s q : Nat) (c : UInt8) (hr : Same s q) :
    Same ((a.toAut k P hasPre).next anch s c) ((n.toAut k P hasPre).next anch q c) := by
  obtain ⟨rfl, hq⟩ := hr
  obtain ⟨e1, e2⟩ := nextState_failEq h hF anch c (n.size + 1) s 0 hq
  show Same (nextState a anch (a.size + 1) s c 0).1 (nextState n anch (n.size + 1) s c 0).1
  rw [h.1, e1]
  exact ⟨rfl, e2⟩

theorem run_failEq {a n : CNfa} (h : FailEq a n) (hF : Final n) (k : MatchKind)
    (P : List (List UInt8)) (hasPre anch : Bool) (w : List UInt8) (q : Nat) (hq : q ≠ 1) :
    (a.toAut k P hasPre).runFrom anch q w = (n.toAut k P hasPre).runFrom anch q w :=
  (Aut.runFrom_rel _ _ anch Same (same_step h hF k P hasPre anch) w q q ⟨rfl, hq⟩).1

theorem obs_failEq {a n : CNfa} (h : FailEq a n) (k : MatchKind) (P : List (List UInt8))
    (hasPre first : Bool) (q : Nat) :
    (a.toAut k P hasPre).obs first q = (n.toAut k P hasPre).obs first q := by
  unfold Aut.obs CNfa.toAut
  simp only [h.isMatch, (h.2 q).2.1]

theorem startEquiv_failEq {a n : CNfa} (h : FailEq a n) (hF : Final n) (k : MatchKind)
    (P : List (List UInt8)) (hasPre first anch : Bool) :
    StartEquiv (a.toAut k P hasPre) (n.toAut k P hasPre) first anch :=
  ObsEquiv.of_sim (A := a.toAut k P hasPre) (B := n.toAut k P hasPre) Same
    (same_step h hF k P hasPre anch) (fun _ _ hr => hr.1 ▸ obs_failEq h k P hasPre first _)
    (a := if anch then SA else SU) ⟨rfl, by cases anch <;> decide⟩

end MemC
end AcVerif
