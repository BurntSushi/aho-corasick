import AcVerif.Proofs.DfaRow
import AcVerif.Proofs.ShufflePerm
import AcVerif.Proofs.CostBounds
/-!
# What the stored automata need of the compiled NFA: `NLive`

`NLive N anch V`: `V` is a set of states of `N` that contains the start state of the mode, is
closed under `next_state` and under the failure links `next_state` follows, avoids `FAIL` and the
start state of the other mode, and on which `next_state` returns before its fuel runs out.  The
compiled NFA provides it on `RelV L anch`, the states related (`L1cP.Rel`) to some state of the ideal
automaton, for every `NfaSpec f` – with and without case folding (`NLive_of_spec`; the bound on the
loop comes from `CostP.step_potential`).
-/
namespace AcVerif.L1cIdsP
open AcVerif AcVerif.CNfa AcVerif.L1cP AcVerif.L1dP AcVerif.L1eP AcVerif.L1dIdsP AcVerif.LmP

structure NLive (N : CNfa) (anch : Bool) (V : Nat → Prop) : Prop where
  four : 4 ≤ N.size
  mm : CNfa.isMatch N SU = CNfa.isMatch N SA
  lt : ∀ s, V s → s < N.size
  ne1 : ∀ s, V s → s ≠ 1
  other : ∀ s, V s → (s == SU || s == SA) = (s == startOf anch)
  start : V (startOf anch)
  step : ∀ s b, V s → V (nextState N anch (N.size + 1) s b 0).1
  failV : anch = false → ∀ s b, V s → follow N s b = FAIL → V (N.getD s {}).fail
  hops : ∀ s b, V s → (nextState N anch (N.size + 1) s b 0).2 < N.size + 1
  dead_mats : (N.getD DEAD {}).matches_ = []
  dead_loop : ∀ b, follow N DEAD b = DEAD

theorem NLive.shuf {N : CNfa} {anch : Bool} {V : Nat → Prop} (hL : NLive N anch V) : ShufOK N :=
  shufOK N hL.four

def RelV (L : List (List UInt8)) (anch : Bool) (s : Nat) : Prop := ∃ q, Rel L anch s q

theorem nextState_anch_hops (n : CNfa) (fuel s : Nat) (b : UInt8) (hp : Nat) :
    (nextState n true fuel s b hp).2 = hp := by
  cases fuel with
  | zero => rfl
  | succ fuel =>
    by_cases hf : follow n s b = FAIL
    · rw [nextState_anch_fail n fuel s b hp hf]
    · rw [nextState_stop n true fuel s b hp hf]

section
variable {k : MatchKind} {Q : PatSet UInt8} {L : List (List UInt8)} {N : CNfa} {f : UInt8 → UInt8}

theorem Rel_cases {anch : Bool} {s : Nat} {q : St UInt8} (hr : Rel L anch s q) :
    (q = .dead ∧ s = DEAD) ∨ (q = .at [] ∧ s = startOf anch) ∨
      ∃ u, u ≠ [] ∧ u ∈ L ∧ q = .at u ∧ s = nu L u := by
  cases q with
  | dead => exact Or.inl ⟨rfl, hr⟩
  | «at» u =>
    rcases Rel_at hr with ⟨rfl, e⟩ | ⟨h0, hu, e⟩
    · exact Or.inr (Or.inl ⟨rfl, e⟩)
    · exact Or.inr (Or.inr ⟨u, h0, hu, rfl, e⟩)

theorem NLive_of_spec (h : NfaSpec f k Q L N) (anch : Bool) : NLive N anch (RelV L anch) := by
  have h4 := h.four_le_size
  refine
    { four := h4
      mm := h.isMatch_su_sa
      lt := fun _ ⟨_, hr⟩ => h.LvA_lt_size (LvA.of_Rel hr)
      ne1 := fun _ ⟨_, hr⟩ => h.LvA_ne_fail (LvA.of_Rel hr)
      other := fun _ ⟨_, hr⟩ => LvA.ne_other h (LvA.of_Rel hr)
      start := ⟨.at [], Rel_start L anch⟩
      step := fun s b ⟨q, hr⟩ => ⟨_, h.Rel_step anch hr b⟩
      failV := ?_, hops := ?_
      dead_mats := h.mats_dead
      dead_loop := h.goto_dead }
  · -- `failV`: only a trie node can fail, and its link is the id of `finalFail k Q u`
    rintro ha s b ⟨q, hr⟩ hf
    subst ha
    rcases Rel_cases hr with ⟨_, e⟩ | ⟨_, e⟩ | ⟨u, h0, hu, _, e⟩
    · rw [e, h.goto_dead] at hf; cases hf
    · rw [e] at hf; exact absurd hf (h.follow_su_ne_fail b)
    · rw [e, h.fail u hu]
      refine ⟨finalFail k Q u, Rel_sidOf _ ?_⟩
      unfold finalFail
      by_cases hc : (k != .std && blocked Q u (u.length - (failStd Q u).length)) = true
      · rw [if_pos hc]; trivial
      · rw [if_neg hc]; exact h.lsp_mem _
  · -- `hops`: the hops are those of the ideal automaton, which `CostP.step_potential` bounds by
    -- `q.depth + 1`, and a state of depth `d` exists only if `d + 3 < N.size`
    rintro s b ⟨q, hr⟩
    cases anch with
    | true => rw [nextState_anch_hops]; omega
    | false =>
      rw [h.step_unanch hr b]
      have hp := CostP.step_potential k Q q (f b)
      have hd : q.depth + 3 < N.size := by
        rcases Rel_cases hr with ⟨e, _⟩ | ⟨e, _⟩ | ⟨u, h0, hu, e, _⟩
        · rw [e]; show 0 + 3 < N.size; omega
        · rw [e]; show 0 + 3 < N.size; omega
        · rw [e]; exact h.len_lt_size (Or.inr hu)
      show Ideal.hops k Q false q (f b) < N.size + 1
      omega

end

end AcVerif.L1cIdsP
