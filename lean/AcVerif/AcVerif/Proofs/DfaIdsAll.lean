import AcVerif.Proofs.DfaIdsOne
import AcVerif.Proofs.DfaIdsBothSim
import AcVerif.Proofs.Common
/-!
# An id map with `Sim` for every start kind and supported anchoring mode

`gOf N sk bc anch` is `remGf` (`DfaIdsBothSim`) for `StartKind.both` and `gOne` (`DfaIdsOne`)
otherwise; `sim_of_spec` joins `both_sim` and `one_sim` into `Sim … (buildDfaIds N sk bc hasPre)
anch (gOf …)` under `supportsAnch sk anch`.  An unsupported mode has start id 0, so the automaton
record has no start state exactly then (`toAut_start_isSome`).  `toAut_reach`: after any word from
a start state the stored DFA is at `gOf … s` for an `s` with `Rel L anch s q'`.

`set_matches` never panics: `DFA::set_matches` computes `(sid >> stride2).checked_sub(2).unwrap()`
and indexes `matches` with it.  Every match state of the shuffled NFA sits at a position
`2 ≤ i ≤ max_match_id` (`match_pos_range`), so the DFA indices it gets are `≥ 2` and
`< num_match_states + 2` (`setMatches_ok_one`, `setMatches_ok_both`).
-/
namespace AcVerif.L1dIdsP
open AcVerif AcVerif.CNfa AcVerif.L1cP AcVerif.L1dP AcVerif.L1eP

def gOf (N : CNfa) (sk : StartKind) (bc anch : Bool) : Nat → Nat :=
  match sk with
  | .both => remGf N bc anch
  | _ => gOne N bc

section
variable {f : UInt8 → UInt8} {k : MatchKind} {Q : PatSet UInt8} {L : List (List UInt8)} {N : CNfa}

theorem sim_of_spec (h : NfaSpec f k Q L N) (sk : StartKind)
    (bc hasPre anch : Bool) (hs : supportsAnch sk anch) :
    Sim N L hasPre (buildDfaIds N sk bc hasPre) anch (gOf N sk bc anch) := by
  rcases hs with rfl | ⟨rfl, rfl⟩ | ⟨rfl, rfl⟩
  · exact both_sim h bc hasPre anch
  · exact one_sim h bc false hasPre
  · exact one_sim h bc true hasPre

end

theorem start_unsupported (N : CNfa) (sk : StartKind) (bc hasPre anch : Bool)
    (hs : ¬ supportsAnch sk anch) :
    (if anch then (buildDfaIds N sk bc hasPre).startA else (buildDfaIds N sk bc hasPre).startU) = 0 := by
  rcases not_supportsAnch hs with ⟨rfl, rfl⟩ | ⟨rfl, rfl⟩
  · rfl
  · rfl

theorem toAut_start_unsupported (N : CNfa) (k : MatchKind) (P : List (List UInt8)) (sk : StartKind)
    (bc hasPre anch : Bool) (hs : ¬ supportsAnch sk anch) :
    ((buildDfaIds N sk bc hasPre).toAut k P hasPre).start anch = none := by
  show (if ((if anch then (buildDfaIds N sk bc hasPre).startA
    else (buildDfaIds N sk bc hasPre).startU) == 0) = true then none else some _) = none
  rw [start_unsupported N sk bc hasPre anch hs]
  rfl

section
variable {f : UInt8 → UInt8} {k : MatchKind} {Q : PatSet UInt8} {L : List (List UInt8)} {N : CNfa}
variable (h : NfaSpec f k Q L N) (P : List (List UInt8)) (sk : StartKind)
variable (bc hasPre anch : Bool)
include h

theorem toAut_start_isSome :
    (((buildDfaIds N sk bc hasPre).toAut k P hasPre).start anch).isSome ↔ supportsAnch sk anch := by
  constructor
  · intro hs
    by_cases hn : supportsAnch sk anch
    · exact hn
    · rw [toAut_start_unsupported N k P sk bc hasPre anch hn] at hs
      cases hs
  · intro hs
    rw [(sim_of_spec h sk bc hasPre anch hs).toAut_start P]
    rfl

theorem toAut_reach {s0 : Nat}
    (hs : ((buildDfaIds N sk bc hasPre).toAut k P hasPre).start anch = some s0) (w : List UInt8) :
    supportsAnch sk anch ∧ ∃ s q', Rel L anch s q' ∧
      ((buildDfaIds N sk bc hasPre).toAut k P hasPre).runFrom anch s0 w = gOf N sk bc anch s := by
  have hsup : supportsAnch sk anch :=
    (toAut_start_isSome h P sk bc hasPre anch).1 (by rw [hs]; rfl)
  have hS := sim_of_spec h sk bc hasPre anch hsup
  obtain ⟨t, ⟨q', hr⟩, e, _⟩ :=
    (hS.renames h P).reach ⟨_, Rel_start L anch⟩ (hS.toAut_start P) hs w
  exact ⟨hsup, t, q', hr, e⟩

end

section
variable {f : UInt8 → UInt8} {k : MatchKind} {Q : PatSet UInt8} {L : List (List UInt8)} {N : CNfa}

/-- `hf`: the `FAIL` state is as allocated, without matches -/
theorem match_pos_range (h : NfaSpec f k Q L N) (hf : (N.getD FAIL {}).matches_ = []) {i : Nat}
    (hi : i < N.size) (hm : CNfa.isMatch N ((cOrder N).getD i 0) = true) :
    2 ≤ i ∧ i ≤ nfaMaxMatch N (cNa N) := by
  have hS := shufOK _ h.four_le_size
  have hs := hS.order_lt i hi
  have h1 : (cOrder N).getD i 0 ≠ 1 := by
    intro e
    rw [e, isMatch_eq, show (1 : Nat) = FAIL from rfl, hf] at hm
    cases hm
  have h0 : (cOrder N).getD i 0 ≠ 0 := by
    intro e
    rw [e, isMatch_eq, show (0 : Nat) = DEAD from rfl, h.mats_dead] at hm
    cases hm
  have := (pos_le_maxMatch_iff hS (h.isMatch_su_sa) hs h1).2 ⟨h0, hm⟩
  have hp1 := posOf_ne_one hS hs h1
  rw [show posOf N ((cOrder N).getD i 0) = i from hS.pos_order i hi] at this hp1
  omega

/-- one start kind: the state at position `i` has the DFA id `i << stride2`, and `set_matches`
indexes `matches` with `i - 2` -/
theorem setMatches_ok_one (h : NfaSpec f k Q L N) (hf : (N.getD FAIL {}).matches_ = [])
    (sk : StartKind) (bc hasPre : Bool) (hsk : sk ≠ .both) {i : Nat} (hi : i < N.size)
    (hm : CNfa.isMatch N ((cOrder N).getD i 0) = true) :
    (i <<< (buildDfaIds N sk bc hasPre).stride2) >>> (buildDfaIds N sk bc hasPre).stride2 = i ∧
      2 ≤ i ∧ i - 2 < (buildDfaIds N sk bc hasPre).matches_.size := by
  obtain ⟨h2, hle⟩ := match_pos_range h hf hi hm
  have hsz : (buildDfaIds N sk bc hasPre).matches_.size = nfaMaxMatch N (cNa N) - 1 := by
    cases sk with
    | unanchored => exact matchTable_size _ _
    | anchored => exact matchTable_size _ _
    | both => exact absurd rfl hsk
  exact ⟨by rw [Nat.shiftLeft_eq, shr_mul], h2, by rw [hsz]; omega⟩

/-- start kind `Both`: the DFA state indices handed out to position `i` are
`cntB na i ≤ x < cntB na (i + 1)`, and `set_matches` indexes `matches` with `x - 2` -/
theorem setMatches_ok_both (h : NfaSpec f k Q L N) (hf : (N.getD FAIL {}).matches_ = [])
    (bc hasPre : Bool) {i : Nat} (hi : i < N.size)
    (hm : CNfa.isMatch N ((cOrder N).getD i 0) = true) {x : Nat} (hx1 : cntB (cNa N) i ≤ x)
    (hx2 : x < cntB (cNa N) (i + 1)) :
    2 ≤ x ∧ x - 2 < (buildDfaIds N .both bc hasPre).matches_.size := by
  obtain ⟨h2, hle⟩ := match_pos_range h hf hi hm
  have h4 := (shufOK _ h.four_le_size).na_ge
  have hsz : (buildDfaIds N .both bc hasPre).matches_.size = (nfaMaxMatch N (cNa N) - 1) * 2 :=
    matchTable_size _ _
  have := cntB_ge_two h4 h2
  have := cntB_mono h4 (show i + 1 ≤ nfaMaxMatch N (cNa N) + 1 by omega)
  have := cntB_le_two_mul (na := cNa N) (show 2 ≤ nfaMaxMatch N (cNa N) + 1 by omega)
  exact ⟨by omega, by rw [hsz]; omega⟩

end

end AcVerif.L1dIdsP
