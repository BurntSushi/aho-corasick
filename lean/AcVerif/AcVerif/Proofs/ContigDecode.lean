import AcVerif.Proofs.ContigLayout
/-!
# L1e proofs: decoding one written state (the lookup of `next_state`, the match words)

`foundW rd cls sid` is the `found` computation of `ContigM.nextState`, over an arbitrary word
reader.  If the words at `o` are `State::write` of a state `st` whose transition list is sorted,
constant on byte classes, and (unless dense) free of `FAIL` targets, the lookup returns
`newId (lookup st.trans b)` (`newId` the remap table given to `writeState`), or nothing when the
lookup is `FAIL` (`decode_found`).  Likewise `matchListW` is `match_len` / `match_pattern` over a
word reader, and on the words of a written match state it returns the state's match list
(`decode_matches`).
-/
namespace AcVerif.L1eP
open AcVerif AcVerif.CNfa AcVerif.L1cP AcVerif.L1dP

def foundW (rd : Nat → Nat) (cls sid : Nat) : Option Nat :=
  let kind := rd sid % 256
  if kind == KIND_DENSE then
    let next := rd (sid + 2 + cls)
    if next != FAIL then some next else none
  else if kind == KIND_ONE then
    if cls == (rd sid / 256) % 256 then some (rd (sid + 2)) else none
  else sparseScan rd cls (sid + 2) (sid + 2 + u32Len kind) (u32Len kind)

theorem nextState_succ (m : ContigM) (anch : Bool) (fuel sid : Nat) (byte : UInt8) (acc : Nat × Nat) :
    m.nextState anch (fuel + 1) sid byte acc =
      match foundW (fun i => m.repr.getD i 0) (m.classOf byte) sid with
      | some next => (next, acc.2)
      | none =>
        if anch then (DEAD, acc.2)
        else m.nextState anch fuel (m.repr.getD (sid + 1) 0) byte (0, acc.2 + 1) := rfl

/-! ## the hypotheses on a state -/

/-- hypotheses of `decode_found` on a state `st` written with `al` byte classes and remap table `newId`; `fd`: it is forced dense -/
structure StOK (classOf : UInt8 → Nat) (al : Nat) (newId : Nat → Nat) (st : CState) (fd : Bool) :
    Prop where
  sorted : Sorted st.trans
  cong : ∀ b b', classOf b = classOf b' → lookup st.trans b = lookup st.trans b'
  cls_lt : ∀ b, classOf b < al
  al_le : al ≤ 256
  dense_or_nofail : (fd = true ∨ 127 < st.trans.length) ∨ ∀ x ∈ st.trans, x.2 ≠ FAIL
  id_fail : newId FAIL = FAIL
  id_ne : ∀ t, t ≠ FAIL → newId t ≠ FAIL

section
variable {classOf : UInt8 → Nat} {al : Nat} {newId : Nat → Nat} {st : CState} {fd : Bool}

theorem StOK.snd_eq (h : StOK classOf al newId st fd) {x : UInt8 × Nat} (hx : x ∈ st.trans)
    {b : UInt8} (hc : classOf x.1 = classOf b) : x.2 = lookup st.trans b := by
  rw [← h.cong _ _ hc]
  exact (lookup_of_mem h.sorted (b := x.1) (t := x.2) hx).symm

theorem denseRow_entry (h : StOK classOf al newId st fd) (b : UInt8) (d : Nat) :
    (denseRow classOf al st newId).getD (classOf b) d = newId (lookup st.trans b) := by
  unfold denseRow
  have hall : ∀ x ∈ st.trans, classOf x.1 = classOf b →
      (fun x : UInt8 × Nat => some (newId x.2)) x = some (newId (lookup st.trans b)) := by
    intro x hx hc
    show some (newId x.2) = _
    rw [h.snd_eq hx hc]
  by_cases hex : ∃ x ∈ st.trans, classOf x.1 = classOf b
  · exact foldSet_some _ _ _ d _ _ _ (by rw [Array.size_replicate]; exact h.cls_lt b) hall hex
  · -- no entry of the class of `b`: the lookup fails, and the row keeps its initial `FAIL`
    have hl : lookup st.trans b = FAIL := by
      apply Classical.byContradiction
      intro hne
      exact hex ⟨_, mem_of_lookup rfl hne, rfl⟩
    rw [hl, h.id_fail]
    refine foldSet_stay _ _ _ d FAIL _ _ (fun x hx hc => absurd ⟨x, hx, hc⟩ hex) ?_
    exact Array.getD_replicate _ _ _ (h.cls_lt b)

end

/-! ## the three kinds -/

section
variable {classOf : UInt8 → Nat} {al : Nat} {newId : Nat → Nat} {st : CState} {fd : Bool}
variable {rd : Nat → Nat} {o : Nat}

theorem decode_fail (hrd : Stored rd o (writeState classOf al st newId fd)) :
    rd (o + 1) = newId st.fail := by
  rcases writeState_cases st fd with h | ⟨h1, _, b, t, h3, h4⟩ | ⟨h1, h2, h3⟩
  · rw [writeState_dense _ _ _ _ _ h] at hrd; exact hrd.left.left.tail.head
  · rw [writeState_one _ _ _ _ _ h1 b t h3 h4] at hrd; exact hrd.tail.head
  · rw [writeState_sparse _ _ _ _ _ h1 h2 h3] at hrd; exact hrd.left.left.left.tail.head

theorem decode_dense (h : StOK classOf al newId st fd) (hd : fd = true ∨ 127 < st.trans.length)
    (hrd : Stored rd o (writeState classOf al st newId fd)) (b : UInt8) :
    foundW rd (classOf b) o =
      if lookup st.trans b = FAIL then none else some (newId (lookup st.trans b)) := by
  obtain ⟨h0, hrow, _, _⟩ := hrd.dense hd
  have h2 : rd (o + 2 + classOf b) = newId (lookup st.trans b) := by
    rw [hrow _ (by rw [Array.length_toList, denseRow_size]; exact h.cls_lt b), ← denseRow_entry h b 0]
    simp [List.getD_eq_getElem?_getD, Array.getD_eq_getD_getElem?]
  unfold foundW
  simp only [h0, h2]
  have hk : (KIND_DENSE % 256 == KIND_DENSE) = true := by decide
  rw [hk]
  simp only [if_true]
  by_cases hf : lookup st.trans b = FAIL
  · rw [hf, h.id_fail]; simp
  · have := h.id_ne _ hf
    rw [if_neg hf]
    simp [this]

theorem decode_one (h : StOK classOf al newId st fd) (hfd : fd = false) (b0 : UInt8) (t0 : Nat)
    (hl : st.trans = [(b0, t0)]) (hm : st.matches_ = [])
    (hrd : Stored rd o (writeState classOf al st newId fd)) (b : UInt8) :
    foundW rd (classOf b) o =
      if lookup st.trans b = FAIL then none else some (newId (lookup st.trans b)) := by
  rw [writeState_one _ _ _ _ _ hfd b0 t0 hl hm] at hrd
  have hc0 : classOf b0 < 256 := Nat.lt_of_lt_of_le (h.cls_lt b0) h.al_le
  have h0 : rd o = KIND_ONE + classOf b0 * 256 := hrd.head
  have h2 : rd (o + 2) = newId t0 := hrd.tail.tail.head
  have hnf : t0 ≠ FAIL := by
    rcases h.dense_or_nofail with hd | hd
    · rcases hd with hd | hd
      · rw [hfd] at hd; cases hd
      · rw [hl] at hd; simp at hd
    · exact hd (b0, t0) (by rw [hl]; simp)
  have hl0 : lookup st.trans b0 = t0 := by rw [hl, lookup_cons, if_pos rfl]
  unfold foundW
  simp only [h0, h2]
  obtain ⟨e0, e1⟩ := kind_one hc0
  rw [e0, e1, kind_one_ne_dense]
  simp only [beq_self_eq_true, Bool.false_eq_true, if_false, if_true]
  by_cases hc : classOf b = classOf b0
  · have : lookup st.trans b = t0 := by rw [h.cong b b0 hc, hl0]
    rw [this, if_neg hnf, hc]
    simp
  · have hne : ¬ b0 = b := fun e => hc (by rw [e])
    have : lookup st.trans b = FAIL := by
      rw [hl, lookup_cons, if_neg hne, lookup_nil]
    rw [this]
    simp [hc]

theorem sparseIdx_written (hcls : ∀ b, classOf b < al) (hal : al ≤ 256) {base : Nat}
    (hrd : Stored rd base
      (writeState.chunks (st.trans.map fun x => classOf x.1) (st.trans.length + 1))) (cls : Nat) :
    sparseIdx rd cls base (u32Len st.trans.length) =
      (st.trans.map fun x => classOf x.1).findIdx? (· == cls) := by
  have := sparseIdx_spec rd cls base (st.trans.map fun x => classOf x.1) (st.trans.length + 1)
    (by rw [List.length_map]; omega)
    (by
      intro c hc
      obtain ⟨x, _, rfl⟩ := List.mem_map.1 hc
      exact Nat.lt_of_lt_of_le (hcls x.1) hal)
    hrd
  rwa [List.length_map] at this

theorem decode_sparse (h : StOK classOf al newId st fd) (hfd : fd = false)
    (hlen : st.trans.length ≤ 127) (hne : ¬ (st.trans.length = 1 ∧ st.matches_ = []))
    (hrd : Stored rd o (writeState classOf al st newId fd)) (b : UInt8) :
    foundW rd (classOf b) o =
      if lookup st.trans b = FAIL then none else some (newId (lookup st.trans b)) := by
  obtain ⟨h0, hchunk, htgt, _, _⟩ := hrd.sparse hfd hlen hne
  have hnf : ∀ x ∈ st.trans, x.2 ≠ FAIL := by
    rcases h.dense_or_nofail with hd | hd
    · rcases hd with hd | hd
      · rw [hfd] at hd; cases hd
      · omega
    · exact hd
  obtain ⟨e0, hk1, hk2⟩ := kind_sparse hlen
  unfold foundW
  simp only [h0, e0, hk1, hk2, Bool.false_eq_true, if_false]
  rw [sparseScan_eq_idx, sparseIdx_written h.cls_lt h.al_le hchunk]
  cases hfi : (st.trans.map fun x => classOf x.1).findIdx? (· == classOf b) with
  | none =>
    -- no entry has the class of `b`, in particular `b` itself has none
    rw [List.findIdx?_eq_none_iff] at hfi
    have : lookup st.trans b = FAIL := by
      apply Classical.byContradiction
      intro hne'
      have := hfi _ (List.mem_map.2 ⟨_, mem_of_lookup (l := st.trans) (b := b) rfl hne', rfl⟩)
      simp at this
    rw [this]; rfl
  | some j =>
    -- entry `j` has the class of `b`, hence the target of `b`
    rw [List.findIdx?_eq_some_iff_getElem] at hfi
    obtain ⟨hj, hp, _⟩ := hfi
    have hj' : j < st.trans.length := by simpa using hj
    have hc : classOf st.trans[j].1 = classOf b := by simpa using hp
    have hx2 := h.snd_eq (List.getElem_mem hj') hc
    rw [Option.map_some, htgt j (by rw [List.length_map]; exact hj'),
      if_neg (hx2 ▸ hnf _ (List.getElem_mem hj')), ← hx2]
    simp [List.getD_eq_getElem?_getD, hj']

theorem decode_found (h : StOK classOf al newId st fd)
    (hrd : Stored rd o (writeState classOf al st newId fd)) (b : UInt8) :
    foundW rd (classOf b) o =
      if lookup st.trans b = FAIL then none else some (newId (lookup st.trans b)) := by
  rcases writeState_cases st fd with hd | ⟨h1, _, b0, t0, h3, h4⟩ | ⟨h1, h2, h3⟩
  · exact decode_dense h hd hrd b
  · exact decode_one h h1 b0 t0 h3 h4 hrd b
  · exact decode_sparse h h1 h2 h3 hrd b

end

/-! ## the match words -/

def matchStartW (rd : Nat → Nat) (al sid : Nat) : Nat :=
  let kind := rd sid % 256
  if kind == KIND_DENSE then sid + 2 + al else sid + 2 + u32Len kind + kind

def matchListW (rd : Nat → Nat) (al sid : Nat) : List Nat :=
  let start := matchStartW rd al sid
  let packed := rd start
  if packed ≥ 2147483648 then [packed - 2147483648]
  else (List.range packed).map fun i => rd (start + 1 + i)

theorem matchStart_eq (m : ContigM) (sid : Nat) :
    m.matchStart sid = matchStartW (fun i => m.repr.getD i 0) m.alphabetLen sid := rfl

theorem matchList_eq (m : ContigM) (sid : Nat) :
    m.matchList sid = matchListW (fun i => m.repr.getD i 0) m.alphabetLen sid := rfl

theorem map_range_getD (ms : List Nat) : ((List.range ms.length).map fun i => ms.getD i 0) = ms :=
  (List.map_range_getD id ms 0).trans (List.map_id ms)

theorem decode_tail {rd : Nat → Nat} {st : CState} {start : Nat} (hm : st.matches_ ≠ [])
    (hlen : st.matches_.length < 2147483648) (hrd : Stored rd start (wTail st)) :
    (if rd start ≥ 2147483648 then [rd start - 2147483648]
      else (List.range (rd start)).map fun i => rd (start + 1 + i)) = st.matches_ := by
  have he : st.matches_.isEmpty = false := by
    cases h : st.matches_ with
    | nil => exact absurd h hm
    | cons a l => rfl
  match hms : st.matches_ with
  | [] => exact absurd hms hm
  | [pid] =>
    have ht : wTail st = [2147483648 + pid] := by
      rw [wTail_def, he, hms]; rfl
    rw [ht] at hrd
    rw [hrd.head, if_pos (Nat.le_add_right _ _), Nat.add_sub_cancel_left]
  | a :: c :: l =>
    have ht : wTail st = (a :: c :: l).length :: (a :: c :: l) := by
      rw [wTail_def, he, hms]; rfl
    rw [hms] at hlen
    rw [ht] at hrd
    rw [hrd.head, if_neg (by omega)]
    have e : ((List.range (a :: c :: l).length).map fun i => rd (start + 1 + i)) =
        (List.range (a :: c :: l).length).map fun i => (a :: c :: l).getD i 0 :=
      List.map_congr_left fun i hi => hrd.tail i (List.mem_range.1 hi)
    rw [e, map_range_getD]

section
variable {classOf : UInt8 → Nat} {al : Nat} {newId : Nat → Nat} {st : CState} {fd : Bool}
variable {rd : Nat → Nat} {o : Nat}

theorem tail_written (hm : st.matches_ ≠ [])
    (hrd : Stored rd o (writeState classOf al st newId fd)) :
    Stored rd (matchStartW rd al o) (wTail st) ∧
      o + (writeState classOf al st newId fd).length =
        matchStartW rd al o + (wTail st).length := by
  unfold matchStartW
  rcases writeState_cases st fd with hd | ⟨h1, _, b0, t0, h3, h4⟩ | ⟨h1, h2, h3⟩
  · obtain ⟨h0, _, htail, hlen⟩ := hrd.dense hd
    have hk : (KIND_DENSE % 256 == KIND_DENSE) = true := by decide
    simp only [h0, hk, if_true]
    exact ⟨htail, by omega⟩
  · exact absurd h4 hm
  · obtain ⟨h0, _, _, htail, hlen⟩ := hrd.sparse h1 h2 h3
    obtain ⟨e0, hk1, _⟩ := kind_sparse h2
    simp only [h0, e0, hk1, Bool.false_eq_true, if_false]
    exact ⟨htail, by omega⟩

theorem decode_matches (hm : st.matches_ ≠ []) (hlen : st.matches_.length < 2147483648)
    (hrd : Stored rd o (writeState classOf al st newId fd)) :
    matchListW rd al o = st.matches_ :=
  decode_tail hm hlen (tail_written hm hrd).1

end

end AcVerif.L1eP
