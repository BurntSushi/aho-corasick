import AcVerif.Proofs.CompilerQueue
/-!
# The noncontiguous compiler (L1c): `fill_failure_transitions` (both loops, with the `seen` set)

With `fold` the transition list of a node lists a child once or twice (on a letter and on its
opposite case), in byte order; the second visit is skipped because the child is in `seen`.  The
order in which the children are enqueued may then differ from the byte order of the folded trie;
the invariants `FI`, `QI`, `QI'` do not depend on it.  Without `fold` the second loop does not
consult `seen`, and no entry of a transition list repeats a child.

`fail_child`, `out_child`: failure link and match list of a child from those of its parent.
`procStart_FI`, `procChild_spec`: one call of a loop body; the latter also gives `ChildOK`, the local
facts a refinement of the compiler needs at that call.  The inner loop and the queue loop are
invariants on the loop state `(n, queue, seen)` (`FillInv`, `BfsInv`: there are a queue and a set of
pending nodes with `FillState`, `BfsState`) with one step lemma each (`FillInv.cons`; `BfsInv.pop`,
`FillInv.finish`), to be threaded by whoever runs the same loops on another representation.
`fillStart_inv`, `bfs_inv`, together `fillFailure_specG`.
-/
namespace AcVerif.L1cP
open AcVerif AcVerif.CNfa AcVerif.LmP

/-! ## model side: failure link and output of a child from those of its parent -/

theorem failStd_cons (Q : PatSet UInt8) (a : UInt8) (t : List UInt8) :
    failStd Q (a :: t) = lsp Q t := rfl

theorem lm_bne (k : MatchKind) (h : k ≠ .std) : (k != .std) = true := by
  cases k <;> simp at h ⊢

theorem fail_child (k : MatchKind) (Q : PatSet UInt8) (a : UInt8) (t : List UInt8) (b : UInt8)
    (hk : k = .std ∨ idsOf Q (a :: t ++ [b]) = []) :
    (match finalFail k Q (a :: t) with
      | .dead => St.dead
      | .at v => Ideal.next k Q false (.at v) b) = finalFail k Q (a :: t ++ [b]) := by
  have e1 : failStd Q (a :: t ++ [b]) = lsp Q (t ++ [b]) := rfl
  unfold finalFail
  rw [e1, failStd_cons]
  by_cases hstd : k = .std
  · subst hstd
    simp only [bne_self_eq_false, Bool.false_and, Bool.false_eq_true, if_false, Ideal.next,
      stepStd]
    rw [← lsp_step]
  · simp only [lm_bne k hstd, Bool.true_and]
    rw [← CostP.lmFail_step (hk.resolve_left hstd)]
    by_cases hb : blocked Q (a :: t) ((a :: t).length - (lsp Q t).length) = true
    · simp only [hb, if_true]
    · simp only [hb, if_false, Bool.false_eq_true]; exact next_lm hstd Q _ b

theorem out_child (k : MatchKind) (Q : PatSet UInt8) (a : UInt8) (t : List UInt8)
    (hk : k = .std ∨ idsOf Q (a :: t) = []) :
    idsOf Q (a :: t) ++ Ideal.out k Q (finalFail k Q (a :: t)) = Ideal.out k Q (.at (a :: t)) := by
  unfold finalFail
  rw [failStd_cons]
  by_cases hstd : k = .std
  · subst hstd
    simp only [bne_self_eq_false, Bool.false_and, Bool.false_eq_true, if_false, Ideal.out]
    exact (outStd_step Q a t).symm
  · have hi := hk.resolve_left hstd
    simp only [lm_bne k hstd, Bool.true_and]
    rw [hi, List.nil_append, out_lm hstd, outLm_step hi]
    by_cases hb : blocked Q (a :: t) ((a :: t).length - (lsp Q t).length) = true
    · simp only [hb, if_true]; rfl
    · simp only [hb, if_false, Bool.false_eq_true]; exact out_lm hstd Q _

/-- in the cases where the compiler sets the failure link of a leftmost node to `DEAD` directly -/
theorem finalFail_dead (k : MatchKind) (Q : PatSet UInt8) (a : UInt8) (t : List UInt8)
    (hk : k ≠ .std) (h : idsOf Q [] ≠ [] ∨ idsOf Q (a :: t) ≠ []) :
    finalFail k Q (a :: t) = .dead := by
  unfold finalFail
  rw [failStd_cons]
  have hl := lsp_length_le Q t
  have hpos : 0 < (a :: t).length - (lsp Q t).length := by simp only [List.length_cons]; omega
  simp only [lm_bne k hk, blocked_of_pat h hpos, Bool.true_and, if_true]

theorem out_self (k : MatchKind) (Q : PatSet UInt8) (u : List UInt8)
    (hk : k ≠ .std) (h : idsOf Q [] ≠ [] ∨ idsOf Q u ≠ []) :
    Ideal.out k Q (.at u) = idsOf Q u := by
  rw [out_lm hk, outLm_self h]

/-! ## array updates of the two loops -/

theorem getD_setFail (n : CNfa) (next f : Nat) (hn : next < n.size) (sid : Nat) :
    (n.modify next fun st => { st with fail := f }).getD sid {} =
      if sid = next then { n.getD next {} with fail := f } else n.getD sid {} :=
  Array.getD_modify_of_lt n hn _ _ sid

theorem getD_copyMatches (n : CNfa) (src dst : Nat) (hd : dst < n.size) (sid : Nat) :
    (copyMatches n src dst).getD sid {} =
      if sid = dst then
        { n.getD dst {} with matches_ := (n.getD dst {}).matches_ ++ (n.getD src {}).matches_ }
      else n.getD sid {} :=
  Array.getD_modify_of_lt n hd _ _ sid

theorem getD_setFail_copy (n : CNfa) (next f : Nat) (hn : next < n.size) (sid : Nat) :
    (copyMatches (n.modify next fun st => { st with fail := f }) f next).getD sid {} =
      if sid = next then
        { trans := (n.getD next {}).trans, fail := f,
          matches_ := (n.getD next {}).matches_ ++ (n.getD f {}).matches_ }
      else n.getD sid {} := by
  rw [getD_copyMatches _ _ _ (by rw [Array.size_modify]; exact hn)]
  have hm : ((n.modify next fun st => { st with fail := f }).getD f {}).matches_ =
      (n.getD f {}).matches_ := by
    rw [getD_setFail n next f hn]
    by_cases e : f = next
    · rw [if_pos e, e]
    · rw [if_neg e]
  by_cases e : sid = next
  · rw [if_pos e, if_pos e, hm, getD_setFail n next f hn, if_pos rfl]
  · rw [if_neg e, if_neg e, getD_setFail n next f hn, if_neg e]

theorem size_setFail_copy (n : CNfa) (next f : Nat) :
    (copyMatches (n.modify next fun st => { st with fail := f }) f next).size = n.size := by
  unfold copyMatches; rw [Array.size_modify, Array.size_modify]

end AcVerif.L1cP

namespace AcVerif.L1cFoldP
open AcVerif AcVerif.CNfa AcVerif.L1cP

def SeenI (L pend : List (List UInt8)) (seen : List Nat) : Prop :=
  ∀ s, s ∈ seen ↔ ∃ x, x ∈ L ∧ x ∉ pend ∧ s = nu L x

theorem SeenI.erase {L pend : List (List UInt8)} {seen : List Nat} (h : SeenI L pend seen)
    (hnd : pend.Nodup) {c : List UInt8} (hc : c ∈ L) :
    SeenI L (pend.erase c) (nu L c :: seen) := by
  intro s
  rw [List.mem_cons, h s]
  constructor
  · rintro (e | ⟨x, hx, hxp, e⟩)
    · exact ⟨c, hc, fun hm => (hnd.mem_erase_iff.1 hm).1 rfl, e⟩
    · exact ⟨x, hx, fun hm => hxp (hnd.mem_erase_iff.1 hm).2, e⟩
  · rintro ⟨x, hx, hxp, e⟩
    by_cases exc : x = c
    · left; rw [e, exc]
    · right; exact ⟨x, hx, fun hm => hxp (hnd.mem_erase_iff.2 ⟨exc, hm⟩), e⟩

theorem SeenI.contains_iff {L pend : List (List UInt8)} {seen : List Nat} (h : SeenI L pend seen)
    {c : List UInt8} (hc : c ∈ L) : seen.contains (nu L c) = true ↔ c ∉ pend := by
  rw [List.contains_iff_mem, h]
  constructor
  · rintro ⟨x, hx, hxp, e⟩
    rw [nu_inj (Or.inr hc) (Or.inr hx) e]; exact hxp
  · exact fun hp => ⟨c, hc, hp, rfl⟩

theorem SeenI.contains {Q : PatSet UInt8} {L pend : List (List UInt8)} {n0 : CNfa}
    {seen : List Nat} (_hB : PBf Q L n0)
    (h : SeenI L pend seen) {c : List UInt8} (hc : c ∈ L) :
    seen.contains (nu L c) = !decide (c ∈ pend) := by
  rw [Bool.eq_iff_iff, h.contains_iff hc]; simp

end AcVerif.L1cFoldP

namespace AcVerif.L1cP
open AcVerif AcVerif.CNfa AcVerif.LmP AcVerif.L1cFoldP

section
variable {fold : Bool} {k : MatchKind} {Q : PatSet UInt8} {L : List (List UInt8)} {n0 n : CNfa}
  {pend Us : List (List UInt8)}

theorem isLeftmost_eq_true (k : MatchKind) : k.isLeftmost = true ↔ k ≠ .std := by
  cases k <;> simp [MatchKind.isLeftmost]

/-- what is known at a call `procChild lm sim n id b next` of the compiler's run: both states are
in range and not among `DEAD`, `FAIL`, the unanchored start; when the failure link is computed, the
chase is `ChaseOK` and its result is not `next` (`copy_matches(fail, next)` with `fail == next`
would not terminate in the crate) -/
structure ChildOK (lm sim : Bool) (n : CNfa) (id : Nat) (b : UInt8) (next : Nat) : Prop where
  id3 : 3 ≤ id
  idlt : id < n.size
  next3 : 3 ≤ next
  nextlt : next < n.size
  chase : ¬ (lm && (sim || isMatch n next)) = true →
    ChaseOK n b n.size (n.getD id {}).fail ∧
      follow n (chaseFail n b n.size (n.getD id {}).fail) b ≠ next

/-- one child `u ++ [b]` of the dequeued node `u`, reached on the byte `c`: the child is finished,
and the call was `ChildOK` -/
theorem procChild_spec (hB : PBg fold Q L n0) (h : FI k Q L n0 n pend) {u : List UInt8}
    {c b : UInt8} (hcb : foldIf fold c = b)
    {rest : List UInt8} (hq : QI' L Us pend u (b :: rest)) (hc : u ++ [b] ∈ L) :
    ChildOK k.isLeftmost (!(idsOf Q []).isEmpty) n (nu L u) c (nu L (u ++ [b])) ∧
      FI k Q L n0
        (procChild k.isLeftmost (!(idsOf Q []).isEmpty) n (nu L u) c (nu L (u ++ [b])))
        (pend.erase (u ++ [b])) := by
  have hcp := hq.pending hc
  have htodo := h.todo _ hc hcp
  have hlt : nu L (u ++ [b]) < n.size := by rw [h.size]; exact hB.nu_lt_size (Or.inr hc)
  have hu := hq.cur
  have hult : nu L u < n.size := by rw [h.size]; exact hB.nu_lt_size (Or.inr hu.1)
  have h4u := nu_ge (L := L) (hB.ne_nil hu.1)
  have h4c := nu_ge (L := L) (hB.ne_nil hc)
  obtain ⟨a, t, rfl⟩ : ∃ a t, u = a :: t := by
    cases u with
    | nil => exact absurd hu.1 hB.nil_not_mem
    | cons a t => exact ⟨a, t, rfl⟩
  have him : isMatch n (nu L (a :: t ++ [b])) = !(idsOf Q (a :: t ++ [b])).isEmpty := by
    rw [isMatch_eq, htodo.2]
  have hok : (¬ (k.isLeftmost &&
        (!(idsOf Q []).isEmpty || !(idsOf Q (a :: t ++ [b])).isEmpty)) = true →
      ChaseOK n c n.size (n.getD (nu L (a :: t)) {}).fail ∧
        follow n (chaseFail n c n.size (n.getD (nu L (a :: t)) {}).fail) c ≠
          nu L (a :: t ++ [b])) →
      ChildOK k.isLeftmost (!(idsOf Q []).isEmpty) n (nu L (a :: t)) c (nu L (a :: t ++ [b])) :=
    fun p => ⟨by omega, hult, by omega, hlt, by rw [him]; exact p⟩
  unfold procChild
  rw [him]
  by_cases hcond : (k.isLeftmost &&
      (!(idsOf Q []).isEmpty || !(idsOf Q (a :: t ++ [b])).isEmpty)) = true
  · refine ⟨hok fun hn => absurd hcond hn, ?_⟩
    rw [if_pos hcond]
    simp only [Bool.and_eq_true, Bool.or_eq_true, Bool.not_eq_true', List.isEmpty_eq_false_iff]
      at hcond
    obtain ⟨hlm, hids⟩ := hcond
    have hk : k ≠ .std := (isLeftmost_eq_true k).1 hlm
    have hget := getD_setFail n _ DEAD hlt
    apply h.erase hB hq.pnodup hc (by rw [Array.size_modify])
    · intro sid hs; rw [hget, if_neg hs]
    · rw [hget, if_pos rfl]
    · rw [hget, if_pos rfl]
      have e : (a :: t ++ [b]) = a :: (t ++ [b]) := rfl
      rw [e, finalFail_dead k Q a (t ++ [b]) hk hids]; rfl
    · rw [hget, if_pos rfl]
      show (n.getD (nu L (a :: t ++ [b])) {}).matches_ = _
      rw [htodo.2, out_self k Q _ hk hids]
  · rw [if_neg hcond]
    have hk : k = .std ∨ (idsOf Q [] = [] ∧ idsOf Q (a :: t ++ [b]) = []) := by
      by_cases hstd : k = .std
      · exact Or.inl hstd
      · right
        have hlm := (isLeftmost_eq_true k).2 hstd
        rw [hlm] at hcond
        simp only [Bool.true_and, Bool.or_eq_true, Bool.not_eq_true', List.isEmpty_eq_false_iff,
          not_or, Decidable.not_not] at hcond
        exact hcond
    have hk1 : k = .std ∨ idsOf Q [] = [] := hk.imp id And.left
    have hk2 : k = .std ∨ idsOf Q (a :: t ++ [b]) = [] := hk.imp id And.right
    have e : (a :: t ++ [b]) = a :: (t ++ [b]) := rfl
    -- the failure target
    have hudone := h.done _ hu.1 hu.2.1
    have hlen := hB.len_lt_size (Or.inr hu.1)
    have hl := lsp_length_le Q t
    have hf : follow n (chaseFail n c n.size (n.getD (nu L (a :: t)) {}).fail) c =
          sidOf L (finalFail k Q (a :: t ++ [b])) ∧
        ChaseOK n c n.size (n.getD (nu L (a :: t)) {}).fail := by
      rw [hudone.1, ← fail_child k Q a t b hk2]
      rcases finalFail_len k Q a t with e | e
      · rw [e]; exact chaseFail_dead (by rw [h.follow_eq0]; exact hB.goto_dead c) n.size
      · rw [e]
        simp only [List.length_cons] at hlen
        rw [← hcb]
        exact ((h.chain hB hk1 (d := t.length) fun v hv hvl =>
          hq.low v hv (by simp only [List.length_cons]; omega)).walk c n.size (lsp Q t) 0
            (hB.lsp_mem t) hl (by rw [h.size]; omega)).2
    -- it is the dead state or a node strictly shorter than the child
    have hne : sidOf L (finalFail k Q (a :: t ++ [b])) ≠ nu L (a :: t ++ [b]) := by
      rcases finalFail_len k Q a (t ++ [b]) with e' | e'
      · rw [e, e']; exact (nu_ne_dead L _).symm
      · rw [e, e']
        intro hEq
        have hl' := lsp_length_le Q (t ++ [b])
        rw [nu_inj (hB.lsp_mem (t ++ [b])) (Or.inr (e ▸ hc)) hEq] at hl'
        simp only [List.length_cons, List.length_append] at hl'
        omega
    refine ⟨hok fun _ => ⟨hf.2, by rw [hf.1]; exact hne⟩, ?_⟩
    -- its match list
    have hfm : (n.getD (sidOf L (finalFail k Q (a :: t ++ [b]))) {}).matches_ =
        Ideal.out k Q (finalFail k Q (a :: t ++ [b])) := by
      apply h.mats_sidOf hB
      rcases finalFail_len k Q a (t ++ [b]) with e' | e'
      · rw [e, e']; trivial
      · rw [e, e']
        show lsp Q (t ++ [b]) = [] ∨ _
        rcases hB.lsp_mem (t ++ [b]) with h0 | hm
        · exact Or.inl h0
        · right
          refine ⟨hm, hq.low _ hm ?_⟩
          have := lsp_length_le Q (t ++ [b])
          simp only [List.length_append, List.length_cons] at this ⊢
          exact this
    simp only []
    rw [hf.1]
    have hget := getD_setFail_copy n (nu L (a :: t ++ [b]))
      (sidOf L (finalFail k Q (a :: t ++ [b]))) hlt
    apply h.erase hB hq.pnodup hc (size_setFail_copy _ _ _)
    · intro sid hs; rw [hget, if_neg hs]
    · rw [hget, if_pos rfl]
    · rw [hget, if_pos rfl]
    · rw [hget, if_pos rfl]
      show (n.getD (nu L (a :: t ++ [b])) {}).matches_ ++ _ = _
      rw [htodo.2, hfm]
      exact out_child k Q a (t ++ [b]) hk2

/-! ## the inner loop and the queue loop, as invariants on the loop state `(n, queue, seen)` -/

/-- the inner loop of the second phase at the dequeued node `u`, with the transitions `rest` of `u`
still to come: `Us` is the queue, `pend` the nodes not yet enqueued, `K` the folded bytes of the
children of `u` among them -/
structure FillState (fold : Bool) (k : MatchKind) (Q : PatSet UInt8) (L : List (List UInt8))
    (n0 : CNfa) (u : List UInt8) (cnt : Nat) (rest : List (UInt8 × Nat)) (n : CNfa)
    (q seen : List Nat) (Us pend : List (List UInt8)) (K : List UInt8) : Prop where
  queue : q = Us.map (nu L)
  fi : FI k Q L n0 n pend
  qi : QI' L Us pend u K
  nodupK : K.Nodup
  /-- every child still to be enqueued has an edge still to come -/
  cover : ∀ b, b ∈ K → ∃ x, x ∈ rest ∧ foldIf fold x.1 = b
  sub : ∀ x, x ∈ rest → x ∈ (n0.getD (nu L u) {}).trans
  /-- with `fold` a child may be met twice, the second time in `seen` -/
  seenI : fold = true → SeenI L pend seen
  /-- without, every entry of the transition list leads to a child of its own -/
  one : fold = false → (rest.map (·.1)).Nodup ∧ ∀ x, x ∈ rest → x.1 ∈ K
  /-- the fuel of `bfs` -/
  count : Us.length + pend.length = cnt

def FillInv (fold : Bool) (k : MatchKind) (Q : PatSet UInt8) (L : List (List UInt8)) (n0 : CNfa)
    (u : List UInt8) (cnt : Nat) (rest : List (UInt8 × Nat)) (acc : CNfa × List Nat × List Nat) :
    Prop :=
  ∃ (Us pend : List (List UInt8)) (K : List UInt8),
    FillState fold k Q L n0 u cnt rest acc.1 acc.2.1 acc.2.2 Us pend K

theorem FillInv.cons (hB : PBg fold Q L n0) {u : List UInt8} {cnt : Nat} {c : UInt8} {next : Nat}
    {rest : List (UInt8 × Nat)} {n : CNfa} {q seen : List Nat}
    (h : FillInv fold k Q L n0 u cnt ((c, next) :: rest) (n, q, seen)) :
    if (fold && seen.contains next) = true then FillInv fold k Q L n0 u cnt rest (n, q, seen)
    else
      ChildOK k.isLeftmost (!(idsOf Q []).isEmpty) n (nu L u) c next ∧
      FillInv fold k Q L n0 u cnt rest
        (procChild k.isLeftmost (!(idsOf Q []).isEmpty) n (nu L u) c next, q ++ [next],
          if fold then next :: seen else seen) := by
  obtain ⟨Us, pend, K, h⟩ := h
  simp only at h
  obtain ⟨hc, hnext⟩ := hB.child_of_mem h.qi.cur.1 (h.sub _ List.mem_cons_self)
  simp only at hc hnext
  have hpK : u ++ [foldIf fold c] ∈ pend ↔ foldIf fold c ∈ K := h.qi.pending_iff hc
  have hK' : ∀ b, b ∈ K → foldIf fold c ≠ b → ∃ x, x ∈ rest ∧ foldIf fold x.1 = b := by
    intro b hb hne
    obtain ⟨x, hx, hxb⟩ := h.cover b hb
    rcases List.mem_cons.1 hx with e | e
    · rw [e] at hxb; exact absurd hxb hne
    · exact ⟨x, e, hxb⟩
  subst hnext
  by_cases hcp : u ++ [foldIf fold c] ∈ pend
  · -- first visit of this child
    have hcK := hpK.1 hcp
    have hnd := h.nodupK
    have hq1 : QI' L Us pend u (foldIf fold c :: K.erase (foldIf fold c)) := by
      apply h.qi.congr
      intro b
      rw [List.mem_cons, hnd.mem_erase_iff]
      by_cases e : b = foldIf fold c
      · simp only [e, hcK, true_or]
      · simp only [e, ne_eq, not_false_eq_true, true_and, false_or]
    have hnotin : foldIf fold c ∉ K.erase (foldIf fold c) := by
      rw [hnd.mem_erase_iff]; exact fun hh => hh.1 rfl
    have hskip : ¬ (fold && seen.contains (nu L (u ++ [foldIf fold c]))) = true := by
      rw [Bool.and_eq_true]
      rintro ⟨hf, hs⟩
      exact ((h.seenI hf).contains_iff hc).1 hs hcp
    obtain ⟨hok, hF⟩ := procChild_spec hB h.fi rfl hq1 hc
    rw [if_neg hskip]
    refine ⟨hok, Us ++ [u ++ [foldIf fold c]], pend.erase (u ++ [foldIf fold c]),
      K.erase (foldIf fold c),
      { queue := by rw [h.queue, List.map_append]; rfl
        fi := hF
        qi := hq1.push hnotin hc
        nodupK := hnd.erase _
        cover := fun b hb =>
          hK' b (hnd.mem_erase_iff.1 hb).2 (Ne.symm (hnd.mem_erase_iff.1 hb).1)
        sub := fun x hx => h.sub x (List.mem_cons_of_mem _ hx)
        seenI := fun hf => by rw [if_pos hf]; exact (h.seenI hf).erase h.qi.pnodup hc
        one := fun hf => ?_
        count := ?_ }⟩
    · obtain ⟨hk1, hk2⟩ := h.one hf
      rw [List.map_cons, List.nodup_cons] at hk1
      subst hf
      refine ⟨hk1.2, fun x hx => ?_⟩
      rw [hnd.mem_erase_iff]
      exact ⟨fun e => hk1.1 (List.mem_map.2 ⟨x, hx, e⟩), hk2 x (List.mem_cons_of_mem _ hx)⟩
    · rw [← h.count, List.length_append, List.length_singleton, List.length_erase_of_mem hcp]
      have := List.length_pos_of_mem hcp
      omega
  · -- the child was reached through its other edge already
    have hf : fold = true := by
      cases fold
      · exact absurd (hpK.2 ((h.one rfl).2 _ List.mem_cons_self)) hcp
      · rfl
    rw [if_pos (Bool.and_eq_true _ _ ▸ ⟨hf, ((h.seenI hf).contains_iff hc).2 hcp⟩)]
    exact ⟨Us, pend, K,
      { h with
        cover := fun b hb => hK' b hb fun e => hcp (hpK.2 (e ▸ hb))
        sub := fun x hx => h.sub x (List.mem_cons_of_mem _ hx)
        one := fun hf' => by rw [hf] at hf'; cases hf' }⟩

theorem fillState_inv (hB : PBg fold Q L n0) (u : List UInt8) (cnt : Nat) :
    ∀ (rest : List (UInt8 × Nat)) (acc : CNfa × List Nat × List Nat),
      FillInv fold k Q L n0 u cnt rest acc →
      FillInv fold k Q L n0 u cnt []
        (fillState k.isLeftmost (!(idsOf Q []).isEmpty) fold (nu L u) rest acc)
  | [], acc, h => by rw [fillState]; exact h
  | (c, next) :: rest, (n, q, seen), h => by
    have hstep := FillInv.cons hB h
    rw [fillState_cons]
    split
    · rw [if_pos ‹_›] at hstep; exact fillState_inv hB u cnt rest _ hstep
    · rw [if_neg ‹_›] at hstep; exact fillState_inv hB u cnt rest _ hstep.2

theorem sorted_keys_nodup {l : List (UInt8 × Nat)} (h : Sorted l) : (l.map (·.1)).Nodup := by
  rw [List.nodup_iff_pairwise_ne, List.pairwise_map]
  refine List.Pairwise.imp ?_ h
  intro x y hxy e
  rw [e] at hxy
  exact absurd hxy (UInt8.lt_irrefl _)

/-- the loop state of `bfs` between two dequeue operations -/
structure BfsState (fold : Bool) (k : MatchKind) (Q : PatSet UInt8) (L : List (List UInt8))
    (n0 : CNfa) (cnt : Nat) (n : CNfa) (q seen : List Nat) (Us pend : List (List UInt8)) :
    Prop where
  queue : q = Us.map (nu L)
  fi : FI k Q L n0 n pend
  qi : QI L Us pend
  seenI : fold = true → SeenI L pend seen
  count : Us.length + pend.length = cnt

def BfsInv (fold : Bool) (k : MatchKind) (Q : PatSet UInt8) (L : List (List UInt8)) (n0 : CNfa)
    (cnt : Nat) (acc : CNfa × List Nat × List Nat) : Prop :=
  ∃ (Us pend : List (List UInt8)), BfsState fold k Q L n0 cnt acc.1 acc.2.1 acc.2.2 Us pend

theorem BfsInv.pop (hB : PBg fold Q L n0) {cnt id : Nat} {n : CNfa} {q seen : List Nat}
    (h : BfsInv fold k Q L n0 cnt (n, id :: q, seen)) :
    ∃ u c, id = nu L u ∧ cnt = c + 1 ∧
      FillInv fold k Q L n0 u c (n.getD id {}).trans (n, q, seen) := by
  obtain ⟨Us, pend, h⟩ := h
  simp only at h
  cases Us with
  | nil => cases h.queue
  | cons u Us =>
    injection h.queue with hid hqe
    have hu := h.qi.q1 u List.mem_cons_self
    have hknd := sorted_keys_nodup (hB.sorted (nu L u))
    have hkf : (((n0.getD (nu L u) {}).trans.map (·.1)).filter
        (fun b => foldIf fold b == b)).Nodup := hknd.filter _
    refine ⟨u, Us.length + pend.length, hid, by rw [← h.count, List.length_cons]; omega,
      Us, pend, _,
      { queue := hqe, fi := h.fi, qi := h.qi.pop hB _ ?_, nodupK := hkf, cover := ?_, sub := ?_,
        seenI := h.seenI, one := ?_, count := rfl }⟩
    · intro b hb
      rw [List.mem_filter]
      refine ⟨List.mem_map.2 ⟨_, hB.mem_of_child (Or.inr hu.1) hb, rfl⟩, ?_⟩
      simpa using hB.last_folded hb
    · intro b hb
      rw [List.mem_filter] at hb
      obtain ⟨x, hx, hxb⟩ := List.mem_map.1 hb.1
      refine ⟨x, by rw [hid, h.fi.trans]; exact hx, ?_⟩
      rw [hxb]; simpa using hb.2
    · intro x hx
      rw [hid, h.fi.trans] at hx; exact hx
    · intro hf
      subst hf
      rw [hid, h.fi.trans]
      refine ⟨hknd, fun x hx => ?_⟩
      rw [List.mem_filter]
      exact ⟨List.mem_map.2 ⟨x, hx, rfl⟩, by simp [foldIf]⟩

theorem FillInv.finish {u : List UInt8} {cnt : Nat} {acc : CNfa × List Nat × List Nat}
    (h : FillInv fold k Q L n0 u cnt [] acc) : BfsInv fold k Q L n0 cnt acc := by
  obtain ⟨Us, pend, K, h⟩ := h
  have hK0 : ∀ b, b ∈ K ↔ b ∈ ([] : List UInt8) := fun b =>
    ⟨fun hb => (by obtain ⟨x, hx, _⟩ := h.cover b hb; cases hx), fun hb => nomatch hb⟩
  exact ⟨Us, pend, { h with qi := (h.qi.congr hK0).finish }⟩

theorem bfs_inv (hB : PBg fold Q L n0) :
    ∀ (fuel cnt : Nat) (acc : CNfa × List Nat × List Nat), BfsInv fold k Q L n0 cnt acc →
      cnt < fuel →
      ∃ pend', FI k Q L n0 (bfs k.isLeftmost (!(idsOf Q []).isEmpty) fold fuel acc) pend' ∧
        ∀ v, v ∈ L → v ∉ pend'
  | 0, _, _, _, hf => absurd hf (Nat.not_lt_zero _)
  | fuel + 1, cnt, (n, [], seen), h, _ => by
    obtain ⟨Us, pend, h⟩ := h
    obtain rfl : Us = [] := List.map_eq_nil_iff.1 h.queue.symm
    exact ⟨pend, by rw [bfs]; exact h.fi, h.qi.done_all hB⟩
  | fuel + 1, cnt, (n, id :: q, seen), h, hf => by
    obtain ⟨u, c, hid, hc, hI⟩ := h.pop hB
    rw [bfs, hid]
    rw [hid] at hI
    exact bfs_inv hB fuel c _ (fillState_inv hB u c _ _ hI).finish (by omega)

end

/-! ## the first loop (children of the start state) -/

section
variable {fold : Bool} {k : MatchKind} {Q : PatSet UInt8} {L : List (List UInt8)} {n0 n : CNfa}
  {pend Us : List (List UInt8)}

/-- bookkeeping of the first loop: `Us` is the queue, `pend` the nodes not yet enqueued -/
structure SI (L Us pend : List (List UInt8)) : Prop where
  pnodup : pend.Nodup
  us : ∀ x, x ∈ Us → ∃ b : UInt8, x = [b] ∧ [b] ∈ L
  pd : ∀ v, v ∈ L → (v ∉ pend ↔ v ∈ Us)
  nodup : Us.Nodup
  count : Us.length + pend.length = L.length

theorem failStd_single (Q : PatSet UInt8) (b : UInt8) : failStd Q [b] = [] := rfl

theorem finalFail_single (k : MatchKind) (Q : PatSet UInt8) (b : UInt8) :
    finalFail k Q [b] =
      if (k.isLeftmost && (!(idsOf Q []).isEmpty || !(idsOf Q [b]).isEmpty)) = true then .dead
      else .at [] := by
  unfold finalFail
  rw [failStd_single]
  have : [b].length - ([] : List UInt8).length = 1 := rfl
  rw [this, blocked_single]
  cases k <;> simp [MatchKind.isLeftmost]

theorem out_single (k : MatchKind) (Q : PatSet UInt8) (b : UInt8) :
    Ideal.out k Q (.at [b]) =
      if k.isLeftmost = true then idsOf Q [b] else idsOf Q [b] ++ idsOf Q [] := by
  by_cases hstd : k = .std
  · subst hstd
    simp only [MatchKind.isLeftmost, Bool.false_eq_true, if_false, Ideal.out]
    rw [outStd_cons, outStd_nil]
  · rw [if_pos ((isLeftmost_eq_true k).2 hstd)]
    by_cases hids : idsOf Q [] ≠ [] ∨ idsOf Q [b] ≠ []
    · exact out_self k Q [b] hstd hids
    · simp only [not_or, Decidable.not_not] at hids
      rw [out_lm hstd, outLm_step hids.2, hids.2]
      have hl : lsp Q ([] : List UInt8) = [] := rfl
      rw [hl, outLm_nil_eq, hids.1]
      split <;> rfl

theorem procStart_FI (hB : PBg fold Q L n0) (h : FI k Q L n0 n pend) (hnd : pend.Nodup) {b : UInt8}
    (hc : [b] ∈ L) (hcp : [b] ∈ pend) :
    FI k Q L n0 (procStart k.isLeftmost (!(idsOf Q []).isEmpty) n (nu L [b]))
      (pend.erase [b]) := by
  have htodo := h.todo _ hc hcp
  have hlt : nu L [b] < n.size := by rw [h.size]; exact hB.nu_lt_size (Or.inr hc)
  have him : isMatch n (nu L [b]) = !(idsOf Q [b]).isEmpty := by rw [isMatch_eq, htodo.2]
  have hSU := h.mats_su hB
  unfold procStart
  rw [him]
  by_cases hstd : k = .std
  · subst hstd
    simp only [MatchKind.isLeftmost, Bool.false_and, Bool.false_eq_true, if_false, Bool.not_false,
      if_true]
    have hget := getD_copyMatches n SU (nu L [b]) hlt
    apply h.erase hB hnd hc (by unfold copyMatches; rw [Array.size_modify])
    · intro sid hs; rw [hget, if_neg hs]
    · rw [hget, if_pos rfl]
    · rw [hget, if_pos rfl, finalFail_single]
      simp only [MatchKind.isLeftmost, Bool.false_and, Bool.false_eq_true, if_false, sidOf, nu_nil]
      exact htodo.1
    · rw [hget, if_pos rfl, out_single]
      simp only [MatchKind.isLeftmost, Bool.false_eq_true, if_false]
      show (n.getD (nu L [b]) {}).matches_ ++ (n.getD SU {}).matches_ = _
      rw [htodo.2, hSU]
  · have hlm := (isLeftmost_eq_true k).2 hstd
    simp only [hlm, Bool.true_and, Bool.not_true, Bool.false_eq_true, if_false]
    by_cases hcond : (!(idsOf Q []).isEmpty || !(idsOf Q [b]).isEmpty) = true
    · rw [if_pos hcond]
      have hget := getD_setFail n (nu L [b]) DEAD hlt
      apply h.erase hB hnd hc (by rw [Array.size_modify])
      · intro sid hs; rw [hget, if_neg hs]
      · rw [hget, if_pos rfl]
      · rw [hget, if_pos rfl, finalFail_single, hlm, Bool.true_and, if_pos hcond]; rfl
      · rw [hget, if_pos rfl, out_single, if_pos hlm]
        exact htodo.2
    · rw [if_neg hcond]
      apply h.erase hB hnd hc rfl
      · intro sid _; rfl
      · rfl
      · rw [finalFail_single, hlm, Bool.true_and, if_neg hcond]
        simp only [sidOf, nu_nil]; exact htodo.1
      · rw [out_single, if_pos hlm]; exact htodo.2

/-- the first loop: every node of depth one that is still pending has an edge still to come -/
theorem fillStart_spec (hB : PBg fold Q L n0) :
    ∀ (rest : List (UInt8 × Nat)) (n : CNfa) (Us pend : List (List UInt8)) (seen : List Nat),
      FI k Q L n0 n pend → SI L Us pend → SeenI L pend seen →
      (∀ x, x ∈ rest → x ∈ (n0.getD SU {}).trans) →
      (∀ b : UInt8, [b] ∈ L → [b] ∈ pend → ∃ x, x ∈ rest ∧ foldIf fold x.1 = b) →
      ∃ n' Us' pend' seen',
        fillStart k.isLeftmost (!(idsOf Q []).isEmpty) rest (n, Us.map (nu L), seen) =
            (n', Us'.map (nu L), seen') ∧
          FI k Q L n0 n' pend' ∧ SI L Us' pend' ∧ SeenI L pend' seen' ∧
          ∀ b : UInt8, [b] ∈ L → [b] ∉ pend'
  | [], n, Us, pend, seen, h, hs, hseen, _, hcov =>
    ⟨n, Us, pend, seen, by rw [fillStart], h, hs, hseen, fun b hb hp => by
      obtain ⟨x, hx, _⟩ := hcov b hb hp; simp at hx⟩
  | (c, next) :: rest, n, Us, pend, seen, h, hs, hseen, hsub, hcov => by
    have hsub' : ∀ x, x ∈ rest → x ∈ (n0.getD SU {}).trans := fun x hx =>
      hsub x (List.mem_cons_of_mem _ hx)
    have hcov' : ∀ b : UInt8, [b] ∈ L → [b] ∈ pend → foldIf fold c ≠ b →
        ∃ x, x ∈ rest ∧ foldIf fold x.1 = b := by
      intro b hb hp hne
      obtain ⟨x, hx, hxb⟩ := hcov b hb hp
      rcases List.mem_cons.1 hx with e' | e'
      · rw [e'] at hxb; exact absurd hxb hne
      · exact ⟨x, e', hxb⟩
    rw [fillStart_cons]
    rcases hB.root_of_mem (hsub _ List.mem_cons_self) with ⟨hc, hnext⟩ | ⟨hc, hnext⟩
    · simp only at hc hnext
      subst hnext
      have hn1 : (nu L [foldIf fold c] == SU) = false := by
        have := nu_ge (L := L) (u := [foldIf fold c]) (by simp)
        simp only [SU, beq_eq_false_iff_ne, ne_eq]; omega
      rw [hn1, Bool.false_or]
      by_cases hcp : [foldIf fold c] ∈ pend
      · -- first visit of this child of the start state
        rw [if_neg (fun hh => (hseen.contains_iff hc).1 hh hcp)]
        have hcU : [foldIf fold c] ∉ Us := fun hm => (hs.pd _ hc).2 hm hcp
        have hmem : ∀ x, x ∈ pend.erase [foldIf fold c] ↔ x ≠ [foldIf fold c] ∧ x ∈ pend := fun x =>
          hs.pnodup.mem_erase_iff
        have hs' : SI L (Us ++ [[foldIf fold c]]) (pend.erase [foldIf fold c]) := by
          refine { pnodup := hs.pnodup.erase _, us := ?_, pd := ?_, nodup := ?_, count := ?_ }
          · intro x hx
            rcases List.mem_append.1 hx with hx | hx
            · exact hs.us x hx
            · exact ⟨foldIf fold c, List.mem_singleton.1 hx, hc⟩
          · intro v hv
            rw [List.mem_append, List.mem_singleton, hmem, ← hs.pd v hv]
            by_cases ev : v = [foldIf fold c]
            · simp [ev]
            · simp [ev]
          · exact List.nodup_append.2 ⟨hs.nodup, by simp, fun x hx y hy e =>
              hcU (by rw [← List.mem_singleton.1 hy, ← e]; exact hx)⟩
          · rw [List.length_append, List.length_singleton, List.length_erase_of_mem hcp]
            have := List.length_pos_of_mem hcp
            have := hs.count
            omega
        obtain ⟨n', Us', pend', seen', e, hrest⟩ :=
          fillStart_spec hB rest _ (Us ++ [[foldIf fold c]]) _ (nu L [foldIf fold c] :: seen)
            (procStart_FI hB h hs.pnodup hc hcp) hs' (hseen.erase hs.pnodup hc) hsub'
            (fun b hb hp => hcov' b hb ((hmem _).1 hp).2 fun e => ((hmem _).1 hp).1 (by rw [e]))
        exact ⟨n', Us', pend', seen', by rw [← e, List.map_append]; rfl, hrest⟩
      · -- reached through its other edge already
        rw [if_pos ((hseen.contains_iff hc).2 hcp)]
        exact fillStart_spec hB rest n Us pend seen h hs hseen hsub'
          (fun b hb hp => hcov' b hb hp fun e => hcp (e ▸ hp))
    · simp only at hc hnext
      -- no child on this byte: the transition is the start state's self loop
      rw [hnext, beq_self_eq_true, Bool.true_or, if_pos rfl]
      exact fillStart_spec hB rest n Us pend seen h hs hseen hsub'
        (fun b hb hp => hcov' b hb hp fun e => hc (e ▸ hb))

/-- after the first loop the queue holds exactly the nodes of depth one -/
theorem SI.toQI (hB : PBg fold Q L n0) (hs : SI L Us pend) (hall : ∀ b : UInt8, [b] ∈ L → [b] ∉ pend) :
    QI L Us pend := by
  have hlen : ∀ x, x ∈ Us → x.length = 1 := by
    intro x hx
    obtain ⟨b, e, _⟩ := hs.us x hx
    rw [e]; rfl
  have hUL : ∀ x, x ∈ Us → x ∈ L := by
    intro x hx
    obtain ⟨b, e, hb⟩ := hs.us x hx
    rw [e]; exact hb
  refine
    { q1 := fun x hx => ⟨hUL x hx, (hs.pd x (hUL x hx)).2 hx⟩, sorted := ?_, nodup := hs.nodup,
      range := ?_, pnodup := hs.pnodup, d1 := hall, step := ?_ }
  · apply List.pairwise_of_forall_mem_list
    intro x hx y hy
    rw [hlen x hx, hlen y hy]; exact Nat.le_refl _
  · intro x hx y hy
    rw [hlen x hx, hlen y hy]; omega
  · intro p b hp hpb
    have hp0 := hB.ne_nil hp
    have h2 : p ++ [b] ∉ Us := by
      intro hm
      have := hlen _ hm
      simp only [List.length_append, List.length_singleton] at this
      exact hp0 (List.eq_nil_of_length_eq_zero (by omega))
    constructor
    · intro hh; exact absurd ((hs.pd _ hpb).1 hh) h2
    · rintro ⟨h1, h3⟩; exact absurd ((hs.pd _ hp).1 h1) h3

theorem fillStart_inv (hB : PBg fold Q L n0) :
    ∃ n' Us pend seen,
      fillStart k.isLeftmost (!(idsOf Q []).isEmpty) (n0.getD SU {}).trans (n0, [], []) =
          (n', Us.map (nu L), seen) ∧
        FI k Q L n0 n' pend ∧ QI L Us pend ∧ SeenI L pend seen ∧
        Us.length + pend.length = L.length := by
  have hs0 : SI L [] L :=
    { pnodup := hB.nodup, us := fun x hx => (nomatch hx),
      pd := fun v hv => ⟨fun hh => absurd hv hh, fun hh => (nomatch hh)⟩,
      nodup := List.nodup_nil, count := by simp }
  have hseen0 : SeenI L L [] := fun s =>
    ⟨fun hh => (nomatch hh), fun ⟨x, hx, hxp, _⟩ => absurd hx hxp⟩
  obtain ⟨n', Us', pend', seen', e, hF, hS, hSe, hall⟩ :=
    fillStart_spec (k := k) hB (n0.getD SU {}).trans n0 [] L [] (FI.init hB) hs0 hseen0
      (fun x hx => hx) (fun b hb _ => by
        obtain ⟨t, ht⟩ := hB.full b
        exact ⟨_, ht, hB.last_folded (u := []) hb⟩)
  exact ⟨n', Us', pend', seen', e, hF, hS.toQI hB hall, hSe, hS.count⟩

/-- the failure phase: every trie node gets its final failure link and match list -/
theorem fillFailure_specG (hB : PBg fold Q L n0) :
    ∃ pend, FI k Q L n0 (fillFailure k fold n0) pend ∧ ∀ v, v ∈ L → v ∉ pend := by
  have hsim : isMatch n0 SU = !(idsOf Q []).isEmpty := by rw [isMatch_eq, hB.mats_su]
  obtain ⟨n', Us, pend, seen, e, hF, hQ, hSe, hcnt⟩ := fillStart_inv (k := k) hB
  unfold fillFailure
  simp only [hsim]
  rw [e]
  exact bfs_inv hB n'.size L.length (n', Us.map (nu L), if fold = true then seen else [])
    ⟨Us, pend, { queue := rfl, fi := hF, qi := hQ, count := hcnt,
                 seenI := fun hf => by rw [if_pos hf]; exact hSe }⟩
    (by rw [hF.size, hB.size]; omega)

end

end AcVerif.L1cP
