import AcVerif.Proofs.DfaIdsBoth
import AcVerif.Proofs.DfaIdsSim
/-!
# `finish_build_both_starts` with premultiplied ids: the id maps `remap_unanchored ∘ pos`,
`remap_anchored ∘ pos` satisfy `Sim`

The shuffled order is a placement (`place_shuf`, from `ShufOK`), so `Place.both_ixSim` of
`DfaIdsBoth` is the simulation at the row indices `idxB (cNa N) anch (posOf N s)` with stride
`stB N bc`.  `rangeId_remGf` (ids are ordered like positions, by `slot_le_iff`), `both_mrange`
(where the indices of match states lie) and the closed forms of the four `Special` ids
(`maxMatch_eq`, …) are what `IxSim.toSim` needs besides: `both_sim`.
-/
namespace AcVerif.L1dIdsP
open AcVerif AcVerif.CNfa AcVerif.L1cP AcVerif.L1dP AcVerif.L1eP

/-! ## names for the pieces of `idsBoth` -/

def stB (N : CNfa) (bc : Bool) : Nat := 1 <<< s2Of N bc

theorem stB_eq (N : CNfa) (bc : Bool) : stB N bc = 2 ^ s2Of N bc := Nat.one_shiftLeft _

def remB (N : CNfa) (bc : Bool) : Array Nat × Array Nat × Nat :=
  remFoldB (cNa N) (stB N bc) N.size

/-- the id map of the mode `anch`: `remap_unanchored ∘ pos` resp. `remap_anchored ∘ pos` -/
def remGf (N : CNfa) (bc : Bool) : Bool → Nat → Nat := remP (posOf N) (cNa N) (stB N bc) N.size

def bothD (N : CNfa) (bc hasPre : Bool) : DfaI := idsBoth N (clsOf N bc) (ncOf N bc) hasPre

/-! ## where a state sits -/

theorem posKind_sgl {n : CNfa} (hS : ShufOK n) {s : Nat} (hs : s < n.size) (h1 : s ≠ 1) :
    (s = 0 ∧ posOf n s = 0) ∨ (s = 2 ∧ posOf n s + 2 = cNa n) ∨ (s = 3 ∧ posOf n s + 1 = cNa n) ∨
      (4 ≤ s ∧ 2 ≤ posOf n s ∧ ¬ sgl (cNa n) (posOf n s)) := by
  have h4 := hS.na_ge
  rcases pos_cases hS hs h1 with h | ⟨e, p⟩ | ⟨e, p⟩ | ⟨e, _, p⟩ | ⟨e, _, p⟩
  · exact Or.inl h
  · exact Or.inr (Or.inl ⟨e, by omega⟩)
  · exact Or.inr (Or.inr (Or.inl ⟨e, by omega⟩))
  · exact Or.inr (Or.inr (Or.inr ⟨e, p.1, by unfold sgl; omega⟩))
  · exact Or.inr (Or.inr (Or.inr ⟨e, by omega, by unfold sgl; omega⟩))

theorem place_shuf {n : CNfa} (hS : ShufOK n) : Place n (cOrder n) (posOf n) (cNa n) :=
  ⟨hS.na_ge, hS.pos_lt, hS.order_pos, fun _ hs h1 => posKind_sgl hS hs h1⟩

/-! ## the tables in closed form -/

section
variable {n : CNfa} (hS : ShufOK n) (bc hasPre : Bool)
include hS

theorem remGf_eq {anch : Bool} {s : Nat} (hs : s < n.size) (h1 : s ≠ 1)
    (ho : s ≠ startOf (!anch)) :
    remGf n bc anch s = idxB (cNa n) anch (posOf n s) * stB n bc :=
  (place_shuf hS).rem (stB n bc) hs h1 ho

theorem remB_valU {p : Nat} (hp : p < n.size) (h : p + 1 ≠ cNa n) :
    (remB n bc).1.getD p 0 = cntB (cNa n) p * stB n bc :=
  (remFoldB_valU hS.na_ge _ hp).trans (if_neg h)

theorem remB_valA {p : Nat} (hp : p < n.size) (h : p + 2 ≠ cNa n) :
    (remB n bc).2.1.getD p 0 = iA (cNa n) p * stB n bc :=
  (remFoldB_valA hS.na_ge _ hp).trans (if_neg h)

theorem bothD_startU : (bothD n bc hasPre).startU = cntB (cNa n) (cNa n - 2) * stB n bc := by
  have h4 := hS.na_ge
  have h5 := hS.na_le
  exact remB_valU hS bc (p := cNa n - 2) (by omega) (by omega)

theorem bothD_startA : (bothD n bc hasPre).startA = cntB (cNa n) (cNa n - 1) * stB n bc := by
  have h4 := hS.na_ge
  have h5 := hS.na_le
  refine (remB_valA hS bc (p := cNa n - 1) (by omega) (by omega)).trans ?_
  rw [iA, if_pos (Or.inr (Or.inr (by omega)))]

theorem maxMatch_eq :
    (bothD n bc hasPre).maxMatchId = iA (cNa n) (nfaMaxMatch n (cNa n)) * stB n bc := by
  have h4 := hS.na_ge
  have h5 := hS.na_le
  have := nfaMaxMatch_cases n (cNa n)
  exact remB_valA hS bc (p := nfaMaxMatch n (cNa n)) (by omega) (by omega)

theorem maxSpecial_eq :
    (bothD n bc hasPre).maxSpecialId = iA (cNa n) (nfaMaxSpecial n (cNa n) hasPre) * stB n bc := by
  have h4 := hS.na_ge
  have h5 := hS.na_le
  have := nfaMaxSpecial_cases n (cNa n) hasPre
  exact remB_valA hS bc (p := nfaMaxSpecial n (cNa n) hasPre) (by omega) (by omega)

theorem slot_lt_stateLen {p x : Nat} (hp : p < n.size) (hx : x < cntB (cNa n) (p + 1)) :
    x < 2 * n.size - 4 := by
  have := cntB_mono hS.na_ge (show p + 1 ≤ n.size from hp)
  rw [cntB_size hS.na_ge hS.na_le] at this
  omega

/-- ids are premultiplied indices, ordered like the positions: the threshold for a position is the
id of its last copy -/
theorem rangeId_remGf {anch : Bool} {s : Nat} (hs : s < n.size) (h1 : s ≠ 1)
    (ho : s ≠ startOf (!anch)) :
    RangeId n (fun p => iA (cNa n) p * stB n bc) s (remGf n bc anch s) := by
  have h4 := hS.na_ge
  refine ⟨hs, h1, fun p _ => ?_, ?_⟩
  · rw [remGf_eq hS bc hs h1 ho, stB_eq, mul_pow_le_iff]
    exact slot_le_iff h4 (idxB_ge _ anch _) (idxB_lt h4 anch _)
  · rw [remGf_eq hS bc hs h1 ho, stB_eq, mul_pow_eq_zero_iff, idxB_eq_zero_iff]
    exact posOf_eq_zero_iff hS hs

/-- a match state sits at a position in `2 ..= max_match_id`, so its indices are in
`2 ..< 2 * max_match_id` -/
theorem both_mrange (hmm : CNfa.isMatch n SU = CNfa.isMatch n SA) (anch : Bool) {s : Nat}
    (hs : s < n.size) (h1 : s ≠ 1) (h0 : s ≠ DEAD) (hm : CNfa.isMatch n s = true) :
    2 ≤ idxB (cNa n) anch (posOf n s) ∧
      idxB (cNa n) anch (posOf n s) - 2 < (nfaMaxMatch n (cNa n) - 1) * 2 := by
  have h4 := hS.na_ge
  obtain ⟨hp0, hple⟩ := (pos_le_maxMatch_iff hS hmm hs h1).2 ⟨h0, hm⟩
  have hp1 := posOf_ne_one hS hs h1
  have := idxB_ge (cNa n) anch (posOf n s)
  have := idxB_lt h4 anch (posOf n s)
  have := cntB_ge_two h4 (show 2 ≤ posOf n s by omega)
  have := cntB_mono h4 (show posOf n s + 1 ≤ nfaMaxMatch n (cNa n) + 1 by omega)
  have := cntB_le_two_mul (na := cNa n) (show 2 ≤ nfaMaxMatch n (cNa n) + 1 by omega)
  omega

end

/-! ## both modes -/

section
variable {f : UInt8 → UInt8} {k : MatchKind} {Q : PatSet UInt8} {L : List (List UInt8)} {N : CNfa}

theorem both_sim (h : NfaSpec f k Q L N) (bc hasPre anch : Bool) :
    Sim N L hasPre (bothD N bc hasPre) anch (remGf N bc anch) := by
  have hS := shufOK N h.four_le_size
  have hmm := h.isMatch_su_sa
  have hI := (place_shuf hS).both_ixSim h (classOK_clsOf N bc) (stB N bc) anch
  exact hI.toSim (D := bothD N bc hasPre) (stB_eq N bc) hS hmm
    (fun s hv => rangeId_remGf hS bc (h.LvA_lt_size hv) (h.LvA_ne_fail hv) (h.LvA_ne_other_start hv))
    (fun s hv => slot_lt_stateLen hS (hS.pos_lt s (h.LvA_lt_size hv)) (idxB_lt hS.na_ge anch _))
    (fun s hv => both_mrange hS hmm anch (h.LvA_lt_size hv) (h.LvA_ne_fail hv))
    (cls_lt_stride N bc) rfl rfl (maxMatch_eq hS bc hasPre) (maxSpecial_eq hS bc hasPre)
    (bothD_startU hS bc hasPre) (bothD_startA hS bc hasPre)

end

end AcVerif.L1dIdsP
