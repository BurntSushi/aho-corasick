import AcVerif.Proofs.AlphabetClasses
import AcVerif.Proofs.BuildCheckedBase
import AcVerif.Proofs.CompilerTrie
import AcVerif.Proofs.TrieRule
/-!
# L1-alphabet: the byte set that `build_trie` fills holds the marks of the trie's edge bytes

`buildTrieBS` is the builder of `TrieRule.lean` carrying the byte set, with `markByte` at every byte
walked (`buildTrieBS_eqG`), so it builds the same trie (`buildTrieBS_fst`).  `Edge n c`: some edge of
the trie (from the root or a node `≥ 4`) is labelled `c`; `BSInv`: the byte set holds exactly the
marks of the edge bytes (and, folding, the edge bytes are closed under `opposite_ascii_case`).
`BS_rule`: following an edge marks bytes that are edges already (`BSInv.mark_edge`), allocating a
child adds the bytes that are marked (`BSInv.mark_new`, `Edge_newChild`); a pattern skipped under
leftmost-first has only followed edges (`addPatternG_rule`, case `none`).  `buildTrieBS_inv`: the
invariant after `build_trie`.
-/
namespace AcVerif.AlphaP
open AcVerif AcVerif.CNfa AcVerif.Alphabet AcVerif.L1cP AcVerif.L1cFoldP AcVerif.MiscP
  AcVerif.BuildP AcVerif.MemC

/-! ## the byte-set builder is the builder carrying `self.byteset` -/

theorem addPatternBS_cons (lf fold : Bool) (n : CNfa) (S : ByteClassSet) (prev : Nat) (sm : Bool)
    (b : UInt8) (rest : List UInt8) :
    addPatternBS lf fold n S prev sm (b :: rest) =
      if (lf && (sm || isMatch n prev)) = true then (none, S)
      else if follow n prev b ≠ FAIL then
        addPatternBS lf fold n (markByte fold S b) (follow n prev b) (sm || isMatch n prev) rest
      else
        addPatternBS lf fold (newChild fold n prev b) (markByte fold S b) n.size
          (sm || isMatch n prev) rest := by
  rw [addPatternBS]
  simp only [newChild, bne_iff_ne, ne_eq]

theorem addPatternBS_eq (lf fold : Bool) : ∀ (pat : List UInt8) (n : CNfa) (S : ByteClassSet)
    (prev : Nat) (sm : Bool),
    addPatternBS lf fold n S prev sm pat =
      (addResult (addPatternG lf fold (markByte fold) n S prev sm pat),
        (addPatternG lf fold (markByte fold) n S prev sm pat).2.2)
  | [], n, S, prev, sm => by rw [addPatternBS, addPatternG]; rfl
  | b :: rest, n, S, prev, sm => by
    rw [addPatternBS_cons, addPatternG]
    simp only [addPatternBS_eq lf fold rest]
    split
    · rfl
    · split <;> rfl

theorem buildTrieBS_eqG (k : MatchKind) (fold : Bool) (P : List (List UInt8)) :
    buildTrieBS k fold P =
      buildTrieG k fold (markByte fold) (fun S _ => S) ByteClassSet.empty P := by
  unfold buildTrieBS buildTrieG trieStepG
  congr; funext acc pp
  rw [addPatternBS_eq]
  rcases addPatternG (k == .lf) fold (markByte fold) acc.1 acc.2 SU false pp.1 with
    ⟨n', _ | l, S⟩ <;> rfl

theorem buildTrieBS_fst (k : MatchKind) (fold : Bool) (P : List (List UInt8)) :
    (buildTrieBS k fold P).1 = buildTrie k fold P := by
  rw [buildTrieBS_eqG, buildTrieG_fst]

/-! ## edges -/

/-- the root holds all 256 entries; those still pointing to `FAIL` are not edges -/
def Edge (n : CNfa) (c : UInt8) : Prop :=
  ∃ sid t, (sid = SU ∨ 4 ≤ sid) ∧ t ≠ FAIL ∧ (c, t) ∈ (n.getD sid {}).trans

def Lab (l : List (UInt8 × Nat)) (c : UInt8) : Prop := ∃ t, t ≠ FAIL ∧ (c, t) ∈ l

theorem Edge_iff (n : CNfa) (c : UInt8) :
    Edge n c ↔ ∃ sid, (sid = SU ∨ 4 ≤ sid) ∧ Lab (n.getD sid {}).trans c :=
  ⟨fun ⟨sid, t, hs, h⟩ => ⟨sid, hs, t, h⟩, fun ⟨sid, hs, t, h⟩ => ⟨sid, t, hs, h⟩⟩

theorem Lab_insertTrans {b : UInt8} {t : Nat} (ht : t ≠ FAIL) (l : List (UInt8 × Nat)) (c : UInt8) :
    Lab (insertTrans b t l) c ↔ Lab l c ∨ c = b := by
  constructor
  · rintro ⟨u, hu, hm⟩
    rcases mem_insertTrans hm with e | e
    · exact Or.inr (Prod.mk.inj e).1
    · exact Or.inl ⟨u, hu, e⟩
  · rintro (⟨u, hu, hm⟩ | rfl)
    · rcases mem_insertTrans_of_mem (b := b) (t := t) hm with e | rfl
      · exact ⟨u, hu, e⟩
      · exact ⟨t, ht, mem_insertTrans_self _ t l⟩
    · exact ⟨t, ht, mem_insertTrans_self c t l⟩

theorem Lab_newEdges (fold : Bool) {b : UInt8} {t : Nat} (ht : t ≠ FAIL) (l : List (UInt8 × Nat))
    (c : UInt8) :
    Lab (newEdges fold b t l) c ↔ Lab l c ∨ c = b ∨ (fold = true ∧ c = oppositeAsciiCase b) := by
  cases fold with
  | false => simp [newEdges, Lab_insertTrans ht]
  | true => simp [newEdges, Lab_insertTrans ht, or_assoc]

theorem Edge_newChild {fold : Bool} {n : CNfa} (h4 : 4 ≤ n.size) {prev : Nat}
    (hp : prev = SU ∨ 4 ≤ prev) (hlt : prev < n.size) (b c : UInt8) :
    Edge (newChild fold n prev b) c ↔
      Edge n c ∨ c = b ∨ (fold = true ∧ c = oppositeAsciiCase b) := by
  have hsz : n.size ≠ FAIL := by simp only [FAIL]; omega
  have hget := getD_newChild fold n prev b hlt
  simp only [Edge_iff]
  constructor
  · rintro ⟨sid, hs, hl⟩
    rw [hget] at hl
    by_cases e : sid = prev
    · rw [if_pos e] at hl
      exact ((Lab_newEdges fold hsz _ c).1 hl).imp_left fun hl => ⟨prev, hp, hl⟩
    · rw [if_neg e] at hl
      exact Or.inl ⟨sid, hs, hl⟩
  · rintro (⟨sid, hs, hl⟩ | e)
    · refine ⟨sid, hs, ?_⟩
      rw [hget]
      by_cases e : sid = prev
      · rw [if_pos e]; exact (Lab_newEdges fold hsz _ c).2 (Or.inl (e ▸ hl))
      · rw [if_neg e]; exact hl
    · refine ⟨prev, hp, ?_⟩
      rw [hget, if_pos rfl]
      exact (Lab_newEdges fold hsz _ c).2 (Or.inr e)

/-! ## the invariant of the byte set -/

structure BSInv (fold : Bool) (n : CNfa) (S : ByteClassSet) : Prop where
  marks : ∀ m, S.set.contains m = true ↔ ∃ c, Edge n c ∧ Mark c m
  closed : fold = true → ∀ c, Edge n c → Edge n (oppositeAsciiCase c)

theorem contains_markByte (fold : Bool) (S : ByteClassSet) (b m : UInt8) :
    (markByte fold S b).set.contains m = true ↔
      S.set.contains m = true ∨ Mark b m ∨ (fold = true ∧ Mark (oppositeAsciiCase b) m) := by
  cases fold <;> simp [markByte, contains_setRange, or_assoc]

theorem BSInv.mark_edge {fold : Bool} {n : CNfa} {S : ByteClassSet} (h : BSInv fold n S)
    {b : UInt8} (hb : Edge n b) : BSInv fold n (markByte fold S b) := by
  refine ⟨fun m => ?_, h.closed⟩
  rw [contains_markByte, h.marks]
  constructor
  · rintro (e | e | ⟨hf, e⟩)
    · exact e
    · exact ⟨b, hb, e⟩
    · exact ⟨_, h.closed hf b hb, e⟩
  · intro e; exact Or.inl e

theorem BSInv.mark_new {fold : Bool} {n n' : CNfa} {S : ByteClassSet} (h : BSInv fold n S)
    {b : UInt8}
    (he : ∀ c, Edge n' c ↔ Edge n c ∨ c = b ∨ (fold = true ∧ c = oppositeAsciiCase b)) :
    BSInv fold n' (markByte fold S b) := by
  refine ⟨fun m => ?_, ?_⟩
  · rw [contains_markByte, h.marks]
    constructor
    · rintro (⟨c, hc, hm⟩ | e | ⟨hf, e⟩)
      · exact ⟨c, (he c).2 (Or.inl hc), hm⟩
      · exact ⟨b, (he b).2 (Or.inr (Or.inl rfl)), e⟩
      · exact ⟨_, (he _).2 (Or.inr (Or.inr ⟨hf, rfl⟩)), e⟩
    · rintro ⟨c, hc, hm⟩
      rcases (he c).1 hc with e | rfl | ⟨hf, rfl⟩
      · exact Or.inl ⟨c, e, hm⟩
      · exact Or.inr (Or.inl hm)
      · exact Or.inr (Or.inr ⟨hf, hm⟩)
  · intro hf c hc
    rcases (he c).1 hc with e | rfl | ⟨_, rfl⟩
    · exact (he _).2 (Or.inl (h.closed hf c e))
    · exact (he _).2 (Or.inr (Or.inr ⟨hf, rfl⟩))
    · rw [opp_involution]; exact (he _).2 (Or.inr (Or.inl rfl))

/-! ## `build_trie` -/

theorem not_Edge_init (c : UInt8) : ¬ Edge init c := by
  rintro ⟨sid, t, hs, ht, hm⟩
  rcases hs with rfl | e
  · exact ht (snd_of_mem_fullTrans (t := FAIL) hm)
  · rw [Array.getD_of_size_le _ _ (by simp [init]; omega)] at hm
    simp at hm

theorem BSInv_init (fold : Bool) : BSInv fold init ByteClassSet.empty := by
  refine ⟨fun m => ?_, fun _ c hc => absurd hc (not_Edge_init c)⟩
  have : ByteClassSet.empty.set.contains m = false := contains_empty m
  rw [this]
  exact ⟨fun h => Bool.noConfusion h, fun ⟨c, hc, _⟩ => absurd hc (not_Edge_init c)⟩

theorem trans_modify_matches (n : CNfa) (last pid sid : Nat) :
    ((n.modify last fun st => { st with matches_ := st.matches_ ++ [pid] }).getD sid {}).trans =
      (n.getD sid {}).trans := by
  rw [Array.getD_modify]
  split <;> rfl

theorem BSInv_congr {fold : Bool} {n n' : CNfa} {S : ByteClassSet}
    (ht : ∀ sid, (n'.getD sid {}).trans = (n.getD sid {}).trans) (h : BSInv fold n S) :
    BSInv fold n' S := by
  have he : ∀ c, Edge n' c ↔ Edge n c := fun c => by simp only [Edge, ht]
  exact ⟨fun m => by simp only [he]; exact h.marks m,
    fun hf c => by simp only [he]; exact h.closed hf c⟩

theorem BS_rule (fold : Bool) :
    TrieRule fold (markByte fold) (fun n S _ => BSInv fold n S) where
  walk b _ hp h hne := h.mark_edge ⟨_, _, hp.2, hne, mem_of_lookup (follow_eq _ _ b).symm hne⟩
  child b hT hp h _ := h.mark_new fun c => Edge_newChild hT.size4 hp.2 hp.1 b c

theorem buildTrieBS_inv (k : MatchKind) (fold : Bool) (P : List (List UInt8)) :
    (∃ d, TI fold (buildTrie k fold P) d) ∧
      BSInv fold (buildTrie k fold P) (buildTrieBS k fold P).2 := by
  rw [← buildTrieBS_fst, buildTrieBS_eqG]
  exact buildTrieG_rule (I := fun n S => BSInv fold n S) (BS_rule fold) (fun _ h => h)
    (fun _ h => h) (fun pid _ _ h => BSInv_congr (trans_modify_matches _ _ pid) h)
    (BSInv_init fold) P

end AcVerif.AlphaP
