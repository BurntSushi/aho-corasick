import AcVerif.Proofs.NfaMemTrans
/-!
# `init_full_state`

The loop over the 256 bytes appends one cell per round behind the current tail (`insCell_step`
with an empty suffix); `initFullLoop_step` is the loop from byte `k` on, `initFullState_step` the
whole on a state without transitions.
-/
-- `(absState m s).trans` is `m.iterTrans s` by unfolding `absState`; unfolding the iterator instead is slow
attribute [local irreducible] AcVerif.MemNfa.iterTrans AcVerif.MemNfa.iterMatches

namespace AcVerif.MemP
open AcVerif MemNfa

theorem initFullStep_eq (prev next : Nat) (m : MemNfa) (pl byte : Nat) :
    initFullStep prev next (m, pl) byte = (insCell m prev pl 0 byte.toUInt8 next, m.sparse.size) := by
  unfold initFullStep insCell
  by_cases h : pl = 0
  · simp only [h, if_true]; rfl
  · simp only [if_neg h]; rfl

theorem toUInt8_toNat_of_lt {k : Nat} (h : k < 256) : k.toUInt8.toNat = k :=
  UInt8.toNat_ofNat_of_lt' h

theorem initFullLoop_step (prev next : Nat) :
    ∀ (n k : Nat) (m : MemNfa) (tc mc : Nat → List Nat) (pl : Nat), MemOKW m tc mc →
      prev < m.states.size → pl = (tc prev).getLast?.getD 0 →
      (∀ x ∈ (absState m prev).trans, x.1.toNat < k) → k + n ≤ 256 →
      Step m ((List.range' k n).foldl (initFullStep prev next) (m, pl)).1 prev
        { absState m prev with
          trans := (absState m prev).trans ++ (List.range' k n).map fun i => (i.toUInt8, next) } := by
  intro n
  induction n with
  | zero =>
    intro k m tc mc pl hw hp _ _ _
    simp only [List.range'_zero, List.map_nil, List.append_nil]
    exact Step.refl ⟨_, _, hw⟩ prev
  | succ n ih =>
    intro k m tc mc pl hw hp hpl hbytes hk
    rw [List.range'_succ, List.foldl_cons, initFullStep_eq, hpl]
    have hk' : k.toUInt8.toNat = k := toUInt8_toNat_of_lt (by omega)
    rw [absState_eq hw] at hbytes ⊢
    have hlt : ∀ x ∈ (tc prev).map (kv m), x.1 < k.toUInt8 := fun x hx => by
      rw [UInt8.lt_iff_toNat_lt, hk']; exact hbytes x hx
    obtain ⟨hw', hs⟩ :=
      insCell_step hw hp (pre := tc prev) (suf := []) (List.append_nil _).symm next
        (fun i hi => hlt _ (List.mem_map_of_mem (f := kv m) hi)) (fun _ hj => nomatch hj)
    -- behind the largest byte the sorted insert appends
    have happ : CNfa.insertTrans k.toUInt8 next (m.iterTrans prev) =
        (tc prev).map (kv m) ++ [(k.toUInt8, next)] := by
      rw [iterTrans_eq hw, ← List.append_nil ((tc prev).map (kv m)), insertTrans_append _ hlt,
        List.append_nil]; rfl
    rw [happ] at hs
    have hs' := hs.trans <| ih (k + 1) _ _ mc m.sparse.size hw' (hs.states ▸ hp)
      (by rw [upd_self]; simp) (fun x hx => by
        rw [hs.self] at hx
        rcases List.mem_append.1 hx with e | e
        · exact Nat.lt_succ_of_lt (hbytes x e)
        · rw [List.mem_singleton.1 e, hk']; exact Nat.lt_succ_self k) (by omega)
    rw [hs.self, absState_eq hw] at hs'
    simpa only [List.headD_nil, List.append_assoc, List.cons_append, List.nil_append, List.map_cons]
      using hs'

theorem initFullState_step {m : MemNfa} (h : MemOK m) {prev : Nat} (hp : prev < m.states.size)
    (hempty : (m.st prev).sparse = 0) (next : Nat) :
    Step m (m.initFullState prev next) prev
      { absState m prev with trans := CNfa.fullTrans next } := by
  obtain ⟨tc, mc, hw⟩ := h
  have hnil : tc prev = [] := by
    have := hw.tchain prev
    rw [hempty] at this
    exact this.eq_nil
  have := initFullLoop_step prev next 256 0 m tc mc 0 hw hp (by rw [hnil]; rfl)
    (by rw [absState_eq hw, hnil]; exact fun _ hi => nomatch hi) (by omega)
  rw [← List.range_eq_range', absState_eq hw, hnil] at this
  rw [absState_eq hw]
  exact this

end AcVerif.MemP
