import AcVerif.Compiler
import AcVerif.Ideal
import AcVerif.Proofs.ListArray
/-!
# The noncontiguous compiler (L1c): arrays, sparse transition lists, node numbering

`getD` under `modify`/`push`; `lookup` in a sorted transition list and `insertTrans` (by
`insertTrans_induction`); the numbering `nu` of the trie nodes; and the steps of the compiler as
equations (`newChild`: the allocation of `build_trie`; `procStart`, `procChild`: the loop bodies of
`fill_failure_transitions`).

Namespace `L1cP`: the proof that `CNfa.compile` (`AcVerif/Compiler.lean`) meets `NfaSpec`
(`compile_specG`, the `Compiler*` files phase by phase) and that `next_state` on an automaton
meeting `NfaSpec` simulates the ideal automaton (`CompilerRun`).
-/
namespace AcVerif.L1cP
open AcVerif AcVerif.CNfa

/-! ## sparse transition lists -/

def lookup (l : List (UInt8 × Nat)) (b : UInt8) : Nat :=
  match l.find? (·.1 == b) with
  | some t => t.2
  | none => FAIL

theorem follow_eq (n : CNfa) (sid : Nat) (b : UInt8) :
    follow n sid b = lookup (n.getD sid {}).trans b := rfl

theorem lookup_nil (b : UInt8) : lookup [] b = FAIL := rfl

theorem lookup_cons (c : UInt8) (t : Nat) (l : List (UInt8 × Nat)) (b : UInt8) :
    lookup ((c, t) :: l) b = if c = b then t else lookup l b := by
  unfold lookup
  by_cases h : c = b
  · simp [h]
  · simp [h]

theorem insertTrans_cons_lt {b d : UInt8} (t s : Nat) (rest : List (UInt8 × Nat)) (h : b < d) :
    insertTrans b t ((d, s) :: rest) = (b, t) :: (d, s) :: rest := by
  rw [insertTrans, if_pos h]

theorem insertTrans_cons_self (b : UInt8) (t s : Nat) (rest : List (UInt8 × Nat)) :
    insertTrans b t ((b, s) :: rest) = (b, t) :: rest := by
  rw [insertTrans, if_neg (UInt8.lt_irrefl _), if_pos (beq_self_eq_true b)]

theorem insertTrans_cons_gt {b d : UInt8} (t s : Nat) (rest : List (UInt8 × Nat)) (h : d < b) :
    insertTrans b t ((d, s) :: rest) = (d, s) :: insertTrans b t rest := by
  rw [insertTrans, if_neg fun e => UInt8.lt_irrefl _ (UInt8.lt_trans e h),
    if_neg fun e => UInt8.lt_irrefl _ (eq_of_beq e ▸ h)]

/-- the cases of the sorted insert of `add_transition`: at the end, before a larger byte, over the
same byte, or further down the list -/
theorem insertTrans_induction {motive : List (UInt8 × Nat) → List (UInt8 × Nat) → Prop}
    (b : UInt8) (t : Nat) (nil : motive [] [(b, t)])
    (lt : ∀ d s rest, b < d → motive ((d, s) :: rest) ((b, t) :: (d, s) :: rest))
    (eq : ∀ s rest, motive ((b, s) :: rest) ((b, t) :: rest))
    (gt : ∀ d s rest, d < b → motive rest (insertTrans b t rest) →
      motive ((d, s) :: rest) ((d, s) :: insertTrans b t rest)) :
    ∀ l, motive l (insertTrans b t l)
  | [] => nil
  | (d, s) :: rest => by
    by_cases h1 : b < d
    · rw [insertTrans_cons_lt t s rest h1]; exact lt d s rest h1
    · by_cases h2 : b = d
      · subst h2; rw [insertTrans_cons_self]; exact eq s rest
      · have h3 : d < b := by
          rw [UInt8.lt_iff_toNat_lt] at h1 ⊢
          have : ¬ b.toNat = d.toNat := fun e => h2 (UInt8.toNat_inj.1 e)
          omega
        rw [insertTrans_cons_gt t s rest h3]
        exact gt d s rest h3 (insertTrans_induction b t nil lt eq gt rest)

theorem lookup_insertTrans (b : UInt8) (t : Nat) (l : List (UInt8 × Nat)) (c : UInt8) :
    lookup (insertTrans b t l) c = if c = b then t else lookup l c := by
  have hsw : ∀ x y : Nat, (if b = c then x else y) = if c = b then x else y := fun x y => by
    by_cases h : c = b
    · rw [if_pos h, if_pos h.symm]
    · rw [if_neg h, if_neg (Ne.symm h)]
  refine insertTrans_induction
    (motive := fun l r => lookup r c = if c = b then t else lookup l c) b t ?_ ?_ ?_ ?_ l
  · rw [lookup_cons, hsw]
  · intro d s rest _; rw [lookup_cons, hsw]
  · intro s rest
    rw [lookup_cons, lookup_cons b s, hsw, hsw]
    by_cases h : c = b
    · rw [if_pos h, if_pos h]
    · rw [if_neg h, if_neg h, if_neg h]
  · intro d s rest hdb ih
    rw [lookup_cons, lookup_cons, ih]
    by_cases h : c = b
    · subst h
      rw [if_pos rfl, if_pos rfl, if_neg (fun e => UInt8.lt_irrefl _ (e ▸ hdb))]
    · rw [if_neg h, if_neg h]

theorem mem_of_lookup {l : List (UInt8 × Nat)} {b : UInt8} {t : Nat} (h : lookup l b = t)
    (ht : t ≠ FAIL) : (b, t) ∈ l := by
  unfold lookup at h
  split at h
  · rename_i x hx
    have h2 : x.1 = b := by simpa using List.find?_some hx
    rw [← h, ← h2]
    exact List.mem_of_find?_eq_some hx
  · exact absurd h.symm ht

def Sorted (l : List (UInt8 × Nat)) : Prop := l.Pairwise fun x y => x.1 < y.1

theorem sorted_nil : Sorted [] := List.Pairwise.nil

theorem lookup_of_mem {l : List (UInt8 × Nat)} (hs : Sorted l) {b : UInt8} {t : Nat}
    (h : (b, t) ∈ l) : lookup l b = t := by
  induction l with
  | nil => simp at h
  | cons x rest ih =>
    obtain ⟨d, s⟩ := x
    have hs' := List.pairwise_cons.1 hs
    rw [lookup_cons]
    rcases List.mem_cons.1 h with e | e
    · injection e with e1 e2
      subst e1; subst e2; simp
    · have hlt : d < b := hs'.1 _ e
      have : ¬ d = b := by
        intro e'; subst e'; exact absurd hlt (UInt8.lt_irrefl _)
      rw [if_neg this]; exact ih hs'.2 e

theorem mem_insertTrans {b : UInt8} {t : Nat} {l : List (UInt8 × Nat)} {x : UInt8 × Nat} :
    x ∈ insertTrans b t l → x = (b, t) ∨ x ∈ l := by
  refine insertTrans_induction (motive := fun l r => x ∈ r → x = (b, t) ∨ x ∈ l) b t ?_ ?_ ?_ ?_ l
  · exact fun h => Or.inl (List.mem_singleton.1 h)
  · exact fun d s rest _ h => List.mem_cons.1 h
  · exact fun s rest h => (List.mem_cons.1 h).imp_right (List.mem_cons_of_mem _)
  · intro d s rest _ ih h
    rcases List.mem_cons.1 h with e | e
    · exact Or.inr (e ▸ List.mem_cons_self)
    · exact (ih e).imp_right (List.mem_cons_of_mem _)

theorem mem_insertTrans_self (b : UInt8) (t : Nat) (l : List (UInt8 × Nat)) :
    (b, t) ∈ insertTrans b t l :=
  insertTrans_induction (motive := fun _ r => (b, t) ∈ r) b t List.mem_cons_self
    (fun _ _ _ _ => List.mem_cons_self) (fun _ _ => List.mem_cons_self)
    (fun _ _ _ _ ih => List.mem_cons_of_mem _ ih) l

theorem mem_insertTrans_of_mem {b : UInt8} {t : Nat} {l : List (UInt8 × Nat)} {x : UInt8 × Nat} :
    x ∈ l → x ∈ insertTrans b t l ∨ x.1 = b := by
  refine insertTrans_induction (motive := fun l r => x ∈ l → x ∈ r ∨ x.1 = b) b t ?_ ?_ ?_ ?_ l
  · exact fun h => nomatch h
  · exact fun d s rest _ h => Or.inl (List.mem_cons_of_mem _ h)
  · intro s rest h
    rcases List.mem_cons.1 h with e | e
    · exact Or.inr (by rw [e])
    · exact Or.inl (List.mem_cons_of_mem _ e)
  · intro d s rest _ ih h
    rcases List.mem_cons.1 h with e | e
    · exact Or.inl (e ▸ List.mem_cons_self)
    · exact (ih e).imp_left (List.mem_cons_of_mem _)

theorem key_mem_insertTrans {b : UInt8} {t : Nat} {l : List (UInt8 × Nat)} {c : UInt8}
    (h : ∃ s, (c, s) ∈ l) : ∃ s, (c, s) ∈ insertTrans b t l := by
  obtain ⟨s, hs⟩ := h
  rcases mem_insertTrans_of_mem (b := b) (t := t) hs with e | e
  · exact ⟨s, e⟩
  · exact ⟨t, by rw [show c = b from e]; exact mem_insertTrans_self b t l⟩

theorem sorted_insertTrans {b : UInt8} {t : Nat} {l : List (UInt8 × Nat)} :
    Sorted l → Sorted (insertTrans b t l) := by
  refine insertTrans_induction (motive := fun l r => Sorted l → Sorted r) b t ?_ ?_ ?_ ?_ l
  · exact fun _ => List.pairwise_singleton _ _
  · intro d s rest hbd hs
    refine List.pairwise_cons.2 ⟨fun x hx => ?_, hs⟩
    rcases List.mem_cons.1 hx with e | e
    · subst e; exact hbd
    · exact UInt8.lt_trans hbd ((List.pairwise_cons.1 hs).1 x e)
  · exact fun s rest hs => List.pairwise_cons.2 (List.pairwise_cons.1 hs)
  · intro d s rest hdb ih hs
    have hs' := List.pairwise_cons.1 hs
    refine List.pairwise_cons.2 ⟨fun x hx => ?_, ih hs'.2⟩
    rcases mem_insertTrans hx with e | e
    · subst e; exact hdb
    · exact hs'.1 x e

/-! ### `fullTrans` -/

theorem mem_fullTrans (t : Nat) (b : UInt8) : (b, t) ∈ fullTrans t := by
  simp only [fullTrans, List.mem_map, List.mem_range]
  refine ⟨b.toNat, UInt8.toNat_lt b, ?_⟩
  simp

theorem snd_of_mem_fullTrans {t : Nat} {x : UInt8 × Nat} (h : x ∈ fullTrans t) : x.2 = t := by
  simp only [fullTrans, List.mem_map] at h
  obtain ⟨i, _, rfl⟩ := h; rfl

theorem sorted_fullTrans (t : Nat) : Sorted (fullTrans t) := by
  unfold Sorted fullTrans
  rw [List.pairwise_map]
  refine List.Pairwise.imp_of_mem ?_ (@List.pairwise_lt_range 256)
  intro a b ha hb hab
  have h2 := List.mem_range.1 ha
  have h3 := List.mem_range.1 hb
  rw [UInt8.lt_iff_toNat_lt]
  simp only [Nat.toUInt8, UInt8.toNat_ofNat']
  omega

theorem lookup_fullTrans (t : Nat) (b : UInt8) : lookup (fullTrans t) b = t :=
  lookup_of_mem (sorted_fullTrans t) (mem_fullTrans t b)

/-! ## node numbering -/

/-- the state id of the trie node with string `u`, given the list `L` of the strings of the
states `4, 5, …` in allocation order -/
def nu (L : List (List UInt8)) (u : List UInt8) : Nat := if u = [] then SU else L.idxOf u + 4

def sidOf (L : List (List UInt8)) : St UInt8 → Nat
  | .dead => DEAD
  | .at u => nu L u

@[simp] theorem nu_nil (L : List (List UInt8)) : nu L [] = SU := by simp [nu]

theorem nu_of_ne {L : List (List UInt8)} {u : List UInt8} (h : u ≠ []) : nu L u = L.idxOf u + 4 := by
  simp [nu, h]

theorem nu_ge {L : List (List UInt8)} {u : List UInt8} (h : u ≠ []) : 4 ≤ nu L u := by
  rw [nu_of_ne h]; omega

theorem nu_lt {L : List (List UInt8)} {u : List UInt8} (h : u ∈ L) (hne : u ≠ []) :
    nu L u < L.length + 4 := by
  rw [nu_of_ne hne]
  have := List.idxOf_lt_length_iff.2 h
  omega

theorem nu_ge_two (L : List (List UInt8)) (u : List UInt8) : 2 ≤ nu L u := by
  unfold nu; split
  · simp [SU]
  · omega

theorem nu_inj {L : List (List UInt8)} {u v : List UInt8} (hu : u = [] ∨ u ∈ L) (hv : v = [] ∨ v ∈ L)
    (h : nu L u = nu L v) : u = v := by
  by_cases hu0 : u = []
  · subst hu0
    by_cases hv0 : v = []
    · exact hv0.symm
    · have := nu_ge (L := L) hv0
      simp [SU] at h; omega
  · by_cases hv0 : v = []
    · subst hv0
      have := nu_ge (L := L) hu0
      simp [SU] at h; omega
    · have hu' : u ∈ L := hu.resolve_left hu0
      have hv' : v ∈ L := hv.resolve_left hv0
      rw [nu_of_ne hu0, nu_of_ne hv0] at h
      have h' : L.idxOf u = L.idxOf v := by omega
      have h1 := List.getElem_idxOf (List.idxOf_lt_length_iff.2 hu')
      have h2 := List.getElem_idxOf (List.idxOf_lt_length_iff.2 hv')
      rw [← h1, ← h2]
      simp only [h']

theorem nu_append {L : List (List UInt8)} (L2 : List (List UInt8)) {u : List UInt8}
    (h : u = [] ∨ u ∈ L) : nu (L ++ L2) u = nu L u := by
  by_cases h0 : u = []
  · subst h0; simp
  · rw [nu_of_ne h0, nu_of_ne h0, List.idxOf_append, if_pos (h.resolve_left h0)]

theorem nu_new {L : List (List UInt8)} {u : List UInt8} (h : u ∉ L) (h0 : u ≠ []) :
    nu (L ++ [u]) u = L.length + 4 := by
  rw [nu_of_ne h0, List.idxOf_append, if_neg h]
  simp

theorem nu_ne_fail (L : List (List UInt8)) (u : List UInt8) : nu L u ≠ FAIL := by
  have := nu_ge_two L u
  simp only [FAIL]; omega

theorem nu_ne_dead (L : List (List UInt8)) (u : List UInt8) : nu L u ≠ DEAD := by
  have := nu_ge_two L u
  simp only [DEAD]; omega

/-- the allocation step of `addPattern`: a new state `n.size`, reached from `prev` on `b` (and,
when folding, on its opposite case) -/
def newChild (fold : Bool) (n : CNfa) (prev : Nat) (b : UInt8) : CNfa :=
  let n1 := addTransition (n.push { fail := SU }) prev b n.size
  if fold then addTransition n1 prev (oppositeAsciiCase b) n.size else n1

theorem size_newChild (fold : Bool) (n : CNfa) (prev : Nat) (b : UInt8) :
    (newChild fold n prev b).size = n.size + 1 := by
  cases fold <;> simp [newChild, addTransition]

/-- the transition list of `prev` after `add_transition(prev, b, t)` and, with `fold`,
`add_transition(prev, opposite_ascii_case(b), t)` -/
def newEdges (fold : Bool) (b : UInt8) (t : Nat) (l : List (UInt8 × Nat)) : List (UInt8 × Nat) :=
  if fold then insertTrans (oppositeAsciiCase b) t (insertTrans b t l) else insertTrans b t l

theorem sorted_newEdges (fold : Bool) (b : UInt8) (t : Nat) {l : List (UInt8 × Nat)}
    (h : Sorted l) : Sorted (newEdges fold b t l) := by
  cases fold
  · exact sorted_insertTrans h
  · exact sorted_insertTrans (sorted_insertTrans h)

theorem mem_newEdges {fold : Bool} {b : UInt8} {t : Nat} {l : List (UInt8 × Nat)}
    {x : UInt8 × Nat} (h : x ∈ newEdges fold b t l) : x.2 = t ∨ x ∈ l := by
  cases fold
  · exact (mem_insertTrans h).imp_left (congrArg Prod.snd)
  · rcases mem_insertTrans h with e | e
    · exact Or.inl (congrArg Prod.snd e)
    · exact (mem_insertTrans e).imp_left (congrArg Prod.snd)

theorem key_mem_newEdges (fold : Bool) (b : UInt8) (t : Nat) {l : List (UInt8 × Nat)} {c : UInt8}
    (h : ∃ s, (c, s) ∈ l) : ∃ s, (c, s) ∈ newEdges fold b t l := by
  cases fold
  · exact key_mem_insertTrans h
  · exact key_mem_insertTrans (key_mem_insertTrans h)

theorem getD_push_dflt (n : CNfa) (j : Nat) : (n.push { fail := SU }).getD j {} = n.getD j {} := by
  by_cases hj : j = n.size
  · subst hj
    rw [Array.getD_push_size, Array.getD_of_size_le _ _ (Nat.le_refl _)]; rfl
  · exact Array.getD_push_ne n _ _ hj

theorem size_addTransition (n : CNfa) (p : Nat) (b : UInt8) (t : Nat) :
    (addTransition n p b t).size = n.size := Array.size_modify

theorem getD_addTransition (n : CNfa) {p : Nat} (hp : p < n.size) (b : UInt8) (t sid : Nat) :
    (addTransition n p b t).getD sid {} =
      if sid = p then { n.getD p {} with trans := insertTrans b t (n.getD p {}).trans }
      else n.getD sid {} :=
  Array.getD_modify_of_lt n hp _ _ sid

theorem getD_newChild (fold : Bool) (n : CNfa) (prev : Nat) (b : UInt8) (hp : prev < n.size)
    (sid : Nat) :
    (newChild fold n prev b).getD sid {} =
      if sid = prev then
        { n.getD prev {} with trans := newEdges fold b n.size (n.getD prev {}).trans }
      else n.getD sid {} := by
  have hp1 : prev < (n.push { fail := SU }).size := by rw [Array.size_push]; omega
  have h1 : ∀ sid, (addTransition (n.push { fail := SU }) prev b n.size).getD sid {} =
      if sid = prev then
        { n.getD prev {} with trans := insertTrans b n.size (n.getD prev {}).trans }
      else n.getD sid {} := fun sid => by
    rw [getD_addTransition _ hp1, getD_push_dflt, getD_push_dflt]
  cases fold
  · exact h1 sid
  · show (addTransition (addTransition (n.push { fail := SU }) prev b n.size) prev
        (oppositeAsciiCase b) n.size).getD sid {} = _
    rw [getD_addTransition _ (by rw [size_addTransition]; exact hp1), h1, h1, if_pos rfl]
    by_cases h : sid = prev
    · rw [if_pos h, if_pos h]; rfl
    · rw [if_neg h, if_neg h, if_neg h]

def Fresh (n : CNfa) (p : Nat) : Prop :=
  (n.getD p {}).trans = [] ∧ (n.getD p {}).matches_ = []

theorem fresh_newChild (fold : Bool) (n : CNfa) (prev : Nat) (b : UInt8) (hlt : prev < n.size) :
    Fresh (newChild fold n prev b) n.size := by
  unfold Fresh
  rw [getD_newChild fold n prev b hlt, if_neg (by omega), Array.getD_of_size_le _ _ (Nat.le_refl _)]
  exact ⟨rfl, rfl⟩

theorem addPattern_cons (lf fold : Bool) (n : CNfa) (prev : Nat) (saw : Bool) (b : UInt8)
    (rest : List UInt8) :
    addPattern lf fold n prev saw (b :: rest) =
      if (lf && (saw || isMatch n prev)) = true then none
      else if follow n prev b ≠ FAIL then
        addPattern lf fold n (follow n prev b) (saw || isMatch n prev) rest
      else addPattern lf fold (newChild fold n prev b) n.size (saw || isMatch n prev) rest := by
  rw [addPattern]
  simp only [newChild, bne_iff_ne, ne_eq]

/-! ## the loop bodies of `fill_failure_transitions` -/

/-- the body of the inner loop of `fill_failure_transitions` for one transition -/
def procChild (lm sim : Bool) (n : CNfa) (id : Nat) (b : UInt8) (next : Nat) : CNfa :=
  if lm && (sim || isMatch n next) then n.modify next fun st => { st with fail := DEAD }
  else
    let f := follow n (chaseFail n b n.size (n.getD id {}).fail) b
    copyMatches (n.modify next fun st => { st with fail := f }) f next

theorem fillState_cons (lm sim useSeen : Bool) (id : Nat) (b : UInt8) (next : Nat)
    (rest : List (UInt8 × Nat)) (n : CNfa) (queue seen : List Nat) :
    fillState lm sim useSeen id ((b, next) :: rest) (n, queue, seen) =
      if (useSeen && seen.contains next) = true then
        fillState lm sim useSeen id rest (n, queue, seen)
      else fillState lm sim useSeen id rest
        (procChild lm sim n id b next, queue ++ [next], if useSeen then next :: seen else seen) := by
  rw [fillState, procChild]
  by_cases hs : (useSeen && seen.contains next) = true
  · rw [if_pos hs, if_pos hs]
  · rw [if_neg hs, if_neg hs]
    by_cases hc : (lm && (sim || isMatch n next)) = true
    · simp only [if_pos hc]
    · simp only [if_neg hc]

/-- the body of the first loop for a transition that is not skipped -/
def procStart (lm sim : Bool) (n : CNfa) (next : Nat) : CNfa :=
  let n := if lm && (sim || isMatch n next)
    then n.modify next fun st => { st with fail := DEAD } else n
  if !lm then copyMatches n SU next else n

theorem fillStart_cons (lm sim : Bool) (b : UInt8) (next : Nat) (rest : List (UInt8 × Nat))
    (n : CNfa) (queue seen : List Nat) :
    fillStart lm sim ((b, next) :: rest) (n, queue, seen) =
      if (next == SU || seen.contains next) = true then fillStart lm sim rest (n, queue, seen)
      else fillStart lm sim rest (procStart lm sim n next, queue ++ [next], next :: seen) := by
  rw [fillStart]; rfl

end AcVerif.L1cP
