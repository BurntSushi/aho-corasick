import AcVerif.Proofs.StreamBase
import AcVerif.Proofs.IterFacts
/-!
# Stream search: the chunk-sequence specification and its consequences

`Spec F data err off r cs`: the chunk list `cs` continues a run that has emitted `data[0..off)`
and whose last match ended at `r`: non-match chunks are the next non-empty slices of the stream, a
match chunk is *the* answer `F r` of the in-memory search restarted at `r`, begins exactly at `off`
and carries the matched bytes; the list may stop early only when an I/O error was reported
(`err`), otherwise it stops at the end of the stream with `F r = none`.

Consequences: the matches are the `iterSpecAux` list of `F` from `r` (any fuel above
`data.length + 1 - r`, so no re-basing of the fuel after a match), a prefix of it after an error
(`spec_mats`); the bytes concatenate to the stream (`spec_concat`); a writer fed with the chunks
(`goPure`) computes the `spliceLoop` of `replaceBytes` over the matches (`spec_replace`), and one
with a byte limit accepts a prefix (`goPure_limit`).
-/
namespace AcVerif.StreamP
open AcVerif
variable {α : Type}

def Spec (F : Nat → Option Mat) (data : List α) (err : Bool) :
    Nat → Nat → List (Chunk α) → Prop
  | off, r, [] => err = true ∨ (off = data.length ∧ F r = none)
  | off, r, .nonMatch b :: cs =>
    ∃ off', off < off' ∧ off' ≤ data.length ∧ b = slice data off off' ∧ Spec F data err off' r cs
  | off, r, .mtch b m :: cs =>
    F r = some m ∧ m.start = off ∧ b = slice data m.start m.stop ∧
      Spec F data err m.stop m.stop cs

/-- what the stream theorems need to know about the in-memory search function -/
def FOK (F : Nat → Option Mat) (N : Nat) : Prop :=
  ∀ r m, r ≤ N → F r = some m → r ≤ m.start ∧ m.start < m.stop ∧ m.stop ≤ N

def chunkBytes : Chunk α → List α
  | .nonMatch b => b
  | .mtch b _ => b

def chunkMats (cs : List (Chunk α)) : List Mat :=
  cs.filterMap (fun c => match c with | .mtch _ m => some m | _ => none)

@[simp] theorem chunkMats_nil : chunkMats ([] : List (Chunk α)) = [] := rfl
@[simp] theorem chunkMats_nonMatch (b : List α) (cs : List (Chunk α)) :
    chunkMats (.nonMatch b :: cs) = chunkMats cs := rfl
@[simp] theorem chunkMats_mtch (b : List α) (m : Mat) (cs : List (Chunk α)) :
    chunkMats (.mtch b m :: cs) = m :: chunkMats cs := rfl

/-! ## the iterator with non-empty matches -/

variable {F : Nat → Option Mat} {N : Nat} {data : List α}

theorem iter_unfold (hF : FOK F N) {r : Nat} (hr : r ≤ N)
    (f : Nat) (last : Option Nat) :
    iterSpecAux F (f + 1) r last =
      match F r with
      | none => []
      | some m => m :: iterSpecAux F f m.stop (some m.stop) := by
  rw [MiscP.iterSpecAux_succ, MiscP.iterNext_of_pos last fun m h => (hF r m hr h).2.1]
  cases F r <;> rfl

theorem iter_congr {G : Nat → Option Mat} (hFG : ∀ r, r ≤ N → F r = G r)
    (hG : FOK G N) (f r : Nat) (last : Option Nat) (hr : r ≤ N) :
    iterSpecAux F f r last = iterSpecAux G f r last :=
  MiscP.iterAux_congr (· ≤ N) hFG
    (fun st m hst hm => by have := hG st m hst hm; omega) f r last hr

/-! ## consequences of `Spec` -/

theorem spec_mats (hF : FOK F data.length) {err : Bool}
    {off r : Nat} {cs : List (Chunk α)} (h : Spec F data err off r cs) (hr : r ≤ data.length)
    (f : Nat) (last : Option Nat) (hf : data.length + 1 - r < f) :
    chunkMats cs <+: iterSpecAux F f r last ∧
      (err = false → chunkMats cs = iterSpecAux F f r last) := by
  induction cs generalizing off r f last with
  | nil =>
    refine ⟨List.nil_prefix, fun he => ?_⟩
    rcases h with h | ⟨_, h⟩
    · rw [he] at h; cases h
    · obtain ⟨f, rfl⟩ : ∃ g, f = g + 1 := ⟨f - 1, by omega⟩
      rw [iter_unfold hF hr, h]; rfl
  | cons c cs ih =>
    cases c with
    | nonMatch b =>
      obtain ⟨off', _, _, _, h'⟩ := h
      exact ih h' hr f last hf
    | mtch b m =>
      obtain ⟨hfr, _, _, h'⟩ := h
      have := hF r m hr hfr
      obtain ⟨f, rfl⟩ : ∃ g, f = g + 1 := ⟨f - 1, by omega⟩
      have := ih h' (by omega) f (some m.stop) (by omega)
      rw [iter_unfold hF hr, hfr]
      simp only [chunkMats_mtch]
      exact ⟨List.cons_prefix_cons.2 ⟨rfl, this.1⟩, fun he => by rw [this.2 he]⟩

theorem spec_concat (hF : FOK F data.length)
    {off r : Nat} {cs : List (Chunk α)} (h : Spec F data false off r cs) (hr : r ≤ data.length) :
    cs.flatMap chunkBytes = data.drop off ∧
      ∀ b m, Chunk.mtch b m ∈ cs → b = slice data m.start m.stop := by
  induction cs generalizing off r with
  | nil =>
    rcases h with h | ⟨h, _⟩
    · cases h
    · subst h; simp
  | cons c cs ih =>
    cases c with
    | nonMatch b =>
      obtain ⟨off', h1, h2, h3, h'⟩ := h
      have := ih h' hr
      refine ⟨?_, ?_⟩
      · rw [List.flatMap_cons, this.1]
        simp only [chunkBytes]
        rw [h3, slice_append_drop _ (Nat.le_of_lt h1)]
      · intro b' m hm
        rcases List.mem_cons.1 hm with h | h
        · cases h
        · exact this.2 b' m h
    | mtch b m =>
      obtain ⟨hfr, h1, h2, h'⟩ := h
      have hm := hF r m hr hfr
      have := ih h' (by omega)
      refine ⟨?_, ?_⟩
      · rw [List.flatMap_cons, this.1]
        simp only [chunkBytes]
        rw [h2, slice_append_drop _ (by omega), h1]
      · intro b' m' hm'
        rcases List.mem_cons.1 hm' with h | h
        · cases h; exact h2
        · exact this.2 b' m' h

/-! ## the writer loop over a chunk list -/

/-- `try_stream_replace_all_with`'s loop as a function of the chunk sequence -/
def goPure (repl : Mat → List α) :
    List (Chunk α) → Bool → Writer α → List (Mat × List α) →
      Writer α × List (Mat × List α) × Bool
  | [], err, w, log => (w, log.reverse, !err)
  | .nonMatch b :: cs, err, w, log =>
    match w.writeAll b with
    | (w', true) => goPure repl cs err w' log
    | (w', false) => (w', log.reverse, false)
  | .mtch b m :: cs, err, w, log =>
    match w.writeAll (repl m) with
    | (w', true) => goPure repl cs err w' ((m, b) :: log)
    | (w', false) => (w', ((m, b) :: log).reverse, false)

theorem writeAll_none (o bytes : List α) :
    Writer.writeAll { out := o, limit := none } bytes = ({ out := o ++ bytes, limit := none }, true) :=
  rfl

theorem writeAll_some_fit (o bytes : List α) (l : Nat) (h : bytes.length ≤ l - o.length) :
    Writer.writeAll { out := o, limit := some l } bytes =
      ({ out := o ++ bytes, limit := some l }, true) := by
  simp [Writer.writeAll, h]

theorem writeAll_some_over (o bytes : List α) (l : Nat) (h : ¬ bytes.length ≤ l - o.length) :
    Writer.writeAll { out := o, limit := some l } bytes =
      ({ out := o ++ bytes.take (l - o.length), limit := some l }, false) := by
  simp [Writer.writeAll, h]

theorem spec_replace (repl : Mat → List α) {off r : Nat} {cs : List (Chunk α)}
    (h : Spec F data false off r cs) (hr : r ≤ off) (k : Nat) (dst : List α)
    (log : List (Mat × List α)) :
    goPure repl cs false { out := dst ++ slice data r off, limit := none } log =
      ({ out := (spliceLoop data repl none (fun _ => true) k r (chunkMats cs) dst log).1,
         limit := none },
        (spliceLoop data repl none (fun _ => true) k r (chunkMats cs) dst log).2, true) := by
  induction cs generalizing off r k dst log with
  | nil =>
    rcases h with h | ⟨h, _⟩
    · cases h
    · subst h
      simp [goPure, spliceLoop, slice_to_length]
  | cons c cs ih =>
    cases c with
    | nonMatch b =>
      obtain ⟨off', h1, h2, h3, h'⟩ := h
      simp only [goPure, writeAll_none, chunkMats_nonMatch]
      rw [h3, List.append_assoc, slice_append _ hr (Nat.le_of_lt h1)]
      exact ih h' (by omega) k dst log
    | mtch b m =>
      obtain ⟨hfr, h1, h2, h'⟩ := h
      simp only [goPure, writeAll_none, chunkMats_mtch, spliceLoop]
      have e : (none == some k) = false := rfl
      simp only [e, Bool.not_true, Bool.false_eq_true, if_false]
      have := ih h' (Nat.le_refl _) (k + 1) (dst ++ slice data r m.start ++ repl m)
        ((m, slice data m.start m.stop) :: log)
      rw [slice_self, List.append_nil] at this
      rw [← h1, h2]
      exact this

/-- what a chunk makes the replace loop write, and log -/
def chunkOut (repl : Mat → List α) : Chunk α → List α
  | .nonMatch b => b
  | .mtch _ m => repl m

def chunkLog : Chunk α → List (Mat × List α) → List (Mat × List α)
  | .nonMatch _, log => log
  | .mtch b m, log => (m, b) :: log

theorem goPure_cons (repl : Mat → List α) (c : Chunk α) (cs : List (Chunk α)) (err : Bool)
    (w : Writer α) (log : List (Mat × List α)) :
    goPure repl (c :: cs) err w log =
      match w.writeAll (chunkOut repl c) with
      | (w', true) => goPure repl cs err w' (chunkLog c log)
      | (w', false) => (w', (chunkLog c log).reverse, false) := by
  cases c <;> rfl

theorem goPure_nolimit (repl : Mat → List α) (cs : List (Chunk α)) (err : Bool) (o : List α)
    (log : List (Mat × List α)) :
    o <+: (goPure repl cs err { out := o, limit := none } log).1.out ∧
      (goPure repl cs err { out := o, limit := none } log).2.2 = !err := by
  induction cs generalizing o log with
  | nil => simp [goPure]
  | cons c cs ih =>
    rw [goPure_cons, writeAll_none]
    have := ih (o ++ chunkOut repl c) (chunkLog c log)
    exact ⟨(List.prefix_append o _).trans this.1, this.2⟩

theorem goPure_limit (repl : Mat → List α) (cs : List (Chunk α)) (err : Bool) (l : Nat)
    (o : List α) (log : List (Mat × List α)) (ho : o.length ≤ l) :
    (goPure repl cs err { out := o, limit := some l } log).1.out <+:
        (goPure repl cs err { out := o, limit := none } log).1.out ∧
      (goPure repl cs err { out := o, limit := some l } log).1.out.length ≤ l ∧
      ((goPure repl cs err { out := o, limit := some l } log).2.2 = true →
        (goPure repl cs err { out := o, limit := some l } log).1.out =
          (goPure repl cs err { out := o, limit := none } log).1.out) := by
  induction cs generalizing o log with
  | nil => simp [goPure, ho]
  | cons c cs ih =>
    rw [goPure_cons, goPure_cons, writeAll_none]
    by_cases hfit : (chunkOut repl c).length ≤ l - o.length
    · rw [writeAll_some_fit _ _ _ hfit]
      exact ih (o ++ chunkOut repl c) _ (by simp only [List.length_append]; omega)
    · rw [writeAll_some_over _ _ _ hfit]
      refine ⟨?_, ?_, fun h => nomatch h⟩
      · refine List.IsPrefix.trans ?_ (goPure_nolimit repl cs err (o ++ chunkOut repl c) _).1
        exact (List.prefix_append_right_inj o).2 (List.take_prefix _ _)
      · simp only [List.length_append, List.length_take]; omega

end AcVerif.StreamP
