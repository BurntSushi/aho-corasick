import AcVerif.Proofs.VecMembers
import AcVerif.Proofs.VecVerify
/-!
# The vector-level candidate computation, main loop and `find` equal the lane model's

Generic in the encoding (`EncOK`): slim 128-bit, slim 256-bit and fat 256-bit
are three instances (`encOK_slim` for `w = 16 ∨ w = 32` with `laneOfSlim`, `encOK_fat` with
`laneOfFat`).  `EncOK t fat w stride enc` lists what is used of `enc : Vec8 → List Nat`: it commutes
with `V.and`, the shift (`shiftV`), the all-ones splat, the member lookup (`memV` after `loadV`),
the zero test and `verifyV`.  From it `candidateV_enc`, `mainLoopV_enc` and the result
`findV_enc : findV t fat w hay start = t.find hay start stride` (`stride = if fat then 16 else w`).
-/
namespace AcVerif.VecP
open AcVerif.PackedP

/-- the `shift_in_k_bytes` flavour chosen by `candidateV` -/
def shiftV (fat : Bool) (w k : Nat) (cur prev : Vec8) : Vec8 :=
  if fat then V.halfShiftIn k cur prev
  else if w == 16 then V.shiftIn128 k cur prev else V.shiftIn256 k cur prev

/-- the load of a window: fat broadcasts the 16 bytes to both halves -/
def loadV (fat : Bool) (chunk : Vec8) : Vec8 := if fat then V.loadHalf chunk else chunk

/-- what the generic proof needs of an encoding of `w`-byte vectors as `stride` lanes -/
structure EncOK (t : Teddy) (fat : Bool) (w stride : Nat) (enc : Vec8 → List Nat) : Prop where
  and_enc : ∀ a b : Vec8, enc (V.and a b) = List.zipWith (· &&& ·) (enc a) (enc b)
  shift_enc : ∀ (k : Nat) (a b : Vec8), k ≤ 3 → a.length = w → b.length = w →
    enc (shiftV fat w k a b) = shiftIn k (enc a) (enc b)
  shift_len : ∀ (k : Nat) (a b : Vec8), k ≤ 3 → a.length = w → b.length = w →
    (shiftV fat w k a b).length = w
  splat_enc : enc (V.splat w 0xFF) = allOnes t.nBuckets stride
  mem_enc : ∀ chunk : Vec8, chunk.length = stride → ∀ i,
    enc (memV t fat w (loadV fat chunk) i) = chunk.map (t.member i)
  mem_len : ∀ chunk : Vec8, chunk.length = stride → ∀ i,
    (memV t fat w (loadV fat chunk) i).length = w
  zero_enc : ∀ v : Vec8, v.length = w → V.isZero v = (enc v).all (· == 0)
  verify_enc : ∀ (hay : PBytes) (base : Nat) (v : Vec8), v.length = w →
    verifyV t fat w hay base v = t.verify hay base (enc v)

/-! ## the instances: slim (both widths at once) and fat -/

theorem encOK_slim (t : Teddy) (hB : t.nBuckets = 8) (w : Nat) (hw : w = 16 ∨ w = 32) :
    EncOK t false w w laneOfSlim := by
  -- both slim flavours shift the bytes like the lane model shifts the lanes
  have hshift : ∀ (k : Nat) (a b : Vec8), k ≤ 3 → a.length = w → b.length = w →
      shiftV false w k a b = b.drop (b.length - k) ++ a.take (a.length - k) := by
    intro k a b hk ha hb
    unfold shiftV
    rcases hw with rfl | rfl
    · exact shiftIn128_eq k a b ha hb
    · exact shiftIn256_eq k a b ha hb (by omega)
  have hsenc : ∀ (k : Nat) (a b : Vec8), k ≤ 3 → a.length = w → b.length = w →
      laneOfSlim (shiftV false w k a b) = shiftIn k (laneOfSlim a) (laneOfSlim b) :=
    fun k a b hk ha hb => by rw [hshift k a b hk ha hb]; exact map_shiftIn _ k a b
  exact {
    and_enc := and_slim
    shift_enc := hsenc
    shift_len := fun k a b hk ha hb => by
      have := shiftIn_length k (laneOfSlim a) (laneOfSlim b) w (by rw [← ha]; exact List.length_map _)
        (by rw [← hb]; exact List.length_map _) (by omega)
      rwa [← hsenc k a b hk ha hb, laneOfSlim, List.length_map] at this
    splat_enc := by rw [hB]; exact splat_slim w
    mem_enc := fun chunk hc i => memV_slim_lane t hB w hw chunk hc i
    mem_len := fun chunk hc i => memV_length t false w hw chunk hc i
    zero_enc := fun v _ => isZero_slim v
    verify_enc := fun hay base v hv => verifyV_slim t hB w hw hay base v hv }

theorem encOK_fat (t : Teddy) (hB : t.nBuckets = 16) : EncOK t true 32 16 laneOfFat where
  and_enc := and_fat
  shift_enc := fun k a b hk ha hb => (halfShiftIn_fat k a b ha hb (by omega)).2
  shift_len := fun k a b hk ha hb => (halfShiftIn_fat k a b ha hb (by omega)).1
  splat_enc := by rw [hB]; exact splat_fat
  mem_enc := fun chunk hc i => memV_fat_lane t hB chunk hc i
  mem_len := fun chunk hc i => memV_length t true 32 (Or.inr rfl) _
    (by unfold loadV V.loadHalf; rw [if_pos rfl, List.length_append, hc]) i
  zero_enc := fun v hv => isZero_fat v hv
  verify_enc := fun hay base v hv => verifyV_fat t hB hay base v hv

/-! ## `candidate` -/

theorem foldl_and_enc (enc : Vec8 → List Nat) (w : Nat)
    (hand : ∀ a b : Vec8, enc (V.and a b) = List.zipWith (· &&& ·) (enc a) (enc b))
    (vs : List Vec8) (acc : Vec8) (hacc : acc.length = w) (hvs : ∀ v ∈ vs, v.length = w) :
    enc (vs.foldl V.and acc) =
        (vs.map enc).foldl (fun a v => List.zipWith (· &&& ·) a v) (enc acc) ∧
      (vs.foldl V.and acc).length = w := by
  induction vs generalizing acc with
  | nil => exact ⟨rfl, hacc⟩
  | cons v vs ih =>
    have hv := hvs v (List.mem_cons_self ..)
    rw [List.foldl_cons, List.map_cons, List.foldl_cons, ← hand acc v]
    exact ih _ (and_length acc v w hacc hv) (fun v' hv' => hvs v' (List.mem_cons_of_mem _ hv'))

def shiftedV (t : Teddy) (fat : Bool) (w : Nat) (cv : Vec8) (prevs : List Vec8) : List Vec8 :=
  (List.range t.maskLen).map fun i =>
    if i + 1 < t.maskLen then
      shiftV fat w (t.maskLen - 1 - i) ((membersV t fat w cv).getD i []) (prevs.getD i [])
    else (membersV t fat w cv).getD i []

theorem candidateV_eq (t : Teddy) (fat : Bool) (w : Nat) (cv : Vec8) (prevs : List Vec8) :
    candidateV t fat w cv prevs =
      ((shiftedV t fat w cv prevs).foldl V.and (V.splat w 0xFF),
        (membersV t fat w cv).take (t.maskLen - 1)) := rfl

section generic
variable {t : Teddy} {fat : Bool} {w stride : Nat} {enc : Vec8 → List Nat}

section
variable (E : EncOK t fat w stride enc) (hN : t.maskLen ≤ 4) (chunk : Vec8)
  (hc : chunk.length = stride)
include E hc

theorem membersV_enc :
    (membersV t fat w (loadV fat chunk)).map enc = resOf t chunk := by
  rw [membersV_eq, List.map_map]
  exact List.map_congr_left fun i _ => E.mem_enc chunk hc i

variable (prevs : List Vec8) (hp : prevs.length = t.maskLen - 1) (hpw : ∀ p ∈ prevs, p.length = w)
include hN hp hpw

theorem shiftedV_spec :
    (shiftedV t fat w (loadV fat chunk) prevs).map enc = shiftedOf t chunk (prevs.map enc) ∧
      ∀ v ∈ shiftedV t fat w (loadV fat chunk) prevs, v.length = w := by
  constructor
  · unfold shiftedV shiftedOf
    rw [List.map_map]
    apply List.map_congr_left
    intro i hi
    have hi' : i < t.maskLen := List.mem_range.1 hi
    simp only [Function.comp]
    rw [membersV_getD _ _ _ _ _ hi', resOf_getD _ _ _ hi']
    split
    · rename_i h1
      have hpi : i < prevs.length := by omega
      rw [E.shift_enc _ _ _ (by omega) (E.mem_len chunk hc i)
        (hpw _ (List.getD_mem prevs i [] hpi)), E.mem_enc chunk hc i, List.getD_map enc prevs i [] [] hpi]
    · exact E.mem_enc chunk hc i
  · intro v hv
    unfold shiftedV at hv
    obtain ⟨i, hi, rfl⟩ := List.mem_map.1 hv
    have hi' : i < t.maskLen := List.mem_range.1 hi
    rw [membersV_getD _ _ _ _ _ hi']
    split
    · rename_i h1
      have hpi : i < prevs.length := by omega
      exact E.shift_len _ _ _ (by omega) (E.mem_len chunk hc i)
        (hpw _ (List.getD_mem prevs i [] hpi))
    · exact E.mem_len chunk hc i

theorem candidateV_enc :
    enc (candidateV t fat w (loadV fat chunk) prevs).1 = (t.candidate chunk (prevs.map enc)).1 ∧
    (candidateV t fat w (loadV fat chunk) prevs).2.map enc = (t.candidate chunk (prevs.map enc)).2 ∧
    (candidateV t fat w (loadV fat chunk) prevs).1.length = w ∧
    (candidateV t fat w (loadV fat chunk) prevs).2.length = t.maskLen - 1 ∧
    ∀ p ∈ (candidateV t fat w (loadV fat chunk) prevs).2, p.length = w := by
  obtain ⟨hs1, hs2⟩ := shiftedV_spec E hN chunk hc prevs hp hpw
  obtain ⟨hf1, hf2⟩ := foldl_and_enc enc w E.and_enc _ (V.splat w 0xFF)
    (by unfold V.splat; rw [List.length_replicate]) hs2
  rw [candidateV_eq]
  refine ⟨?_, ?_, hf2, ?_, ?_⟩
  · rw [candidate_fst, hf1, hs1, E.splat_enc, hc]
  · rw [candidate_snd, ← membersV_enc E chunk hc, ← List.map_take]
  · show ((membersV t fat w (loadV fat chunk)).take (t.maskLen - 1)).length = _
    rw [List.length_take, membersV_length]; omega
  · intro p hp'
    have hp'' : p ∈ membersV t fat w (loadV fat chunk) := List.mem_of_mem_take hp'
    rw [membersV_eq] at hp''
    obtain ⟨i, _, rfl⟩ := List.mem_map.1 hp''
    exact E.mem_len chunk hc i

end

/-! ## the main loop and `find` -/

theorem mainLoopV_succ (t : Teddy) (fat : Bool) (w stride : Nat) (hay : PBytes) (fuel cur : Nat)
    (prevs : List Vec8) :
    mainLoopV t fat w stride hay (fuel + 1) cur prevs =
      if cur + stride ≤ hay.length then
        match (if V.isZero (candidateV t fat w (loadV fat ((hay.drop cur).take stride)) prevs).1
            then none
          else verifyV t fat w hay (cur - (t.maskLen - 1))
            (candidateV t fat w (loadV fat ((hay.drop cur).take stride)) prevs).1) with
        | some m => (some m, cur)
        | none => mainLoopV t fat w stride hay fuel (cur + stride)
            (candidateV t fat w (loadV fat ((hay.drop cur).take stride)) prevs).2
      else (none, cur) := rfl

theorem mainLoopV_enc (E : EncOK t fat w stride enc) (hN : t.maskLen ≤ 4)
    (hay : PBytes) (fuel cur : Nat) (prevs : List Vec8) (loads : List Nat)
    (hp : prevs.length = t.maskLen - 1) (hpw : ∀ p ∈ prevs, p.length = w) :
    mainLoopV t fat w stride hay fuel cur prevs =
      ((t.mainLoop hay stride fuel cur (prevs.map enc) loads).1,
       (t.mainLoop hay stride fuel cur (prevs.map enc) loads).2.1) := by
  induction fuel generalizing cur prevs loads with
  | zero => rfl
  | succ fuel ih =>
    rw [mainLoopV_succ, mainLoop_succ]
    by_cases hfit : cur + stride ≤ hay.length
    · rw [if_pos hfit, if_pos hfit]
      obtain ⟨h1, h2, h3, h4, h5⟩ := candidateV_enc E hN ((hay.drop cur).take stride)
        (chunk_at hay cur stride hfit).1 prevs hp hpw
      rw [E.zero_enc _ h3, E.verify_enc _ _ _ h3, h1]
      cases hres : (if (t.candidate ((hay.drop cur).take stride) (prevs.map enc)).1.all (· == 0)
          then none
          else t.verify hay (cur - (t.maskLen - 1))
            (t.candidate ((hay.drop cur).take stride) (prevs.map enc)).1) with
      | some m => rfl
      | none =>
        simp only
        rw [ih (cur + stride) _ (loads ++ [cur]) h4 h5, h2]
    · rw [if_neg hfit, if_neg hfit]

theorem findV_eq (t : Teddy) (fat : Bool) (w : Nat) (hay : PBytes) (start : Nat) :
    findV t fat w hay start =
      match mainLoopV t fat w (if fat then 16 else w) hay
          (hay.length / (if fat then 16 else w) + 2) (start + (t.maskLen - 1))
          (List.replicate (t.maskLen - 1) (V.splat w 0xFF)) with
      | (some m, _) => some m
      | (none, cur) =>
        if cur < hay.length then
          if V.isZero (candidateV t fat w
              (loadV fat ((hay.drop (hay.length - (if fat then 16 else w))).take
                (if fat then 16 else w)))
              (List.replicate (t.maskLen - 1) (V.splat w 0xFF))).1 then none
          else verifyV t fat w hay (hay.length - (if fat then 16 else w) - (t.maskLen - 1))
            (candidateV t fat w
              (loadV fat ((hay.drop (hay.length - (if fat then 16 else w))).take
                (if fat then 16 else w)))
              (List.replicate (t.maskLen - 1) (V.splat w 0xFF))).1
        else none := rfl

theorem findV_enc (E : EncOK t fat w stride enc) (hN : t.maskLen ≤ 4)
    (hstride : stride = if fat then 16 else w) (hay : PBytes) (start : Nat)
    (hlen : stride ≤ hay.length) :
    findV t fat w hay start = t.find hay start stride := by
  subst hstride
  have hinit : (List.replicate (t.maskLen - 1) (V.splat w 0xFF)).map enc =
      List.replicate (t.maskLen - 1) (allOnes t.nBuckets (if fat then 16 else w)) := by
    rw [List.map_replicate, E.splat_enc]
  have hil : (List.replicate (t.maskLen - 1) (V.splat w 0xFF)).length = t.maskLen - 1 :=
    List.length_replicate ..
  have hiw : ∀ p ∈ List.replicate (t.maskLen - 1) (V.splat w 0xFF), p.length = w := by
    intro p hp
    rw [List.eq_of_mem_replicate hp]
    unfold V.splat; rw [List.length_replicate]
  unfold Teddy.find
  rw [findV_eq, findT_eq, mainLoopV_enc E hN hay _ _ _ [] hil hiw, hinit]
  rcases hml : t.mainLoop hay (if fat then 16 else w) (hay.length / (if fat then 16 else w) + 2)
      (start + (t.maskLen - 1))
      (List.replicate (t.maskLen - 1) (allOnes t.nBuckets (if fat then 16 else w))) []
    with ⟨r, cur, loads⟩
  cases r with
  | some m => rfl
  | none =>
    simp only
    by_cases hcur : cur < hay.length
    · rw [if_pos hcur, if_pos hcur]
      obtain ⟨h1, _, h3, _, _⟩ := candidateV_enc E hN
        ((hay.drop (hay.length - (if fat then 16 else w))).take (if fat then 16 else w))
        (chunk_at hay _ _ (by omega)).1 _ hil hiw
      rw [E.zero_enc _ h3, E.verify_enc _ _ _ h3, h1, hinit]
    · rw [if_neg hcur, if_neg hcur]

end generic

end AcVerif.VecP

/-- the same dispatch at the vector level (`findIn_new`) -/
theorem AcVerif.findInV_new (kind : PKind) (pats : List PBytes) (v : TeddyVariant) (hay : PBytes)
    (st en : Nat) :
    (PackedSearcher.new kind pats (some v)).findInV hay st en =
      if en - st < 16 + (min 4 (PPatterns.new kind pats).minLen - 1) then
        (RabinKarp.new (PPatterns.new kind pats)).findAt (hay.take en) st
      else match v with
        | .slim128 => findV (Teddy.new (PPatterns.new kind pats) 8) false 16 (hay.take en) st
        | .slim256 =>
          if en - st < 32 + (min 4 (PPatterns.new kind pats).minLen - 1) then
            findV (Teddy.new (PPatterns.new kind pats) 8) false 16 (hay.take en) st
          else findV (Teddy.new (PPatterns.new kind pats) 8) false 32 (hay.take en) st
        | .fat256 => findV (Teddy.new (PPatterns.new kind pats) 16) true 32 (hay.take en) st := rfl
