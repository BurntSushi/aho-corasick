import AcVerif.Proofs.DfaOne
import AcVerif.Proofs.DfaIdsBoth
/-!
# `finish_build_both_starts` (start kind `Both`): the tables of `buildBoth`

`buildBoth` hands out DFA ids in NFA id order with stride `1`.  Its two loops are those of the
stored DFA (`idsRemStep`, `idsRowsStep` of `DfaIds.lean`) at the placement
`(Array.range n.size, id, 4)`: the start states `2`, `3` are the positions `4 - 2`, `4 - 1`
(`remFold_eq_remFoldB`, `rowsFold_eq_rowsFoldB`).  So the closed forms of `DfaIdsBoth` apply: the
DFA id of the copy of the NFA state `s` for the mode `anch` is `idxB 4 anch s`, `Place.both_ixSim`
at `place_id` is the simulation on these ids, and `both_obsEquiv` reads it as a `DfaM`
(`IxSim.obsEquiv_M`).
-/
namespace AcVerif.L1dP
open AcVerif AcVerif.CNfa AcVerif.L1cP AcVerif.L1eP AcVerif.L1dIdsP

def remStep (acc : Array Nat × Array Nat × Nat) (sid : Nat) : Array Nat × Array Nat × Nat :=
  if sid == DEAD || sid == FAIL then (acc.1.push acc.2.2, acc.2.1.push acc.2.2, acc.2.2 + 1)
  else if sid == SU then (acc.1.push acc.2.2, acc.2.1.push 0, acc.2.2 + 1)
  else if sid == SA then (acc.1.push 0, acc.2.1.push acc.2.2, acc.2.2 + 1)
  else (acc.1.push acc.2.2, acc.2.1.push (acc.2.2 + 1), acc.2.2 + 2)

def remFold (m : Nat) : Array Nat × Array Nat × Nat := (List.range m).foldl remStep (#[], #[], 0)

def sRowM (n : CNfa) (classOf : UInt8 → Nat) (nc : Nat) (rem : Array Nat) (sid : Nat) : Array Nat :=
  (sparseIter (n.getD sid {}).trans classOf).foldl (fun row (_, cls, next) =>
    row.set! cls (if next == FAIL then 0 else rem.getD next 0)) (Array.replicate nc 0)

def aRowM (n : CNfa) (classOf : UInt8 → Nat) (nc : Nat) (remA : Array Nat) (sid : Nat) : Array Nat :=
  (sparseIter (n.getD sid {}).trans classOf).foldl (fun row (_, cls, next) =>
    if next == FAIL then row else row.set! cls (remA.getD next 0)) (Array.replicate nc 0)

def uRowM (n : CNfa) (classOf : UInt8 → Nat) (nc : Nat) (remU : Array Nat) (sid : Nat) : Array Nat :=
  (dfaRow n classOf nc false sid).map fun t => remU.getD t 0

def rowsStep (n : CNfa) (classOf : UInt8 → Nat) (nc : Nat) (remU remA : Array Nat)
    (acc : Array (Array Nat) × Array (List Nat)) (sid : Nat) : Array (Array Nat) × Array (List Nat) :=
  if sid == DEAD || sid == FAIL then (acc.1.push (Array.replicate nc 0), acc.2.push [])
  else if sid == SU || sid == SA then
    (acc.1.push (sRowM n classOf nc (if sid == SU then remU else remA) sid),
      acc.2.push (n.getD sid {}).matches_)
  else
    ((acc.1.push (uRowM n classOf nc remU sid)).push (aRowM n classOf nc remA sid),
      (acc.2.push (n.getD sid {}).matches_).push (n.getD sid {}).matches_)

def rowsFold (n : CNfa) (classOf : UInt8 → Nat) (nc : Nat) (remU remA : Array Nat) (m : Nat) :=
  (List.range m).foldl (rowsStep n classOf nc remU remA) (#[], #[])

theorem buildBoth_eq (n : CNfa) (classOf : UInt8 → Nat) (nc : Nat) :
    buildBoth n classOf nc =
      { rows := (rowsFold n classOf nc (remFold n.size).1 (remFold n.size).2.1 n.size).1
        classOf := classOf
        matches_ := (rowsFold n classOf nc (remFold n.size).1 (remFold n.size).2.1 n.size).2
        startU := some ((remFold n.size).1.getD SU 0)
        startA := some ((remFold n.size).2.1.getD SA 0) } := rfl

/-! ## the two loops as those of `DfaIdsBoth` -/

theorem remFold_eq_remFoldB (m : Nat) : remFold m = remFoldB 4 1 m := rfl

theorem place_id (n : CNfa) : Place n (Array.range n.size) id 4 where
  na_ge := Nat.le_refl 4
  pos_lt := fun _ hs => hs
  order_pos := fun s hs => Array.getD_range 0 hs
  kind := fun s _ h1 => by
    by_cases h4 : 4 ≤ s
    · exact .inr (.inr (.inr ⟨h4, Nat.le_trans (by decide) h4, by show ¬ (s < 2 ∨ s + 2 = 4 ∨ s + 1 = 4); omega⟩))
    · have : s = 0 ∨ s = 2 ∨ s = 3 := by omega
      rcases this with rfl | rfl | rfl
      · exact .inl ⟨rfl, rfl⟩
      · exact .inr (.inl ⟨rfl, rfl⟩)
      · exact .inr (.inr (.inl ⟨rfl, rfl⟩))

theorem rowsStep_eq_idsRowsStep (n : CNfa) (classOf : UInt8 → Nat) (nc : Nat) (remU remA : Array Nat)
    (acc : Array (Array Nat) × Array (List Nat)) {i : Nat} (hi : i < n.size) :
    rowsStep n classOf nc remU remA acc i =
      idsRowsStep n classOf nc 4 (Array.range n.size) (fun t => remU.getD t 0)
        (fun t => remA.getD t 0) acc i := by
  have e2 : (4 - 2 : Nat) = SU := rfl
  have e1 : (4 - 1 : Nat) = SA := rfl
  unfold rowsStep idsRowsStep
  simp only [Array.getD_range 0 hi, e2, e1]
  cases (i == SU) <;> rfl

theorem rowsFold_succ (n : CNfa) (classOf : UInt8 → Nat) (nc : Nat) (remU remA : Array Nat)
    (m : Nat) :
    rowsFold n classOf nc remU remA (m + 1) =
      rowsStep n classOf nc remU remA (rowsFold n classOf nc remU remA m) m := by
  unfold rowsFold
  rw [List.range_succ, List.foldl_append]
  rfl

theorem rowsFold_eq_rowsFoldB (n : CNfa) (classOf : UInt8 → Nat) (nc : Nat) (remU remA : Array Nat)
    {m : Nat} (hm : m ≤ n.size) :
    rowsFold n classOf nc remU remA m =
      rowsFoldB n classOf nc 4 (Array.range n.size) (fun t => remU.getD t 0)
        (fun t => remA.getD t 0) m := by
  induction m with
  -- (`rfl` would compare the two step functions first)
  | zero => unfold rowsFold rowsFoldB; rw [List.range_zero, List.foldl_nil, List.foldl_nil]
  | succ m ih =>
    rw [rowsFold_succ, rowsFoldB_succ, ih (Nat.le_of_succ_le hm)]
    exact rowsStep_eq_idsRowsStep n classOf nc remU remA _ hm

/-! ## the `Both` DFA and the NFA, from the start states of either mode -/

section
variable {f : UInt8 → UInt8} {k : MatchKind} {Q : PatSet UInt8} {L : List (List UInt8)} {N : CNfa}
variable {classOf : UInt8 → Nat} {nc : Nat}

theorem remFold_start (h : NfaSpec f k Q L N) :
    (remFold N.size).1.getD SU 0 = 2 ∧ (remFold N.size).2.1.getD SA 0 = 3 := by
  have h4 := h.four_le_size
  rw [remFold_eq_remFoldB]
  exact ⟨(place_id N).rem 1 (s := 2) (anch := false) (by omega) (by decide) (by decide),
    (place_id N).rem 1 (s := 3) (anch := true) (by omega) (by decide) (by decide)⟩

-- (stated through `remFold` first: the unifier would otherwise unfold `buildBoth`)
theorem both_startU (h : NfaSpec f k Q L N) (classOf : UInt8 → Nat) (nc : Nat) :
    (buildBoth N classOf nc).startU = some 2 := by
  show some ((remFold N.size).1.getD SU 0) = some 2
  rw [(remFold_start h).1]

theorem both_startA (h : NfaSpec f k Q L N) (classOf : UInt8 → Nat) (nc : Nat) :
    (buildBoth N classOf nc).startA = some 3 := by
  show some ((remFold N.size).2.1.getD SA 0) = some 3
  rw [(remFold_start h).2]

theorem both_obsEquiv (h : NfaSpec f k Q L N) (hC : ClassOK N classOf nc) (P : List (List UInt8))
    (hasPre anch : Bool) :
    ObsEquiv ((buildBoth N classOf nc).toAut k P hasPre) (N.toAut k P hasPre) false anch
      (startOf anch) (startOf anch) := by
  have hI := (place_id N).both_ixSim h hC 1 anch
  have hg : remP id 4 1 N.size anch (startOf anch) = startOf anch :=
    (hI.id _ (LvA_start L anch)).trans (by cases anch <;> rfl)
  rw [buildBoth_eq, rowsFold_eq_rowsFoldB _ _ _ _ _ (Nat.le_refl _)]
  have := hI.obsEquiv_M (d := { rows := _, classOf := classOf, matches_ := _, startU := _, startA := _ })
    h (congrArg some (remFold_start h).1) (congrArg some (remFold_start h).2) (by decide)
    (by decide) rfl P hasPre
  rw [hg] at this
  exact this

end

end AcVerif.L1dP
