import AcVerif.Proofs.BuildCheckedBase
/-!
# C20: the checked `build_trie` loop, exactly

Because `states`, `sparse` and `matches` only grow, the per-iteration tests of the checked loop
collapse: the loop succeeds iff every pattern passes its two tests (`PatOk`) and the *final* lengths
are within the limit (`TrieFits`) – `trieFrom_ok_iff`; and it fails with `e` iff there is a first
iteration whose step fails with `e` – `trieFrom_error_iff`, with `trieStepChecked_error_iff` for the
single step.
-/
namespace AcVerif.BuildP
open AcVerif AcVerif.CNfa

/-! ## `Except`: a test, a sequence, a loop -/

section Except
variable {ε α β σ : Type}

theorem ite_eq_ok {c : Prop} [Decidable c] {a b : α} {e : ε} :
    (if c then Except.ok a else Except.error e) = .ok b ↔ c ∧ b = a := by
  split
  · simp [*, eq_comm]
  · simp [*]

theorem ite_eq_error {c : Prop} [Decidable c] {a : α} {e e' : ε} :
    (if c then Except.ok a else Except.error e) = .error e' ↔ ¬ c ∧ e' = e := by
  split
  · simp [*]
  · simp [*, eq_comm]

theorem bind_eq_ok {x : Except ε α} {f : α → Except ε β} {b : β} :
    x >>= f = .ok b ↔ ∃ a, x = .ok a ∧ f a = .ok b := by
  cases x <;> simp [bind, Except.bind]

theorem bind_eq_error {x : Except ε α} {f : α → Except ε β} {e : ε} :
    x >>= f = .error e ↔ x = .error e ∨ ∃ a, x = .ok a ∧ f a = .error e := by
  cases x <;> simp [bind, Except.bind]

theorem foldlM_eq_error {f : σ → α → Except ε σ} {e : ε} : ∀ (xs : List α) (s : σ),
    xs.foldlM f s = .error e ↔
      ∃ i, ∃ h : i < xs.length, ∃ t, (xs.take i).foldlM f s = .ok t ∧ f t xs[i] = .error e
  | [], s => by simp [pure, Except.pure]
  | x :: xs, s => by
    rw [List.foldlM_cons, bind_eq_error]
    constructor
    · rintro (h | ⟨a, ha, h⟩)
      · exact ⟨0, Nat.zero_lt_succ _, s, rfl, h⟩
      · obtain ⟨i, hi, t, ht, he⟩ := (foldlM_eq_error xs a).1 h
        refine ⟨i + 1, Nat.succ_lt_succ hi, t, ?_, he⟩
        rw [List.take_succ_cons, List.foldlM_cons, ha]; exact ht
    · rintro ⟨i, hi, t, ht, he⟩
      cases i with
      | zero => cases ht; exact Or.inl he
      | succ i =>
        rw [List.take_succ_cons, List.foldlM_cons, bind_eq_ok] at ht
        obtain ⟨a, ha, ht⟩ := ht
        exact Or.inr ⟨a, ha, (foldlM_eq_error xs a).2 ⟨i, Nat.lt_of_succ_lt_succ hi, t, ht, he⟩⟩

end Except

/-! ## one iteration -/

/-- the three vectors `build_trie` pushes to are within the `StateID` limit -/
def TrieFits (L : Limits) (n : CNfa) : Prop :=
  n.size ≤ L.stateIdLimit ∧ sparseLen n ≤ L.stateIdLimit ∧ matchesLen n ≤ L.stateIdLimit

instance (L : Limits) (n : CNfa) : Decidable (TrieFits L n) := by unfold TrieFits; infer_instance

/-- the two per-pattern tests of `build_trie` -/
def PatOk (L : Limits) (x : List UInt8 × Nat) : Prop :=
  x.2 < L.patternIdLimit ∧ x.1.length ≤ L.smallIndexMax

instance (L : Limits) (x : List UInt8 × Nat) : Decidable (PatOk L x) := by
  unfold PatOk; infer_instance

theorem TrieFits_foldl {L : Limits} {k : MatchKind} {fold : Bool} (xs : List (List UInt8 × Nat))
    (n : CNfa) (h : TrieFits L (xs.foldl (trieStep k fold) n)) : TrieFits L n := by
  have s := foldl_trieStep_sizes k fold xs n
  unfold TrieFits at *
  rw [sparseLen_eq, matchesLen_eq] at *
  omega

theorem trieStepChecked_eq (L : Limits) (k : MatchKind) (fold : Bool) (n : CNfa)
    (x : List UInt8 × Nat) :
    trieStepChecked L k fold n x =
      if ¬ x.2 < L.patternIdLimit then .error .patternIdOverflow
      else if ¬ x.1.length ≤ L.smallIndexMax then .error (.patternTooLong x.2 x.1.length)
      else if TrieFits L (trieStep k fold n x) then .ok (trieStep k fold n x)
      else .error .stateIdOverflow := rfl

theorem trieStepChecked_ok_iff (L : Limits) (k : MatchKind) (fold : Bool) (n t : CNfa)
    (x : List UInt8 × Nat) :
    trieStepChecked L k fold n x = .ok t ↔
      PatOk L x ∧ TrieFits L (trieStep k fold n x) ∧ t = trieStep k fold n x := by
  rw [trieStepChecked_eq, PatOk]
  by_cases h1 : x.2 < L.patternIdLimit <;> by_cases h2 : x.1.length ≤ L.smallIndexMax <;>
    simp [h1, h2, ite_eq_ok]

theorem trieStepChecked_error_iff (L : Limits) (k : MatchKind) (fold : Bool) (n : CNfa)
    (x : List UInt8 × Nat) (e : BuildErr) :
    trieStepChecked L k fold n x = .error e ↔
      (¬ x.2 < L.patternIdLimit ∧ e = .patternIdOverflow) ∨
      (x.2 < L.patternIdLimit ∧ ¬ x.1.length ≤ L.smallIndexMax ∧
        e = .patternTooLong x.2 x.1.length) ∨
      (PatOk L x ∧ ¬ TrieFits L (trieStep k fold n x) ∧ e = .stateIdOverflow) := by
  rw [trieStepChecked_eq, PatOk]
  by_cases h1 : x.2 < L.patternIdLimit
  · by_cases h2 : x.1.length ≤ L.smallIndexMax
    · simp [h1, h2, ite_eq_error]
    · simp [h1, h2, @eq_comm _ _ e]
  · simp [h1, @eq_comm _ _ e]

theorem trieStepChecked_patternId {L : Limits} {k : MatchKind} {fold : Bool} {n : CNfa}
    {x : List UInt8 × Nat} :
    trieStepChecked L k fold n x = .error .patternIdOverflow ↔ ¬ x.2 < L.patternIdLimit := by
  simp [trieStepChecked_error_iff]

theorem trieStepChecked_tooLong {L : Limits} {k : MatchKind} {fold : Bool} {n : CNfa}
    {x : List UInt8 × Nat} {i len : Nat} :
    trieStepChecked L k fold n x = .error (.patternTooLong i len) ↔
      x.2 < L.patternIdLimit ∧ ¬ x.1.length ≤ L.smallIndexMax ∧ i = x.2 ∧ len = x.1.length := by
  simp [trieStepChecked_error_iff]

theorem trieStepChecked_stateId {L : Limits} {k : MatchKind} {fold : Bool} {n : CNfa}
    {x : List UInt8 × Nat} :
    trieStepChecked L k fold n x = .error .stateIdOverflow ↔
      PatOk L x ∧ ¬ TrieFits L (trieStep k fold n x) := by
  simp [trieStepChecked_error_iff]

/-! ## the loop, from an automaton that fits -/

theorem trieFrom_ok_iff {L : Limits} {k : MatchKind} {fold : Bool} :
    ∀ (xs : List (List UInt8 × Nat)) (n t : CNfa), TrieFits L n →
      (trieFromChecked L k fold n xs = .ok t ↔
        t = xs.foldl (trieStep k fold) n ∧ (∀ x ∈ xs, PatOk L x) ∧ TrieFits L t)
  | [], n, t, hn => by
    unfold trieFromChecked
    rw [List.foldlM_nil]
    constructor
    · intro h; cases h; exact ⟨rfl, by simp, hn⟩
    · rintro ⟨rfl, _⟩; rfl
  | x :: xs, n, t, _ => by
    have ih := trieFrom_ok_iff (L := L) (k := k) (fold := fold) xs
    unfold trieFromChecked at ih ⊢
    rw [List.foldlM_cons, bind_eq_ok]
    simp only [trieStepChecked_ok_iff]
    constructor
    · rintro ⟨_, ⟨hp, hf, rfl⟩, h⟩
      obtain ⟨rfl, hall, hfit⟩ := (ih _ t hf).1 h
      exact ⟨rfl, List.forall_mem_cons.2 ⟨hp, hall⟩, hfit⟩
    · rintro ⟨rfl, hall, hfit⟩
      have hf := TrieFits_foldl xs _ hfit
      exact ⟨_, ⟨hall x List.mem_cons_self, hf, rfl⟩,
        (ih _ _ hf).2 ⟨rfl, fun y hy => hall y (List.mem_cons_of_mem _ hy), hfit⟩⟩

theorem trieFrom_error_iff {L : Limits} {k : MatchKind} {fold : Bool} (xs : List (List UInt8 × Nat))
    {n : CNfa} (hn : TrieFits L n) (e : BuildErr) :
    trieFromChecked L k fold n xs = .error e ↔
      ∃ i, ∃ h : i < xs.length, (∀ x ∈ xs.take i, PatOk L x) ∧
        TrieFits L ((xs.take i).foldl (trieStep k fold) n) ∧
        trieStepChecked L k fold ((xs.take i).foldl (trieStep k fold) n) xs[i] = .error e := by
  have hok := fun i t => trieFrom_ok_iff (L := L) (k := k) (fold := fold) (xs.take i) n t hn
  unfold trieFromChecked at hok ⊢
  rw [foldlM_eq_error]
  constructor
  · rintro ⟨i, h, t, ht, he⟩
    obtain ⟨rfl, hall, hfit⟩ := (hok i t).1 ht
    exact ⟨i, h, hall, hfit, he⟩
  · rintro ⟨i, h, hall, hfit, he⟩
    exact ⟨i, h, _, (hok i _).2 ⟨rfl, hall, hfit⟩, he⟩

/-! ## `P.zipIdx` -/

theorem take_zipIdx (P : List (List UInt8)) (i j : Nat) :
    (P.zipIdx j).take i = (P.take i).zipIdx j := by
  induction P generalizing i j with
  | nil => simp
  | cons p P ih =>
    cases i with
    | zero => rfl
    | succ i => rw [List.zipIdx_cons, List.take_succ_cons, List.take_succ_cons, List.zipIdx_cons, ih]

theorem patOk_zipIdx_iff (L : Limits) (P : List (List UInt8)) :
    (∀ x ∈ P.zipIdx, PatOk L x) ↔
      P.length ≤ L.patternIdLimit ∧ ∀ p ∈ P, p.length ≤ L.smallIndexMax := by
  unfold PatOk
  constructor
  · intro h
    have hmem : ∀ i, ∀ hi : i < P.length, (P[i], i) ∈ P.zipIdx := fun i hi =>
      List.mem_iff_getElem.2 ⟨i, by rw [List.length_zipIdx]; exact hi, by
        rw [List.getElem_zipIdx, Nat.zero_add]⟩
    constructor
    · cases hP : P.length with
      | zero => exact Nat.zero_le _
      | succ m => exact (h _ (hmem m (by omega))).1
    · intro p hp
      obtain ⟨i, hi, rfl⟩ := List.mem_iff_getElem.1 hp
      exact (h _ (hmem i hi)).2
  · rintro ⟨h1, h2⟩ ⟨p, i⟩ hx
    obtain ⟨_, hi, hp⟩ := List.mem_zipIdx hx
    have hpm : p ∈ P := hp ▸ List.getElem_mem _
    simp only [Nat.zero_add] at hi ⊢
    exact ⟨by omega, h2 _ hpm⟩

theorem errOf_ite {α : Type} {c : Prop} [Decidable c] {a : α} {e : BuildErr} :
    errOf (if c then Except.ok a else .error e) = none ↔ c := by
  split <;> simp [errOf, *]

end AcVerif.BuildP
