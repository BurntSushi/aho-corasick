import AcVerif.Proofs.BuildCheckedLoop
import AcVerif.Proofs.BuildCheckedContig
import AcVerif.Proofs.BuildCheckedMatches
/-!
# C20: `compileChecked` exactly, and the other builders as `if`s

`compile_ok_iff` / `compile_error_iff`: the checked noncontiguous build is the preamble test, the
loop of `build_trie` (`trieFrom_ok_iff`, `trieFrom_error_iff`) and the tests of the later phases
(`PostOk`).  `buildDfaChecked_eq`, `buildContigChecked_eq`, `buildAutoChecked_eq`, `buildChecked_eq`:
each remaining builder is one decidable test (`DfaFits`, `contigAllocOk`), and `build_auto` is the
choice `autoChoice` among them.
-/
namespace AcVerif.BuildP
open AcVerif AcVerif.CNfa

/-- the tests of `compile` after `build_trie` (`copy_matches`, `alloc_dense_state`) -/
def PostOk (L : Limits) (n : CNfa) (dd : Nat) : Prop :=
  matchesLen n ≤ L.stateIdLimit ∧ denseAllocOk L n dd = true

instance (L : Limits) (n : CNfa) (dd : Nat) : Decidable (PostOk L n dd) := by
  unfold PostOk; infer_instance

theorem buildTrie_take_succ (k : MatchKind) (fold : Bool) (P : List (List UInt8)) (i : Nat)
    (h : i < P.length) :
    trieStep k fold (buildTrie k fold (P.take i)) (P[i], i) = buildTrie k fold (P.take (i + 1)) := by
  rw [buildTrie_eq, buildTrie_eq, ← take_zipIdx, ← take_zipIdx,
    List.take_succ_eq_append_getElem (by rw [List.length_zipIdx]; exact h), List.foldl_append,
    List.getElem_zipIdx, Nat.zero_add]
  rfl

theorem forall_mem_take_succ {P : List (List UInt8)} {i : Nat} (h : i < P.length)
    {q : List UInt8 → Prop} : (∀ p ∈ P.take (i + 1), q p) ↔ (∀ p ∈ P.take i, q p) ∧ q P[i] := by
  rw [List.take_succ_eq_append_getElem h, List.forall_mem_append, List.forall_mem_singleton]

theorem compileChecked_eq (L : Limits) (k : MatchKind) (fold : Bool) (dd : Nat)
    (P : List (List UInt8)) :
    compileChecked L k fold dd P =
      (if TrieFits L init then Except.ok init else .error .stateIdOverflow) >>= fun n0 =>
      trieFromChecked L k fold n0 P.zipIdx >>= fun t =>
      if PostOk L (finishCompile k fold t) dd then .ok (finishCompile k fold t)
      else .error .stateIdOverflow := by
  -- the preamble pushes nothing to `matches`
  have h : init.size ≤ L.stateIdLimit ∧ sparseLen init ≤ L.stateIdLimit ↔ TrieFits L init := by
    unfold TrieFits
    rw [matchesLen_eq, wsum_gM_init, init_size]
    exact ⟨fun h => ⟨h.1, h.2, by omega⟩, fun h => ⟨h.1, h.2.1⟩⟩
  unfold compileChecked initChecked
  simp only [h]
  rfl

theorem compile_ok_iff (L : Limits) (k : MatchKind) (fold : Bool) (dd : Nat)
    (P : List (List UInt8)) (n : CNfa) :
    compileChecked L k fold dd P = .ok n ↔
      n = compile k fold P ∧ P.length ≤ L.patternIdLimit ∧
      (∀ p ∈ P, p.length ≤ L.smallIndexMax) ∧ TrieFits L (buildTrie k fold P) ∧
      PostOk L (compile k fold P) dd := by
  rw [compileChecked_eq]
  simp only [bind_eq_ok, ite_eq_ok]
  constructor
  · rintro ⟨_, ⟨hi, rfl⟩, t, ht, hpost, rfl⟩
    obtain ⟨rfl, hall, hfit⟩ := (trieFrom_ok_iff _ _ _ hi).1 ht
    obtain ⟨h1, h2⟩ := (patOk_zipIdx_iff L P).1 hall
    exact ⟨rfl, h1, h2, hfit, hpost⟩
  · rintro ⟨rfl, h1, h2, hfit, hpost⟩
    have hi : TrieFits L init := TrieFits_foldl _ _ hfit
    exact ⟨_, ⟨hi, rfl⟩, _,
      (trieFrom_ok_iff _ _ _ hi).2 ⟨rfl, (patOk_zipIdx_iff L P).2 ⟨h1, h2⟩, hfit⟩, hpost, rfl⟩

theorem compile_error_iff (L : Limits) (k : MatchKind) (fold : Bool) (dd : Nat)
    (P : List (List UInt8)) (e : BuildErr) :
    compileChecked L k fold dd P = .error e ↔
      (¬ TrieFits L init ∧ e = .stateIdOverflow) ∨
      (∃ i, ∃ h : i < P.length, i ≤ L.patternIdLimit ∧
        (∀ p ∈ P.take i, p.length ≤ L.smallIndexMax) ∧
        TrieFits L (buildTrie k fold (P.take i)) ∧
        trieStepChecked L k fold (buildTrie k fold (P.take i)) (P[i], i) = .error e) ∨
      (P.length ≤ L.patternIdLimit ∧ (∀ p ∈ P, p.length ≤ L.smallIndexMax) ∧
        TrieFits L (buildTrie k fold P) ∧ ¬ PostOk L (compile k fold P) dd ∧
        e = .stateIdOverflow) := by
  -- the tests on the first `i` patterns, read on `P.zipIdx`
  have hpre : ∀ i, i < P.length → ((∀ x ∈ P.zipIdx.take i, PatOk L x) ↔
      i ≤ L.patternIdLimit ∧ ∀ p ∈ P.take i, p.length ≤ L.smallIndexMax) := by
    intro i hi
    rw [take_zipIdx, patOk_zipIdx_iff, List.length_take, Nat.min_eq_left (Nat.le_of_lt hi)]
  have hlen : P.zipIdx.length = P.length := List.length_zipIdx
  have htrie : ∀ i, (P.zipIdx.take i).foldl (trieStep k fold) init = buildTrie k fold (P.take i) :=
    fun i => by rw [take_zipIdx]; rfl
  rw [compileChecked_eq]
  simp only [bind_eq_error, ite_eq_ok, ite_eq_error]
  constructor
  · rintro (h | ⟨_, ⟨hi, rfl⟩, h | ⟨t, ht, hpost, rfl⟩⟩)
    · exact Or.inl h
    · obtain ⟨i, hlt, hall, hfit, he⟩ := (trieFrom_error_iff _ hi e).1 h
      rw [hlen] at hlt
      rw [htrie] at hfit he
      rw [List.getElem_zipIdx, Nat.zero_add] at he
      exact Or.inr (Or.inl ⟨i, hlt, ((hpre i hlt).1 hall).1, ((hpre i hlt).1 hall).2, hfit, he⟩)
    · obtain ⟨rfl, hall, hfit⟩ := (trieFrom_ok_iff _ _ _ hi).1 ht
      obtain ⟨h1, h2⟩ := (patOk_zipIdx_iff L P).1 hall
      exact Or.inr (Or.inr ⟨h1, h2, hfit, hpost, rfl⟩)
  · rintro (h | ⟨i, hlt, h1, h2, hfit, he⟩ | ⟨h1, h2, hfit, hpost, rfl⟩)
    · exact Or.inl h
    · have hi : TrieFits L init := TrieFits_foldl _ _ hfit
      refine Or.inr ⟨_, ⟨hi, rfl⟩, Or.inl ((trieFrom_error_iff _ hi e).2
        ⟨i, by rw [hlen]; exact hlt, (hpre i hlt).2 ⟨h1, h2⟩, ?_, ?_⟩)⟩
      · rw [htrie]; exact hfit
      · rw [htrie, List.getElem_zipIdx, Nat.zero_add]; exact he
    · have hi : TrieFits L init := TrieFits_foldl _ _ hfit
      exact Or.inr ⟨_, ⟨hi, rfl⟩, Or.inr ⟨_, (trieFrom_ok_iff _ _ _ hi).2
        ⟨rfl, (patOk_zipIdx_iff L P).2 ⟨h1, h2⟩, hfit⟩, hpost, rfl⟩⟩

/-! ## the contiguous NFA and the DFA builder as `if`s -/

/-- the test of the DFA builder that can fail: the id of the last state fits -/
def DfaFits (L : Limits) (n : CNfa) (sk : StartKind) (bc hp : Bool) : Prop :=
  ((buildDfaIds n sk bc hp).stateLen <<< (buildDfaIds n sk bc hp).stride2) -
    (1 <<< (buildDfaIds n sk bc hp).stride2) < L.stateIdLimit

instance (L : Limits) (n : CNfa) (sk : StartKind) (bc hp : Bool) : Decidable (DfaFits L n sk bc hp) := by
  unfold DfaFits; infer_instance

theorem buildDfaChecked_eq (L : Limits) (n : CNfa) (sk : StartKind) (bc hp : Bool) :
    buildDfaChecked L n sk bc hp =
      if DfaFits L n sk bc hp then .ok (buildDfaIds n sk bc hp) else .error .stateIdOverflow := by
  unfold buildDfaChecked DfaFits usizeBits
  have h8 := buildDfaIds_stride2_le n sk bc hp
  simp only
  rw [if_neg (by omega)]

theorem buildContigChecked_eq (L : Limits) (n : CNfa) (dd : Nat) (bc hp : Bool) :
    buildContigChecked L n dd bc hp =
      if contigAllocOk L n dd bc = true then .ok (buildContig n dd bc hp)
      else .error .stateIdOverflow := rfl

/-- what `build_auto` returns -/
def autoChoice (L : Limits) (cfg : BuildCfg) (npats : Nat) (n : CNfa) : Built :=
  if tryDfa cfg npats = true ∧ DfaFits L n cfg.startKind cfg.byteClasses cfg.hasPre then
    .dfa (buildDfaIds n cfg.startKind cfg.byteClasses cfg.hasPre)
  else if contigAllocOk L n cfg.contigDenseDepth cfg.byteClasses = true then
    .contig (buildContig n cfg.contigDenseDepth cfg.byteClasses cfg.hasPre)
  else builtNnc cfg n

theorem buildAutoChecked_eq (L : Limits) (cfg : BuildCfg) (npats : Nat) (n : CNfa) :
    buildAutoChecked L cfg npats n = autoChoice L cfg npats n := by
  unfold buildAutoChecked autoChoice
  rw [buildDfaChecked_eq, buildContigChecked_eq]
  by_cases ht : tryDfa cfg npats = true <;>
    by_cases hd : DfaFits L n cfg.startKind cfg.byteClasses cfg.hasPre <;>
    by_cases hc : contigAllocOk L n cfg.contigDenseDepth cfg.byteClasses = true <;>
    simp [ht, hd, hc, Except.toOption]

theorem buildChecked_eq (L : Limits) (cfg : BuildCfg) (P : List (List UInt8)) :
    buildChecked L cfg P =
      match compileChecked L cfg.matchKind cfg.fold cfg.nncDenseDepth P with
      | .error e => .error e
      | .ok n =>
        match cfg.kind with
        | none => .ok (autoChoice L cfg P.length n)
        | some .noncontiguous => .ok (builtNnc cfg n)
        | some .contiguous =>
          if contigAllocOk L n cfg.contigDenseDepth cfg.byteClasses = true then
            .ok (.contig (buildContig n cfg.contigDenseDepth cfg.byteClasses cfg.hasPre))
          else .error .stateIdOverflow
        | some .dfa =>
          if DfaFits L n cfg.startKind cfg.byteClasses cfg.hasPre then
            .ok (.dfa (buildDfaIds n cfg.startKind cfg.byteClasses cfg.hasPre))
          else .error .stateIdOverflow := by
  unfold buildChecked
  cases hc : compileChecked L cfg.matchKind cfg.fold cfg.nncDenseDepth P with
  | error e => rfl
  | ok n =>
    dsimp only [bind, Except.bind]
    cases hk : cfg.kind with
    | none => dsimp only; rw [buildAutoChecked_eq]; rfl
    | some kd =>
      cases kd with
      | noncontiguous => rfl
      | contiguous =>
        dsimp only
        rw [buildContigChecked_eq]
        by_cases h : contigAllocOk L n cfg.contigDenseDepth cfg.byteClasses = true
        · rw [if_pos h, if_pos h]; rfl
        · rw [if_neg h, if_neg h]
      | dfa =>
        dsimp only
        rw [buildDfaChecked_eq]
        by_cases h : DfaFits L n cfg.startKind cfg.byteClasses cfg.hasPre
        · rw [if_pos h, if_pos h]; rfl
        · rw [if_neg h, if_neg h]

theorem contigAllocOk_compile (L : Limits) (k : MatchKind) (fold : Bool)
    (P : List (List UInt8)) (dd : Nat) (bc : Bool)
    (h : (259 + P.length) * (4 + totalLen P) ≤ L.stateIdLimit + 1) :
    contigAllocOk L (compile k fold P) dd bc = true :=
  contigAllocOk_of_matches L _ dd bc P.length (matches_length_le k fold P)
    (Nat.le_trans (Nat.mul_le_mul_left _ (size_compile_bounds k fold P).2) h)

theorem DfaFits_of_size (L : Limits) (n : CNfa) (sk : StartKind) (bc hp : Bool)
    (h : 512 * n.size ≤ L.stateIdLimit) (h0 : 0 < n.size) : DfaFits L n sk bc hp := by
  unfold DfaFits
  have h1 := buildDfaIds_shl_le n sk bc hp
  have h2 : 0 < 1 <<< (buildDfaIds n sk bc hp).stride2 := by
    rw [Nat.shiftLeft_eq, Nat.one_mul]; exact Nat.two_pow_pos _
  omega

end AcVerif.BuildP
