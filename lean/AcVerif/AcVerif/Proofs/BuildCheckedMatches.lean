import AcVerif.BuildChecked
import AcVerif.Proofs.CompilerFinal
import AcVerif.Proofs.ContigOut
/-!
# C20: an explicit bound on `matchesLen` of the compiled noncontiguous NFA

Every state of `CNfa.compile k fold P` lists at most `P.length` pattern ids (a kept pattern is a
suffix of the state's string in at most one way: `L1eP.out_length_le`), and the states `DEAD` and
`FAIL` list none (`matches_length_le`).  Hence
`matchesLen (compile k fold P) ≤ 1 + P.length * (size - 2)` (`matchesLen_compile_le`).
-/
namespace AcVerif.BuildP
open AcVerif AcVerif.CNfa AcVerif.L1cP AcVerif.L1cFoldP AcVerif.LmP

/-! ## the `FAIL` state keeps an empty match list through all phases -/

theorem fail_state_mats (k : MatchKind) {n0 n : CNfa} (h4 : 4 ≤ n0.size)
    (h1 : n0.getD 1 {} = { fail := SU }) (hsz : n.size = n0.size)
    (hkeep : n.getD 1 {} = (startPhase n0).getD 1 {}) :
    ((closeStartLoop k n).getD 1 {}).matches_ = [] := by
  have hbase : (n.getD 1 {}).matches_ = [] := by
    rw [hkeep, getD_startPhase n0 h4, if_neg (by simp [SU]), if_neg (by simp [SA]), h1]
  rw [closeStartLoop_eq]
  split
  · rw [getD_closeSU n (by rw [hsz]; simp only [SU]; omega), if_neg (by simp [SU])]
    exact hbase
  · exact hbase

/-- `compile_specG`, keeping two more facts -/
theorem compile_specG' (k : MatchKind) (fold : Bool) (P : List (List UInt8)) :
    ∃ L, NfaSpec (foldIf fold) k (patSet k (P.map (List.map (foldIf fold)))) L (compile k fold P) ∧
      L.Nodup ∧ ((compile k fold P).getD 1 {}).matches_ = [] := by
  obtain ⟨L, pend, hT, hF, hall⟩ := compile_phases k fold P
  exact ⟨L, NfaSpec_of_FI (PBg_startPhase hT) hF hall, hT.nodup,
    fail_state_mats k (by rw [hT.size]; omega) hT.s1 (hF.size.trans (size_startPhase _))
      (hF.keep 1 (by decide))⟩

/-! ## every state -/

structure Bd (N : CNfa) (c : Nat) : Prop where
  all : ∀ sid, (N.getD sid {}).matches_.length ≤ c
  s0 : (N.getD 0 {}).matches_ = []
  s1 : (N.getD 1 {}).matches_ = []

theorem Bd_of_mats {f : UInt8 → UInt8} {k : MatchKind} {Q : PatSet UInt8} {N : CNfa}
    {L : List (List UInt8)} {c : Nat} (h : NfaSpec f k Q L N) (hnd : L.Nodup)
    (hm : ∀ u, (u = [] ∨ u ∈ L) → (N.getD (nu L u) {}).matches_.length ≤ c)
    (h1 : (N.getD FAIL {}).matches_ = []) (h3 : (N.getD SA {}).matches_.length ≤ c) : Bd N c := by
  refine ⟨fun sid => ?_, h.mats_dead, h1⟩
  by_cases hs : sid < N.size
  · rcases h.id_cases hnd hs with e | e | e | ⟨u, hu, e⟩
    · rw [e, h.mats_dead]; exact Nat.zero_le _
    · rw [e, h1]; exact Nat.zero_le _
    · rw [e]; exact h3
    · rw [e]; exact hm u hu
  · rw [Array.getD_of_size_le N _ (by omega)]
    exact Nat.zero_le _

theorem Bd_compile (k : MatchKind) (fold : Bool) (P : List (List UInt8)) :
    Bd (compile k fold P) P.length := by
  obtain ⟨L, hS, hnd, h1⟩ := compile_specG' k fold P
  have hl : (P.map (List.map (foldIf fold))).length = P.length := List.length_map _
  refine Bd_of_mats hS hnd (fun u hu => ?_) h1 ?_
  · rw [hS.mats u hu, ← hl]; exact L1eP.out_length_le k _ _
  · rw [hS.mats_sa, ← hl]; exact L1eP.out_length_le k _ _

theorem matches_length_le (k : MatchKind) (fold : Bool) (P : List (List UInt8)) (sid : Nat) :
    ((CNfa.compile k fold P).getD sid {}).matches_.length ≤ P.length :=
  (Bd_compile k fold P).all sid

/-! ## the sum -/

theorem sum_map_le (g : CState → Nat) (c : Nat) (l : List CState)
    (h : ∀ i : Nat, g (l[i]?.getD ({} : CState)) ≤ c) : (l.map g).sum ≤ c * l.length := by
  induction l with
  | nil => exact Nat.zero_le _
  | cons a t ih =>
    rw [List.map_cons, List.sum_cons, List.length_cons, Nat.mul_succ]
    have ha : g a ≤ c := by simpa using h 0
    have ht := ih (fun i => by simpa using h (i + 1))
    omega

theorem sum_skip_two (c : Nat) (l : List CState)
    (h : ∀ i : Nat, (l[i]?.getD ({} : CState)).matches_.length ≤ c)
    (h0 : (l[0]?.getD ({} : CState)).matches_ = [])
    (h1 : (l[1]?.getD ({} : CState)).matches_ = []) :
    (l.map fun st => st.matches_.length).sum ≤ c * (l.length - 2) := by
  match l, h, h0, h1 with
  | [], _, _, _ => exact Nat.zero_le _
  | [a], _, h0, _ =>
    have : a.matches_ = [] := by simpa using h0
    simp [this]
  | a :: b :: t, h, h0, h1 =>
    have ha : a.matches_ = [] := by simpa using h0
    have hb : b.matches_ = [] := by simpa using h1
    have ht := sum_map_le (fun st => st.matches_.length) c t (fun i => by simpa using h (i + 2))
    simp only [List.map_cons, List.sum_cons, ha, hb, List.length_nil, List.length_cons]
    have : t.length + 1 + 1 - 2 = t.length := by omega
    rw [this]
    omega

theorem matchesLen_le_of_Bd {N : CNfa} {c : Nat} (h : Bd N c) :
    matchesLen N ≤ 1 + c * (N.size - 2) := by
  have hget : ∀ i : Nat, N.toList[i]?.getD ({} : CState) = N.getD i {} := by
    intro i; rw [Array.getElem?_toList, Array.getD_eq_getD_getElem?]
  have := sum_skip_two c N.toList (fun i => by rw [hget]; exact h.all i)
    (by rw [hget]; exact h.s0) (by rw [hget]; exact h.s1)
  rw [Array.length_toList] at this
  unfold matchesLen
  omega

/-- `matches.len()` of the compiled noncontiguous NFA: the initial sentinel plus at most one entry
per pattern and state other than `DEAD` and `FAIL` -/
theorem matchesLen_compile_le (k : MatchKind) (fold : Bool) (P : List (List UInt8)) :
    matchesLen (CNfa.compile k fold P) ≤ 1 + P.length * ((CNfa.compile k fold P).size - 2) :=
  matchesLen_le_of_Bd (Bd_compile k fold P)

end AcVerif.BuildP
