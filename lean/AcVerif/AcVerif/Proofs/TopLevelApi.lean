import AcVerif.TopLevel2
import AcVerif.Proofs.TopLevelAut
import AcVerif.Proofs.TopLevelPreEarliest
import AcVerif.Theorems.C12
import AcVerif.Proofs.Meta
/-!
# Capstone proofs: the public methods on a searcher returned by the builder

`Good s kd`: the searcher holds the unchecked transcription of kind `kd` for its own configuration
and pattern list, fewer than `2^31` patterns, and its prefilter flag agrees with its prefilter.
Every successful `acBuild` returns a good searcher (`acBuild_eq`), for any limits not above the
real ones.  On a good searcher each public method, once through the gate, is the engine on the
reference automaton `s.ref` with the searcher's own prefilter (`Good.topFind_eq` …); if that
prefilter is sound (`PreOK`; having none counts as sound), the results of `TopLevelRef.lean`,
`TopLevelPre.lean` and `TopLevelPreEarliest.lean` about the reference automaton give the statements
about the methods (`api_*`), from which `TopP.Good.spec` (`Theorems/TopLevel.lean`) and
`TopP.Good.spec2` (`Theorems/TopLevel2.lean`) fill the fields of the specification structures.
-/
namespace AcVerif.TopP
open AcVerif AcVerif.MiscP AcVerif.BuildP AcVerif.StreamX

/-! ## the gate -/

theorem gate_none_iff (sk : StartKind) (a : Bool) :
    anchoredGate sk a = none ↔ supportsAnch sk a := by
  cases sk <;> cases a <;> simp [anchoredGate, supportsAnch]

theorem gate_none {sk : StartKind} {a : Bool} (h : supportsAnch sk a) : anchoredGate sk a = none :=
  (gate_none_iff sk a).2 h

theorem gate_err {sk : StartKind} {a : Bool} (h : ¬ supportsAnch sk a) :
    anchoredGate sk a =
      some (if a then .invalidInputAnchored else .invalidInputUnanchored) := by
  cases sk <;> cases a <;> first | rfl | exact absurd (by simp [supportsAnch]) h

theorem topIsMatch_of_find {s : Searcher} {i : Input UInt8} {r : Option Mat}
    (h : topFind s { i with earliest := true } = .ok r) : topIsMatch s i = .ok r.isSome := by
  unfold topFind at h
  unfold topIsMatch
  cases hgate : anchoredGate s.cfg.startKind i.anch <;> simp only [hgate] at h ⊢
  · rw [h]
  · cases h

/-! ## what the builder returns -/

theorem buildChecked_ok_unchecked {L : Limits} {cfg : BuildCfg} {P : List (List UInt8)}
    {b : Built} (h : buildChecked L cfg P = .ok b) :
    b = buildUnchecked cfg P b.kind ∧ P.length ≤ L.patternIdLimit := by
  rw [buildChecked_eq] at h
  cases hc : compileChecked L cfg.matchKind cfg.fold cfg.nncDenseDepth P with
  | error e => rw [hc] at h; cases h
  | ok n =>
    rw [hc] at h
    have hn : n = CNfa.compile cfg.matchKind cfg.fold P := C20_build_nnc_eq hc
    have hlen := (C20_build_sizes hc).2.2.2
    refine ⟨?_, hlen⟩
    subst hn
    cases hk : cfg.kind with
    | none =>
      simp only [hk] at h
      unfold autoChoice at h
      split at h
      · cases h; rfl
      · split at h
        · cases h; rfl
        · cases h; rfl
    | some kd =>
      simp only [hk] at h
      cases kd with
      | noncontiguous => cases h; rfl
      | contiguous =>
        simp only at h
        split at h
        · cases h; rfl
        · cases h
      | dfa =>
        simp only at h
        split at h
        · cases h; rfl
        · cases h

structure Good (s : Searcher) (kd : AcKind) : Prop where
  built : s.built = buildUnchecked s.cfg s.pats kd
  len : s.pats.length < 2147483648
  pre : s.cfg.hasPre = s.pre.isSome

theorem Good.kind {s : Searcher} {kd : AcKind} (h : Good s kd) : s.kind = kd := by
  unfold Searcher.kind; rw [h.built]; exact buildUnchecked_kind _ _ _

/-- The entry point of every `Theorems/TopLevel*.lean` theorem about a built searcher: it turns
`acBuild … = .ok s` into the fields of `s` and `Good`.  `2147483647` is the crate's `PatternID::LIMIT`. -/
theorem acBuild_eq {L : Limits} {cfg : BuildCfg} {pre : Option (Prefilter UInt8)}
    {P : List (List UInt8)} {s : Searcher} (hL : L.patternIdLimit ≤ 2147483647)
    (h : acBuild L cfg pre P = .ok s) :
    ∃ b, s = ⟨{ cfg with hasPre := pre.isSome }, P, b, pre⟩ ∧
      Good ⟨{ cfg with hasPre := pre.isSome }, P, b, pre⟩ b.kind := by
  unfold acBuild at h
  cases hb : buildChecked L { cfg with hasPre := pre.isSome } P with
  | error e => rw [hb] at h; cases h
  | ok b =>
    rw [hb] at h
    cases h
    obtain ⟨h1, h2⟩ := buildChecked_ok_unchecked hb
    exact ⟨b, rfl, h1, by show P.length < 2147483648; omega, rfl⟩

theorem acBuild_good {L : Limits} {cfg : BuildCfg} {pre : Option (Prefilter UInt8)}
    {P : List (List UInt8)} {s : Searcher} (hL : L.patternIdLimit ≤ 2147483647)
    (h : acBuild L cfg pre P = .ok s) :
    Good s s.kind ∧ s.cfg = { cfg with hasPre := pre.isSome } ∧ s.pats = P ∧ s.pre = pre := by
  obtain ⟨b, rfl, hg⟩ := acBuild_eq hL h
  exact ⟨hg, rfl, rfl, rfl⟩

/-! ## the searcher's automaton is the reference automaton -/

/-- the reference automaton a searcher is compared with: that of its own settings and patterns,
for the start kinds its automaton supports; `hp`: the prefilter flag -/
abbrev _root_.AcVerif.Searcher.ref (s : Searcher) (hp : Bool) : Aut (St UInt8) UInt8 :=
  refAut s.cfg.fold s.cfg.matchKind s.pats (autSk s.kind s.cfg.startKind) hp

theorem aut_kind' (s : Searcher) : s.aut.kind = s.cfg.matchKind := toAut_kind _ _ _

theorem aut_nonstd {s : Searcher} (hk : s.cfg.matchKind ≠ .std) : (s.aut.kind != .std) = true := by
  rw [aut_kind']; simp [hk]

theorem aut_std {s : Searcher} (hk : s.cfg.matchKind = .std) : (s.aut.kind != .std) = false := by
  rw [aut_kind', hk]; rfl

section good
variable {s : Searcher} {kd : AcKind} (hg : Good s kd)
include hg

theorem Good.searchEquiv : SearchEquiv s.aut (s.ref s.pre.isSome) := by
  have := built_searchEquiv s.cfg s.pats hg.len kd
  rw [← hg.built, hg.pre, ← hg.kind] at this
  exact this

theorem Good.start_isSome {a : Bool} (h : supportsAnch s.cfg.startKind a) :
    ∃ q, s.aut.start a = some q := by
  rcases (hg.searchEquiv.start a).cases with ⟨_, hB⟩ | ⟨q, _, hA, _, _⟩
  · rw [refAut_start _ _ _ _ (supports_autSk s.kind h)] at hB; cases hB
  · exact ⟨q, hA⟩

theorem Good.tied (hk : s.cfg.matchKind = .std) :
    StreamTiedTo s.aut
      (refAut s.cfg.fold .std s.pats (autSk s.kind s.cfg.startKind) false) := by
  have h := hg.searchEquiv.tied ((toAut_minLen ..).trans (refAut_minLen ..).symm)
    ((toAut_maxLen ..).trans (refAut_maxLen ..).symm)
  unfold Searcher.ref at h
  rw [hk] at h
  exact h.trans (refAut_tied ..)

/-! ## the methods behind the gate -/

theorem Good.topFind_eq {i : Input UInt8} (h : supportsAnch s.cfg.startKind i.anch) :
    topFind s i = tryFindFwd (s.ref s.pre.isSome) s.pre i := by
  unfold topFind
  rw [gate_none h]
  exact hg.searchEquiv.find _ _

theorem Good.topFindIter_eq {i : Input UInt8} (h : supportsAnch s.cfg.startKind i.anch) :
    topFindIter s i = findIter (s.ref s.pre.isSome) s.pre i := by
  unfold topFindIter
  rw [gate_none h]
  exact hg.searchEquiv.iter _ _

theorem Good.topStreamFind_eq (hk : s.cfg.matchKind = .std) (h : supportsAnch s.cfg.startKind false)
    (rdr : Reader UInt8) (spare : Option Nat) (minFactor defaultCap : Nat) :
    topStreamFind s rdr spare minFactor defaultCap =
      streamFind (refAut s.cfg.fold .std s.pats (autSk s.kind s.cfg.startKind) false) rdr spare
        minFactor defaultCap := by
  unfold topStreamFind
  rw [gate_none h]
  exact (hg.tied hk).streamFind rdr spare minFactor defaultCap

end good

/-! ## the overlapping call sequence behind the gate -/

theorem topOvlCalls_eq (s : Searcher) (i : Input UInt8)
    (h : anchoredGate s.cfg.startKind i.anch = none) (n : Nat) (st : OState Nat) :
    topOvlCalls s i n st = ovlCalls s.aut s.pre i n st := by
  induction n generalizing st with
  | zero => rfl
  | succ n ih =>
    simp only [topOvlCalls, ovlCalls, topOvlCall, h]
    cases tryFindOverlappingFwd s.aut s.pre i st with
    | error e => rfl
    | ok st' => simp only [ih]

theorem topOvlCalls_err (s : Searcher) (i : Input UInt8) (e : MatchErr)
    (h : anchoredGate s.cfg.startKind i.anch = some e) (n : Nat) (st : OState Nat) :
    topOvlCalls s i (n + 1) st = [.error e] := by
  simp only [topOvlCalls, topOvlCall, h]

theorem ovlCalls_nonstd {σ : Type} (A : Aut σ UInt8) (pre : Option (Prefilter UInt8))
    (i : Input UInt8) (h : (A.kind != .std) = true) (n : Nat) (st : OState σ) :
    ovlCalls A pre i (n + 1) st = [.error .unsupportedOverlapping] := by
  simp only [ovlCalls, tryFindOverlappingFwd, h, if_true]

/-! ## rejected requests -/

theorem api_overlap_nonstd (s : Searcher) (i : Input UInt8)
    (h : supportsAnch s.cfg.startKind i.anch) (hk : s.cfg.matchKind ≠ .std) (n : Nat) :
    topOverlapping s i (n + 1) = [.error .unsupportedOverlapping] := by
  unfold topOverlapping
  rw [topOvlCalls_eq s i (gate_none h)]
  exact ovlCalls_nonstd _ _ _ (aut_nonstd hk) n _

theorem api_overlap_iter_err (s : Searcher) (i : Input UInt8) (fuel : Nat) :
    (¬ supportsAnch s.cfg.startKind i.anch →
      topOverlappingIter s i fuel = .error (anchErr i.anch)) ∧
    (supportsAnch s.cfg.startKind i.anch → s.cfg.matchKind ≠ .std →
      topOverlappingIter s i fuel = .error .unsupportedOverlapping) ∧
    (supportsAnch s.cfg.startKind i.anch → s.cfg.matchKind = .std → i.anch = true →
      topOverlappingIter s i fuel = .error .invalidInputAnchored) := by
  refine ⟨fun h => ?_, fun h hk => ?_, fun h hk ha => ?_⟩
  · unfold topOverlappingIter; rw [gate_err h]
  · unfold topOverlappingIter; rw [gate_none h]; simp only [aut_nonstd hk, if_true]
  · unfold topOverlappingIter; rw [gate_none h]
    simp only [aut_std hk, ha, if_true, Bool.false_eq_true, if_false]

theorem aut_minLen_eq_zero (s : Searcher) : (s.aut.minLen == 0) = hasEmptyPat s.pats := by
  unfold Searcher.aut
  rw [toAut_minLen, Bool.eq_iff_iff, beq_iff_eq, decide_eq_true_iff]
  exact minLen_eq_zero_iff s.pats (by decide)

/-- the three ways `try_stream_find_iter` is rejected, in the order of the code -/
theorem api_stream_err (s : Searcher) (rdr : Reader UInt8) (spare : Option Nat)
    (minFactor defaultCap : Nat) :
    (¬ supportsAnch s.cfg.startKind false →
      topStreamFind s rdr spare minFactor defaultCap = .error .invalidInputUnanchored) ∧
    (supportsAnch s.cfg.startKind false → s.cfg.matchKind ≠ .std →
      topStreamFind s rdr spare minFactor defaultCap = .error .unsupportedStream) ∧
    (supportsAnch s.cfg.startKind false → s.cfg.matchKind = .std → [] ∈ s.pats →
      topStreamFind s rdr spare minFactor defaultCap = .error .unsupportedEmpty) := by
  refine ⟨fun h => ?_, fun h hk => ?_, fun h hk he => ?_⟩
  · unfold topStreamFind; rw [gate_err h]; rfl
  · unfold topStreamFind; rw [gate_none h]
    simp only [streamFind, ChunkIter.new, aut_nonstd hk, if_true]
  · have h2 : (s.aut.minLen == 0) = true := by rw [aut_minLen_eq_zero]; exact decide_eq_true he
    unfold topStreamFind; rw [gate_none h]
    simp only [streamFind, ChunkIter.new, aut_std hk, h2, if_true, Bool.false_eq_true, if_false]

/-! ## the public methods, for a sound prefilter or none -/

section api
variable {s : Searcher} {kd : AcKind} (hg : Good s kd)
  (hok : PreOK s.cfg.fold s.cfg.matchKind s.pats s.pre)
include hg hok

theorem api_find (i : Input UInt8) :
    (supportsAnch s.cfg.startKind i.anch → (s.cfg.matchKind = .std ∨ i.earliest = false) →
      ∃ r, topFind s i = .ok r ∧
        IsFind s.cfg.matchKind (specPats s.cfg.fold s.pats) (specHay s.cfg.fold i.hay)
          i.s i.e i.anch r) ∧
    (¬ supportsAnch s.cfg.startKind i.anch → topFind s i = .error (anchErr i.anch)) := by
  refine ⟨fun h he => ?_, fun h => by unfold topFind; rw [gate_err h]⟩
  rw [hg.topFind_eq h, ref_find_pre _ i hok he (supports_autSk s.kind h)]
  exact ref_find _ _ _ _ i (supports_autSk s.kind h) he

theorem api_is_match (i : Input UInt8) :
    (supportsAnch s.cfg.startKind i.anch →
      ∃ b, topIsMatch s i = .ok b ∧
        (b = true ↔ ∃ m, IsOccA (specPats s.cfg.fold s.pats) (specHay s.cfg.fold i.hay)
          i.s i.e i.anch m)) ∧
    (¬ supportsAnch s.cfg.startKind i.anch → topIsMatch s i = .error (anchErr i.anch)) := by
  refine ⟨fun h => ?_, fun h => by unfold topIsMatch; rw [gate_err h]⟩
  obtain ⟨r, h1, h2⟩ := ref_is_match_pre hok _ i (supports_autSk s.kind h)
  exact ⟨r.isSome,
    topIsMatch_of_find ((hg.topFind_eq (i := { i with earliest := true }) h).trans h1), h2⟩

theorem api_iter (i : Input UInt8) :
    (supportsAnch s.cfg.startKind i.anch → (s.cfg.matchKind = .std ∨ i.earliest = false) →
      ∃ F, (∀ st, st ≤ i.e + 1 →
          IsFind s.cfg.matchKind (specPats s.cfg.fold s.pats) (specHay s.cfg.fold i.hay)
            st i.e i.anch (F st)) ∧
        topFindIter s i = .ok (iterSpec F i.s i.e)) ∧
    (¬ supportsAnch s.cfg.startKind i.anch → topFindIter s i = .error (anchErr i.anch)) := by
  refine ⟨fun h he => ?_, fun h => by unfold topFindIter; rw [gate_err h]⟩
  rw [hg.topFindIter_eq h, ref_iter_pre _ i hok he (supports_autSk s.kind h)]
  exact ref_iter _ _ _ _ i (supports_autSk s.kind h) he

theorem api_replace_with_bytes (hay : List UInt8) (repl : Mat → List UInt8) (stop : Option Nat) :
    (supportsAnch s.cfg.startKind false →
      ∃ F, (∀ st, st ≤ hay.length + 1 →
          IsFind s.cfg.matchKind (specPats s.cfg.fold s.pats) (specHay s.cfg.fold hay)
            st hay.length false (F st)) ∧
        topFindIter s (Input.whole hay) = .ok (iterSpec F 0 hay.length) ∧
        topReplaceAllWithBytes s hay repl stop =
          .ok (replaceBytes hay (iterSpec F 0 hay.length) repl stop) ∧
        (replaceBytes hay (iterSpec F 0 hay.length) repl none).1 =
          spliceSpec hay repl 0 (iterSpec F 0 hay.length) ∧
        (replaceBytes hay (iterSpec F 0 hay.length) repl none).2 =
          (iterSpec F 0 hay.length).map fun m => (m, (hay.take m.stop).drop m.start)) ∧
    (¬ supportsAnch s.cfg.startKind false →
      topReplaceAllWithBytes s hay repl stop = .error .invalidInputUnanchored) := by
  refine ⟨fun h => ?_, fun h => by unfold topReplaceAllWithBytes; rw [gate_err h]; rfl⟩
  obtain ⟨F, h1, h2⟩ := (api_iter hg hok (Input.whole hay)).1 h (Or.inr rfl)
  refine ⟨F, h1, h2, ?_, C12_bytes hay _ repl, C12_log hay _ repl⟩
  unfold topFindIter at h2
  rw [show (Input.whole hay).anch = false from rfl, gate_none h] at h2
  unfold topReplaceAllWithBytes
  rw [gate_none h]
  simp only [h2]
  rfl

theorem api_replace_bytes (hay : List UInt8) (replaceWith : List (List UInt8)) :
    (supportsAnch s.cfg.startKind false →
      ∃ ms, topFindIter s (Input.whole hay) = .ok ms ∧
        topReplaceAllBytes s hay replaceWith =
          .ok (spliceSpec hay (fun m => replaceWith.getD m.pid []) 0 ms) ∧
        ∀ m ∈ ms, m.pid < s.pats.length) ∧
    (¬ supportsAnch s.cfg.startKind false →
      topReplaceAllBytes s hay replaceWith = .error .invalidInputUnanchored) := by
  have key := api_replace_with_bytes hg hok hay (fun m => replaceWith.getD m.pid []) none
  refine ⟨fun h => ?_, fun h => by unfold topReplaceAllBytes; rw [key.2 h]⟩
  obtain ⟨F, hF, h1, h2, h3, _⟩ := key.1 h
  refine ⟨_, h1, by unfold topReplaceAllBytes; rw [h2, ← h3], fun m hm => ?_⟩
  obtain ⟨⟨p, hp, _⟩, _⟩ := iter_occ hF (Nat.zero_le _) m hm
  have := (List.getElem?_eq_some_iff.1 hp).1
  rwa [specPats_length] at this

theorem whole_iter_eq (hk : s.cfg.matchKind = .std) (h : supportsAnch s.cfg.startKind false)
    (data : List UInt8) :
    topFindIter s (Input.whole data) =
      findIter (refAut s.cfg.fold .std s.pats (autSk s.kind s.cfg.startKind) false) none
        (StreamP.whole data) := by
  rw [hg.topFindIter_eq (i := Input.whole data) h,
    ref_iter_pre _ _ hok (Or.inl hk) (supports_autSk s.kind h), hk]
  rfl

/-- C07: the stream search (which never consults the prefilter) yields the matches of the
in-memory iterator -/
theorem api_stream (hk : s.cfg.matchKind = .std) (hne : ∀ p ∈ s.pats, p ≠ [])
    (h : supportsAnch s.cfg.startKind false) (data : List UInt8) (sched : List Nat)
    (hs : ∀ x ∈ sched, 1 ≤ x) (spare : Option Nat) (minFactor defaultCap : Nat)
    (hcap : (Buffer.new (α := UInt8) (maxPatLen s.pats) spare minFactor defaultCap).min <
        (Buffer.new (α := UInt8) (maxPatLen s.pats) spare minFactor defaultCap).cap) :
    ∃ F, (∀ st, st ≤ data.length + 1 →
        IsFind .std (specPats s.cfg.fold s.pats) (specHay s.cfg.fold data) st data.length false
          (F st)) ∧
      topFindIter s (Input.whole data) = .ok (iterSpec F 0 data.length) ∧
      topStreamFind s { data := data, sched := sched } spare minFactor defaultCap =
        .ok (iterSpec F 0 data.length, false, 0) := by
  obtain ⟨F, hF, h3⟩ := (api_iter hg hok (Input.whole data)).1 h (Or.inl hk)
  refine ⟨F, hk ▸ hF, h3, ?_⟩
  obtain ⟨ms, h1, h2⟩ := (streamRef_ref s.cfg.fold hne (supports_autSk s.kind h) data hcap).eq_iter hs
  rw [whole_iter_eq hg hok hk h, h1] at h3
  cases h3
  rw [hg.topStreamFind_eq hk h]
  exact h2

end api

section withpre
variable {s : Searcher} {kd : AcKind} (hg : Good s kd) {p : Prefilter UInt8}
  (hpre : s.pre = some p) (hne : ∀ q ∈ s.pats, q ≠ [])
include hg hpre hne

set_option linter.unusedVariables false in
/-- `api_is_match` for a searcher that has a prefilter; `hk` is not needed -/
theorem api_is_match_pre (hk : s.cfg.matchKind = .std)
    (hs : PreSoundFor s.cfg.fold s.cfg.matchKind s.pats p) (i : Input UInt8)
    (h : supportsAnch s.cfg.startKind i.anch) :
    ∃ b, topIsMatch s i = .ok b ∧
      (b = true ↔ ∃ m, IsOccA (specPats s.cfg.fold s.pats) (specHay s.cfg.fold i.hay)
        i.s i.e i.anch m) :=
  (api_is_match hg (by rw [hpre]; exact ⟨hne, hs⟩) i).1 h

end withpre

section ovl
variable {s : Searcher} {kd : AcKind} (hg : Good s kd)
  (hok : s.cfg.matchKind = .std → PreOKOvl s.cfg.fold s.pats s.pre)
include hg hok

theorem api_overlap_iter (i : Input UInt8) :
    (supportsAnch s.cfg.startKind i.anch → s.cfg.matchKind = .std → i.anch = false →
      ∃ l, IsOverlapList (specPats s.cfg.fold s.pats) (specHay s.cfg.fold i.hay)
          i.s i.e i.anch l ∧
        ∀ fuel, l.length < fuel → topOverlappingIter s i fuel = .ok l) ∧
    (∀ fuel,
      (¬ supportsAnch s.cfg.startKind i.anch →
        topOverlappingIter s i fuel = .error (anchErr i.anch)) ∧
      (supportsAnch s.cfg.startKind i.anch → s.cfg.matchKind ≠ .std →
        topOverlappingIter s i fuel = .error .unsupportedOverlapping) ∧
      (supportsAnch s.cfg.startKind i.anch → s.cfg.matchKind = .std → i.anch = true →
        topOverlappingIter s i fuel = .error .invalidInputAnchored)) := by
  refine ⟨fun h hk ha => ?_, api_overlap_iter_err s i⟩
  obtain ⟨l, h1, h2⟩ := ref_overlap_iter s.cfg.fold s.pats _ i (supports_autSk s.kind h)
  refine ⟨l, h1, fun fuel hf => ?_⟩
  obtain ⟨q, hq⟩ := hg.start_isSome h
  unfold topOverlappingIter
  rw [gate_none h]
  simp only [aut_std hk, ha, Bool.false_eq_true, if_false]
  rw [ha] at hq
  simp only [hq]
  rw [hg.searchEquiv.overlap_iter]
  unfold Searcher.ref
  rw [hk, ref_overlap_iter_pre _ i (hok hk) (supports_autSk s.kind h), h2 fuel hf]

end ovl

end AcVerif.TopP
