import AcVerif.Proofs.StreamIdeal
import AcVerif.Proofs.Comap
/-!
# Stream search with an automaton that maps every input symbol first (`Aut.comap`)

The case-insensitive searcher is `(ideal .std Q sk false).comap g` (`Q` the folded patterns,
`g = foldByte`).  The stream's scan loop on the RAW stream with the comap automaton is the scan
loop of the plain automaton on the MAPPED stream (`scanBytes_comap`, `firstMatch_comap`); positions
and lengths are unchanged by `List.map`.  Hence the standing assumptions `Hyp` of the generic
stream invariant hold for the comap automaton on the raw stream (`Hyp.comap`), and it is an
instance of `StreamRef` (`streamRef_comap`) with `data` = the RAW stream: chunks are slices of the
raw bytes, matches are those of the mapped stream.
-/
namespace AcVerif.StreamP
open AcVerif AcVerif.StdP AcVerif.MiscP

section Generic
variable {σ α : Type}

theorem scanBytes_comap (A : Aut σ α) (g : α → α) (q : σ) (n : Nat) (w : List α) :
    scanBytes (A.comap g) q n w = scanBytes A q n (w.map g) := by
  induction w generalizing q n with
  | nil => rfl
  | cons c w ih =>
    simp only [List.map_cons, scanBytes, comap_next, comap_isMatch, ih]

theorem firstMatch_comap (A : Aut σ α) (g : α → α) (st0 : σ) (data : List α) (r : Nat) :
    firstMatch (A.comap g) st0 data r = firstMatch A st0 (data.map g) r := by
  unfold firstMatch
  rw [scanBytes_comap, List.map_drop]
  rfl

theorem firstMatch_comap_fun (A : Aut σ α) (g : α → α) (st0 : σ) (data : List α) :
    firstMatch (A.comap g) st0 data = firstMatch A st0 (data.map g) :=
  funext (firstMatch_comap A g st0 data)

theorem Hyp.comap {A : Aut σ α} {g : α → α} {st0 : σ} {data : List α} {sched : List Nat}
    {Lm C : Nat} (H : Hyp A st0 (data.map g) sched Lm C) :
    Hyp (A.comap g) st0 data sched Lm C where
  m0 := H.m0
  fok := by
    intro r m hr hf
    rw [firstMatch_comap] at hf
    exact H.fok r m (by rw [List.length_map]; exact hr) hf
  lm1 := H.lm1
  lmC := H.lmC
  sch := H.sch

theorem input_eq_whole (hay : List α) (n : Nat) (hn : n = hay.length)
    (v : n ≤ hay.length ∧ 0 ≤ n + 1) :
    ({ hay := hay, s := 0, e := n, anch := false, earliest := false, valid := v } : Input α) =
      whole hay := by
  subst hn; rfl

theorem whole_mapHay (data : List α) (g : α → α) :
    (whole data).mapHay g = whole (data.map g) :=
  input_eq_whole _ _ (List.length_map g).symm _

theorem StreamRef.comap {A : Aut σ α} {g : α → α} {st0 : σ} {data : List α} {spare : Option Nat}
    {minFactor defaultCap : Nat} (h : StreamRef A st0 (data.map g) spare minFactor defaultCap) :
    StreamRef (A.comap g) st0 data spare minFactor defaultCap where
  new := h.new
  hyp sched hs := (h.hyp sched hs).comap
  iter := by
    rw [findIter_comap, whole_mapHay, h.iter, firstMatch_comap_fun, List.length_map]

end Generic

/-! ## the comap of the ideal standard automaton -/
section IdealComap
variable {α : Type} [DecidableEq α]

omit [DecidableEq α] in
theorem comap_maxLen {σ : Type} (A : Aut σ α) (g : α → α) : (A.comap g).maxLen = A.maxLen := rfl

theorem streamRef_comap (Q : List (List α)) (g : α → α) (sk : StartKind)
    (hsk : supportsAnch sk false) (hne : ∀ p ∈ Q, p ≠ []) (data : List α) (spare : Option Nat)
    (minFactor defaultCap : Nat)
    (hcap : (Buffer.new (α := α) ((ideal .std Q sk false).comap g).maxLen spare minFactor
          defaultCap).min <
        (Buffer.new (α := α) ((ideal .std Q sk false).comap g).maxLen spare minFactor
          defaultCap).cap) :
    StreamRef ((ideal .std Q sk false).comap g) (.at []) data spare minFactor defaultCap :=
  (streamRef_ideal Q sk hsk hne (data.map g) spare minFactor defaultCap hcap).comap

theorem findAt_comap_isFind (Q : List (List α)) (g : α → α) (sk : StartKind)
    (hsk : supportsAnch sk false) (data : List α) (r : Nat) (hr : r ≤ data.length + 1) :
    IsFind .std Q (data.map g) r data.length false
      (findAt ((ideal .std Q sk false).comap g) none (whole data) r) := by
  rw [findAt_comap, whole_mapHay]
  have := findAt_isFind Q sk hsk (data.map g) r (by rw [List.length_map]; exact hr)
  rw [List.length_map] at this
  exact this

end IdealComap

end AcVerif.StreamP
