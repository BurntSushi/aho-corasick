import AcVerif.Proofs.ContigDecode
import AcVerif.Proofs.ContigIds
import AcVerif.Proofs.ShufflePerm
import AcVerif.Proofs.ContigSpec
import AcVerif.Proofs.ContigOut
/-!
# L1e proofs: one `next_state` call of the contiguous NFA

For an NFA `N` with a set of states `V` whose transition lists can be stored by byte class
(`CLive`) and `M = cBuild N dd bc hasPre`: at a state `s` of `V` the lookup in the words at
`cNewId N dd bc s` is `follow N s b` (`CLive.found`), the second word is the failure link
(`CLive.fail`), hence `M.nextState` on `cNewId N dd bc s` mirrors `CNfa.nextState` on `s`, hop by
hop (`CLive.nextState`).  The live states of a compiled NFA (`Lv`: those of `VU` and of `VA`
together) are such a set (`CLive_of_spec`).
-/
namespace AcVerif.L1eP
open AcVerif AcVerif.CNfa AcVerif.L1cP AcVerif.L1dP

/-! ## what the contiguous builder needs of a set of states -/

/-- `V` is a set of states of `N` whose transition lists `State::write` can store by byte class
and the contiguous `next_state` can read back: inside the automaton, not `FAIL`, sorted, constant
on the byte classes, and with more than 127 entries (so that the state is written dense) wherever
a `FAIL` target occurs -/
structure CLive (N : CNfa) (bc : Bool) (V : Nat → Prop) : Prop where
  four : 4 ≤ N.size
  lt : ∀ s, V s → s < N.size
  ne1 : ∀ s, V s → s ≠ 1
  sorted : ∀ s, V s → Sorted (N.getD s {}).trans
  cong : ∀ s, V s → ∀ b b', clsOf N bc b = clsOf N bc b' → follow N s b = follow N s b'
  nofail : ∀ s, V s →
    127 < (N.getD s {}).trans.length ∨ ∀ x ∈ (N.getD s {}).trans, x.2 ≠ FAIL

theorem CLive.mono {N : CNfa} {bc : Bool} {V W : Nat → Prop} (h : CLive N bc V)
    (hW : ∀ s, W s → V s) : CLive N bc W :=
  ⟨h.four, fun s hs => h.lt s (hW s hs), fun s hs => h.ne1 s (hW s hs),
    fun s hs => h.sorted s (hW s hs), fun s hs => h.cong s (hW s hs),
    fun s hs => h.nofail s (hW s hs)⟩

def Lv (L : List (List UInt8)) (s : Nat) : Prop := VU L s ∨ VA L s

/-- the live states of a compiled NFA are such a set: the dead state and the start states have all
256 transitions, and a trie node has no `FAIL` target -/
theorem CLive_of_spec {f : UInt8 → UInt8} {k : MatchKind} {Q : PatSet UInt8}
    {L : List (List UInt8)} {N : CNfa} (h : NfaSpec f k Q L N) (hX : FX L N) (bc : Bool) :
    CLive N bc (Lv L) := by
  have hdead : 127 < (N.getD DEAD {}).trans.length := by
    have := length_of_full (N.getD DEAD {}).trans (fun b =>
      ⟨DEAD, mem_of_lookup (by rw [← follow_eq]; exact h.goto_dead b) (by simp [DEAD, FAIL])⟩)
    omega
  have hsu : 127 < (N.getD SU {}).trans.length := by
    have := length_of_full _ hX.fullSU; omega
  have hsa : 127 < (N.getD SA {}).trans.length := by
    have := length_of_full _ hX.fullSA; omega
  have hnode : ∀ u, (u = [] ∨ u ∈ L) → 127 < (N.getD (nu L u) {}).trans.length ∨
      ∀ x ∈ (N.getD (nu L u) {}).trans, x.2 ≠ FAIL := by
    intro u hu
    rcases hu with e | hm
    · subst e; rw [nu_nil]; exact Or.inl hsu
    · exact Or.inr (hX.nofail u hm)
  refine
    { four := h.four_le_size
      lt := fun _ hv => hv.elim h.VU_lt_size h.VA_lt_size
      ne1 := fun _ hv => hv.elim (fun hv => (h.VU_ne_sa hv).2) (fun hv => (h.VA_ne_su hv).2)
      sorted := fun s _ => hX.sorted s
      cong := fun _ hv _ _ hc => hv.elim (fun hv => h.follow_cong_VU (classOK_clsOf N bc) hv hc)
        (fun hv => h.follow_cong_VA (classOK_clsOf N bc) hv hc)
      nofail := ?_ }
  rintro s (hv | hv)
  · rcases hv with e | ⟨u, hu, e⟩
    · subst e; exact Or.inl hdead
    · subst e; exact hnode u hu
  · rcases hv with e | e | ⟨u, hu, e⟩
    · subst e; exact Or.inl hdead
    · subst e; exact Or.inl hsa
    · subst e; exact hnode u (Or.inr hu)

section
variable {N : CNfa} {bc : Bool} {V : Nat → Prop} (hC : CLive N bc V) (dd : Nat) (hasPre : Bool)
include hC

theorem CLive.shuf : ShufOK N := shufOK N hC.four

theorem CLive.stOK {s : Nat} (hv : V s) :
    StOK (clsOf N bc) (ncOf N bc) (cNewId N dd bc) (N.getD s {})
      (decide ((storedDepths N).getD s 0 < dd)) :=
  { sorted := hC.sorted s hv
    cong := fun b b' hc => by rw [← follow_eq, ← follow_eq]; exact hC.cong s hv b b' hc
    cls_lt := (classOK_clsOf N bc).lt
    al_le := ncOf_le N bc
    dense_or_nofail := (hC.nofail s hv).imp Or.inr id
    id_fail := cNewId_fail hC.shuf dd bc
    id_ne := fun _ ht => cNewId_ne_one hC.shuf dd bc ht }

theorem CLive.slice {s : Nat} (hv : V s) :
    Stored (fun i => (cRepr N dd bc).getD i 0) (cNewId N dd bc s) (wOf N dd bc s) :=
  slice_state hC.shuf dd bc (hC.lt s hv) (hC.ne1 s hv)

theorem CLive.found {s : Nat} (hv : V s) (b : UInt8) :
    foundW (fun i => (cRepr N dd bc).getD i 0) (clsOf N bc b) (cNewId N dd bc s) =
      if follow N s b = FAIL then none else some (cNewId N dd bc (follow N s b)) := by
  rw [follow_eq]
  exact decode_found (hC.stOK dd hv) (hC.slice dd hv) b

theorem CLive.fail {s : Nat} (hv : V s) :
    (cRepr N dd bc).getD (cNewId N dd bc s + 1) 0 = cNewId N dd bc (N.getD s {}).fail :=
  decode_fail (rd := fun i => (cRepr N dd bc).getD i 0) (hC.slice dd hv)

/-- `M.nextState` mirrors `CNfa.nextState` along any set of states that is closed under the
failure links that are followed, hop by hop and with the same fuel -/
theorem CLive.nextState (anch : Bool) (b : UInt8)
    (hfail : anch = false → ∀ s, V s → follow N s b = FAIL → V (N.getD s {}).fail) :
    ∀ (fuel s hp x : Nat), V s →
      (cBuild N dd bc hasPre).nextState anch fuel (cNewId N dd bc s) b (x, hp) =
        (cNewId N dd bc (nextState N anch fuel s b hp).1, (nextState N anch fuel s b hp).2) := by
  intro fuel
  induction fuel with
  | zero => intro s hp x _; rfl
  | succ fuel ih =>
    intro s hp x hv
    rw [nextState_succ]
    show (match foundW (fun i => (cRepr N dd bc).getD i 0) (clsOf N bc b) (cNewId N dd bc s) with
      | some next => (next, hp)
      | none => if anch = true then (DEAD, hp)
        else (cBuild N dd bc hasPre).nextState anch fuel
          ((cRepr N dd bc).getD (cNewId N dd bc s + 1) 0) b (0, hp + 1)) = _
    rw [hC.found dd hv b, hC.fail dd hv]
    by_cases hf : follow N s b = FAIL
    · rw [if_pos hf]
      cases anch with
      | true =>
        rw [nextState_anch_fail N fuel s b hp hf]
        show (DEAD, hp) = (cNewId N dd bc DEAD, hp)
        rw [show DEAD = 0 from rfl, cNewId_dead hC.shuf dd bc]
      | false =>
        rw [nextState_go N fuel s b hp hf]
        exact ih _ _ _ (hfail rfl s hv hf)
    · rw [if_neg hf, nextState_stop N anch fuel s b hp hf]

end

theorem LvA.lv {L : List (List UInt8)} {anch : Bool} {s : Nat} (hv : LvA L anch s) : Lv L s := by
  cases anch
  · exact Or.inl hv
  · exact Or.inr hv

/-- once the loop has returned, more fuel changes nothing -/
theorem nextState_fuel (n : CNfa) (anch : Bool) (b : UInt8) :
    ∀ (f1 f2 s hp : Nat), (nextState n anch f1 s b hp).2 < hp + f1 → f1 ≤ f2 →
      nextState n anch f2 s b hp = nextState n anch f1 s b hp := by
  intro f1
  induction f1 with
  | zero => intro f2 s hp h; exact absurd h (Nat.lt_irrefl _)
  | succ f1 ih =>
    intro f2 s hp h hle
    obtain ⟨f2, rfl⟩ : ∃ g, f2 = g + 1 := ⟨f2 - 1, by omega⟩
    by_cases hf : follow n s b = FAIL
    · cases anch with
      | true => rw [nextState_anch_fail n f2 s b hp hf, nextState_anch_fail n f1 s b hp hf]
      | false =>
        rw [nextState_go n f1 s b hp hf] at h ⊢
        rw [nextState_go n f2 s b hp hf]
        exact ih f2 _ _ (by omega) (by omega)
    · rw [nextState_stop n anch f2 s b hp hf, nextState_stop n anch f1 s b hp hf]

end AcVerif.L1eP
