import AcVerif.Proofs.CompilerFinal
import AcVerif.Proofs.Transfer
import AcVerif.Fold
import AcVerif.Proofs.ContigOut
/-!
# The noncontiguous compiler (L1c): `next_state` on the compiled automaton simulates the ideal
automaton

Proved once for every `NfaSpec f`: the compiled automaton reads `b`, the ideal automaton `f b`.
`NfaSpec.run_step` (one `next_state` call is the model's failure walk, link for link: the
instance `NfaSpec.chain` of `ChainSpec.walk`), the simulation relation `Rel` with
`NfaSpec.Rel_step` and `NfaSpec.Rel_mats`, and `NfaSpec.obsEquiv_ideal`.
-/
namespace AcVerif.L1cP
open AcVerif AcVerif.CNfa AcVerif.LmP

section
variable {f : UInt8 → UInt8} {k : MatchKind} {Q : PatSet UInt8} {L : List (List UInt8)} {N : CNfa}

theorem NfaSpec.chain (h : NfaSpec f k Q L N) (d : Nat) : ChainSpec f k Q L N d :=
  { h with lt := fun _ hu => h.nu_lt_size (Or.inr hu), fail := fun u hu _ => h.fail u hu }

theorem NfaSpec.run_step (h : NfaSpec f k Q L N) (b : UInt8) (fuel : Nat) (w : List UInt8)
    (hp : Nat) (hw : w = [] ∨ w ∈ L) (hfuel : w.length < fuel) :
    nextState N false fuel (nu L w) b hp =
      (sidOf L (Ideal.next k Q false (.at w) (f b)), hp + hops k Q (f b) w.length w) :=
  ((h.chain w.length).walk b fuel w hp hw (Nat.le_refl _) hfuel).1

/-! ## the simulation relation -/

/-- state `sid` of the compiled automaton represents the model state `q` in anchoring mode `anch`:
trie nodes by their numbers, the root by the start state of that mode -/
def Rel (L : List (List UInt8)) (anch : Bool) (sid : Nat) : St UInt8 → Prop
  | .dead => sid = DEAD
  | .at u => if u = [] then sid = (if anch then SA else SU) else u ∈ L ∧ sid = nu L u

theorem Rel_of_node {anch : Bool} {u : List UInt8} (hu : u ∈ L) (h0 : u ≠ []) :
    Rel L anch (nu L u) (.at u) := by
  show (if u = [] then _ else u ∈ L ∧ nu L u = nu L u)
  rw [if_neg h0]; exact ⟨hu, rfl⟩

theorem Rel_sidOf (q : St UInt8)
    (hq : match q with | .dead => True | .at v => v = [] ∨ v ∈ L) : Rel L false (sidOf L q) q := by
  cases q with
  | dead => rfl
  | «at» v =>
    by_cases h0 : v = []
    · subst h0; simp [Rel, sidOf]
    · exact Rel_of_node (hq.resolve_left h0) h0

theorem Rel_at {anch : Bool} {sid : Nat} {u : List UInt8} (hr : Rel L anch sid (.at u)) :
    u = [] ∧ sid = (if anch then SA else SU) ∨ u ≠ [] ∧ u ∈ L ∧ sid = nu L u := by
  by_cases h0 : u = []
  · exact Or.inl ⟨h0, by simpa only [Rel, if_pos h0] using hr⟩
  · exact Or.inr ⟨h0, by simpa only [Rel, if_neg h0] using hr⟩

theorem Rel_at_unanch {sid : Nat} {u : List UInt8} (hr : Rel L false sid (.at u)) :
    (u = [] ∨ u ∈ L) ∧ sid = nu L u := by
  rcases Rel_at hr with ⟨rfl, e⟩ | ⟨_, hu, e⟩
  · exact ⟨Or.inl rfl, by rw [e, nu_nil]; rfl⟩
  · exact ⟨Or.inr hu, e⟩

theorem NfaSpec.next_valid (h : NfaSpec f k Q L N) (anch : Bool) (w : List UInt8) (b : UInt8) :
    match Ideal.next k Q anch (.at w) b with
    | .dead => True
    | .at v => v = [] ∨ v ∈ L := by
  have hanch : match stepAnch Q w b with | .dead => True | .at v => v = [] ∨ v ∈ L := by
    unfold stepAnch
    by_cases hp : isPref Q (w ++ [b]) = true
    · rw [if_pos hp]; exact h.mem_of_isPref hp
    · rw [if_neg hp]; trivial
  have hlm : match stepLm Q w b with | .dead => True | .at v => v = [] ∨ v ∈ L := by
    unfold stepLm
    by_cases hp : isPref Q (w ++ [b]) = true
    · rw [if_pos hp]; exact h.mem_of_isPref hp
    · rw [if_neg hp]
      simp only []
      by_cases hb : blocked Q w (w.length + 1 - (lsp Q (w ++ [b])).length) = true
      · rw [if_pos hb]; trivial
      · rw [if_neg hb]; exact h.lsp_mem _
  cases anch with
  | true => simpa [Ideal.next] using hanch
  | false =>
    cases k with
    | std => simp only [Ideal.next, Bool.false_eq_true, if_false, stepStd]; exact h.lsp_mem _
    | lf => simpa [Ideal.next] using hlm
    | ll => simpa [Ideal.next] using hlm

theorem NfaSpec.step_unanch (h : NfaSpec f k Q L N) {sid : Nat} {q : St UInt8}
    (hr : Rel L false sid q) (b : UInt8) :
    nextState N false (N.size + 1) sid b 0 =
      (sidOf L (Ideal.next k Q false q (f b)), Ideal.hops k Q false q (f b)) := by
  cases q with
  | dead =>
    obtain rfl : sid = DEAD := hr
    rw [nextState_dead N false _ b 0 (h.goto_dead b)]
    rfl
  | «at» u =>
    obtain ⟨hu, rfl⟩ := Rel_at_unanch hr
    rw [h.run_step b (N.size + 1) u 0 hu (by have := h.len_lt_size hu; omega), Nat.zero_add]
    simp only [Ideal.hops, Bool.false_eq_true, if_false]

theorem NfaSpec.step_anch (h : NfaSpec f k Q L N) {sid : Nat} {q : St UInt8}
    (hr : Rel L true sid q) (b : UInt8) :
    Rel L true (nextState N true (N.size + 1) sid b 0).1 (Ideal.next k Q true q (f b)) := by
  cases q with
  | dead =>
    obtain rfl : sid = DEAD := hr
    rw [nextState_dead N true _ b 0 (h.goto_dead b)]
    rfl
  | «at» u =>
    have hnext : Ideal.next k Q true (.at u) (f b) = stepAnch Q u (f b) := by
      simp only [Ideal.next, if_true]
    rw [hnext]
    have hsnoc : u ++ [f b] ≠ [] := by simp
    -- in both cases the transition on `b` is the trie edge or `FAIL`
    have hfol : follow N sid b = if u ++ [f b] ∈ L then nu L (u ++ [f b]) else FAIL := by
      rcases Rel_at hr with ⟨rfl, rfl⟩ | ⟨_, hu, rfl⟩
      · exact h.goto_sa b
      · by_cases hin : u ++ [f b] ∈ L
        · rw [if_pos hin]; exact h.goto_in u b (Or.inr hu) hin
        · rw [if_neg hin]; exact h.goto_out u b hu hin
    unfold stepAnch
    by_cases hin : u ++ [f b] ∈ L
    · rw [if_pos hin] at hfol
      rw [if_pos ((h.isPref_iff_mem u _).2 hin),
        nextState_stop N true _ sid b 0 (by rw [hfol]; exact nu_ne_fail _ _), hfol]
      exact Rel_of_node hin hsnoc
    · rw [if_neg hin] at hfol
      rw [if_neg (fun hp => hin ((h.isPref_iff_mem u _).1 hp)), nextState_anch_fail N _ sid b 0 hfol]
      rfl

theorem NfaSpec.Rel_step (h : NfaSpec f k Q L N) (anch : Bool) {sid : Nat} {q : St UInt8}
    (hr : Rel L anch sid q) (b : UInt8) :
    Rel L anch (nextState N anch (N.size + 1) sid b 0).1 (Ideal.next k Q anch q (f b)) := by
  cases anch with
  | true => exact h.step_anch hr b
  | false =>
    rw [h.step_unanch hr b]
    apply Rel_sidOf
    cases q with
    | dead => simp [Ideal.next]
    | «at» u => exact h.next_valid false u (f b)

theorem NfaSpec.Rel_mats (h : NfaSpec f k Q L N) {anch : Bool} {sid : Nat} {q : St UInt8}
    (hr : Rel L anch sid q) : (N.getD sid {}).matches_ = Ideal.out k Q q := by
  cases q with
  | dead =>
    obtain rfl : sid = DEAD := hr
    exact h.mats_dead
  | «at» u =>
    rcases Rel_at hr with ⟨rfl, rfl⟩ | ⟨_, hu, rfl⟩
    · cases anch
      · exact nu_nil L ▸ h.mats [] (Or.inl rfl)
      · exact h.mats_sa
    · exact h.mats u (Or.inr hu)

/-! ## related states make the same observations -/

theorem Rel_dead_iff {anch : Bool} {sid : Nat} {q : St UInt8} (hr : Rel L anch sid q) :
    (sid == DEAD) = (q == St.dead) := by
  cases q with
  | dead =>
    obtain rfl : sid = DEAD := hr
    simp
  | «at» u =>
    have : sid ≠ DEAD := by
      rcases Rel_at hr with ⟨_, rfl⟩ | ⟨_, _, rfl⟩
      · cases anch <;> simp [SA, SU, DEAD]
      · exact nu_ne_dead L u
    have h1 : (sid == DEAD) = false := by simpa using this
    rw [h1]; rfl

theorem Rel_start_iff {anch : Bool} {sid : Nat} {q : St UInt8} (hr : Rel L anch sid q) :
    (sid == SU || sid == SA) = (q == St.at []) := by
  cases q with
  | dead =>
    obtain rfl : sid = DEAD := hr
    simp [DEAD, SU, SA]
  | «at» u =>
    rcases Rel_at hr with ⟨rfl, rfl⟩ | ⟨h0, _, rfl⟩
    · cases anch <;> simp [SA, SU]
    · have := nu_ge (L := L) h0
      have h1 : (nu L u == SU || nu L u == SA) = false := by
        simp only [SU, SA, Bool.or_eq_false_iff, beq_eq_false_iff_ne, ne_eq]
        omega
      rw [h1]
      exact (beq_eq_false_iff_ne.2 fun e => h0 (St.at.inj e)).symm

theorem NfaSpec.obs_of_Rel {P' : List (List UInt8)}
    (h : NfaSpec f k (patSet k P') L N) (P : List (List UInt8)) (hasPre : Bool) {anch : Bool}
    {sid : Nat} {q : St UInt8} (hr : Rel L anch sid q) :
    (N.toAut k P hasPre).obs false sid = ((ideal k P' .both hasPre).comap f).obs false q := by
  have hd := Rel_dead_iff hr
  have hmatch : ((sid != DEAD) && !(Ideal.out k (patSet k P') q).isEmpty) =
      !(Ideal.out k (patSet k P') q).isEmpty := by
    have hne : (sid != DEAD) = !(q == St.dead) := by
      show (!(sid == DEAD)) = _
      rw [hd]
    rw [hne]
    cases hq : (q == St.dead)
    · simp
    · obtain rfl : q = .dead := by simpa using hq
      rfl
  -- the four fields are exposed and rewritten in place, here and wherever two `toAut` records are
  -- compared: a lemma "equal flags give equal `Obs`" is slow to apply (it unifies through `toAut`)
  show Obs.mk _ _ _ _ = Obs.mk _ _ _ _
  simp only [CNfa.toAut, ideal, Aut.comap, CNfa.isMatch, Bool.false_eq_true, if_false]
  rw [h.Rel_mats hr, hmatch, hd, Rel_start_iff hr]

/-- a compiled automaton and the ideal automaton fed `f b` are observationally equivalent from their
start states: equal flags and equal ORDERED match lists after every byte string, in both
anchoring modes -/
theorem NfaSpec.obsEquiv_ideal {P' : List (List UInt8)}
    (h : NfaSpec f k (patSet k P') L N) (P : List (List UInt8)) (hasPre anch : Bool) :
    ObsEquiv (N.toAut k P hasPre) ((ideal k P' .both hasPre).comap f) false anch
      (if anch then SA else SU) (.at []) :=
  ObsEquiv.of_sim (Rel L anch) (fun _ _ c hr => h.Rel_step anch hr c)
    (fun _ _ hr => h.obs_of_Rel P hasPre hr) (by simp only [Rel, if_true])

end

/-! ## runs, start states and `next_state` at reachable states -/

namespace NfaSpec
variable {N : CNfa} {k : MatchKind} {P' : List (List UInt8)} {g : UInt8 → UInt8}
  {L : List (List UInt8)} (h : NfaSpec g k (patSet k P') L N) (P : List (List UInt8))
  (hasPre : Bool)
include h

theorem run (anch : Bool) (w : List UInt8) {sid : Nat} {q : St UInt8} (hr : Rel L anch sid q) :
    Rel L anch ((N.toAut k P hasPre).runFrom anch sid w)
      (((ideal k P' .both hasPre).comap g).runFrom anch q w) :=
  Aut.runFrom_rel _ _ anch (Rel L anch) (fun _ _ c hr => h.Rel_step anch hr c) w _ _ hr

theorem startEquiv (anch : Bool) :
    StartEquiv (N.toAut k P hasPre) ((ideal k P' .both hasPre).comap g) false anch := by
  have hB : ((ideal k P' .both hasPre).comap g).start anch = some (.at []) := by
    cases anch <;> rfl
  unfold StartEquiv
  rw [hB]
  exact h.obsEquiv_ideal P hasPre anch

theorem nextState_run (w : List UInt8) (c : UInt8) :
    CNfa.nextState N false (N.size + 1) ((N.toAut k P hasPre).runFrom false CNfa.SU w) c 0 =
      (sidOf L (Ideal.next k (patSet k P') false
          (((ideal k P' .both hasPre).comap g).runFrom false (.at []) w) (g c)),
        Ideal.hops k (patSet k P') false
          (((ideal k P' .both hasPre).comap g).runFrom false (.at []) w) (g c)) :=
  h.step_unanch (h.run P hasPre false w (by simp [Rel])) c

theorem mats_lt {anch : Bool} {sid : Nat} {q : St UInt8} (hr : Rel L anch sid q) :
    ∀ p ∈ (N.getD sid {}).matches_, p < P'.length :=
  fun _ hp => L1eP.mem_out_lt (h.Rel_mats hr ▸ hp)

theorem mats_length_le {anch : Bool} {sid : Nat} {q : St UInt8} (hr : Rel L anch sid q) :
    (N.getD sid {}).matches_.length ≤ P'.length :=
  h.Rel_mats hr ▸ L1eP.out_length_le k P' q

end NfaSpec

end AcVerif.L1cP
