import AcVerif.Proofs.NfaMemTrans
/-!
# Writes to the match lists (`add_match`, `copy_matches`)

Both append at the tail: `appCell` pushes a match cell and links it behind the last cell of the
list (`appCell_step`); `add_match` does it once, the loop of `copy_matches` once per cell of the
source list, which is a list of another state and therefore untouched (`copyLoop_step`).
-/
-- `(absState m s).trans` is `m.iterTrans s` by unfolding `absState`; unfolding the iterator instead is slow
attribute [local irreducible] AcVerif.MemNfa.iterTrans AcVerif.MemNfa.iterMatches

namespace AcVerif.MemP
open AcVerif MemNfa

/-- push a match cell `(p, 0)` and hook it behind `ld` (behind the `matches` head of `sid`
when `ld = 0`): lines 476-482 and 502-517 -/
def appCell (m : MemNfa) (sid ld p : Nat) : MemNfa :=
  let m1 : MemNfa := { m with matches_ := m.matches_.push { pid := p, link := 0 } }
  if ld = 0 then m1.setSt sid { m1.st sid with matches_ := m.matches_.size }
  else m1.setMt ld { m1.mt ld with link := m.matches_.size }

theorem matches_size_appCell (m : MemNfa) (sid ld p : Nat) :
    (appCell m sid ld p).matches_.size = m.matches_.size + 1 := by
  unfold appCell; split <;> simp

theorem sparse_appCell (m : MemNfa) (sid ld p : Nat) : (appCell m sid ld p).sparse = m.sparse := by
  unfold appCell; split <;> simp

theorem states_size_appCell (m : MemNfa) (sid ld p : Nat) :
    (appCell m sid ld p).states.size = m.states.size := by
  unfold appCell; split <;> simp

theorem mt_pushed (m : MemNfa) (x : MMatch) (j : Nat) :
    MemNfa.mt { m with matches_ := m.matches_.push x } j =
      if j = m.matches_.size then x else m.mt j :=
  Array.getD_push _ _ _ _

@[simp] theorem st_pushed (m : MemNfa) (x : Array MMatch) (j : Nat) :
    MemNfa.st { m with matches_ := x } j = m.st j := rfl

theorem mt_appCell (m : MemNfa) (sid : Nat) {ld : Nat} (hld : ld < m.matches_.size) (p j : Nat) :
    (appCell m sid ld p).mt j =
      if j = m.matches_.size then { pid := p, link := 0 }
      else if j = ld ∧ ld ≠ 0 then { m.mt ld with link := m.matches_.size } else m.mt j := by
  unfold appCell
  by_cases h0 : ld = 0
  · simp only [if_pos h0, mt_setSt, mt_pushed]
    by_cases hj : j = m.matches_.size
    · simp [hj]
    · simp [hj, h0]
  · simp only [if_neg h0, mt_setMt, mt_pushed, Array.size_push]
    have hne : ld ≠ m.matches_.size := by omega
    by_cases hj : j = m.matches_.size
    · have : ¬ j = ld := by omega
      simp [hj, Ne.symm hne]
    · by_cases hjl : j = ld
      · subst hjl
        have : j < m.matches_.size + 1 := by omega
        simp [hj, h0, this]
      · simp [hj, hjl]

theorem st_appCell (m : MemNfa) {sid : Nat} (hp : sid < m.states.size) (ld p s : Nat) :
    (appCell m sid ld p).st s =
      if s = sid ∧ ld = 0 then { m.st sid with matches_ := m.matches_.size } else m.st s := by
  unfold appCell
  by_cases h0 : ld = 0
  · simp only [if_pos h0, st_setSt, st_pushed]
    by_cases hs : s = sid
    · simp [hs, hp, h0]
    · simp [hs]
  · simp [h0]

theorem appCell_step {m : MemNfa} {tc mc : Nat → List Nat} (hw : MemOKW m tc mc) {sid : Nat}
    (hp : sid < m.states.size) (p : Nat) :
    let m' := appCell m sid ((mc sid).getLast?.getD 0) p
    MemOKW m' tc (upd mc sid (mc sid ++ [m.matches_.size])) ∧
    (∀ s, s ≠ sid → ∀ i ∈ mc s, m'.mt i = m.mt i) ∧
    Step m m' sid { absState m sid with matches_ := (absState m sid).matches_ ++ [p] } := by
  intro m'
  have hltc := hw.mlt sid
  have hld : (mc sid).getLast?.getD 0 < m.matches_.size := getLast?_getD_lt hw.mpos hltc
  have hmt := mt_appCell m sid hld p
  have hst := st_appCell m hp ((mc sid).getLast?.getD 0) p
  have hsp : m'.sparse = m.sparse := sparse_appCell ..
  have hsz : m'.matches_.size = m.matches_.size + 1 := matches_size_appCell ..
  -- the state heads: only the `matches` of `sid` may change
  have hhd : ∀ s, (m'.st s).sparse = (m.st s).sparse ∧ (m'.st s).fail = (m.st s).fail := by
    intro s; rw [hst]; split
    · rename_i e; rw [e.1]; exact ⟨rfl, rfl⟩
    · exact ⟨rfl, rfl⟩
  -- a cell other than the new one and the old tail is untouched
  have hcell : ∀ j, j < m.matches_.size → (mc sid).getLast? ≠ some j → m'.mt j = m.mt j := by
    intro j hj hne
    rw [hmt, if_neg (Nat.ne_of_lt hj), if_neg]
    intro e
    cases hl : (mc sid).getLast? with
    | none => rw [hl] at e; exact e.2 rfl
    | some q => rw [hl] at e hne; exact hne (congrArg some e.1.symm)
  have hpid : ∀ j, j < m.matches_.size → pidOf m' j = pidOf m j := by
    intro j hj
    unfold pidOf
    rw [hmt, if_neg (Nat.ne_of_lt hj)]
    split
    · rename_i e; rw [e.1]
    · rfl
  have hother : ∀ s, s ≠ sid → ∀ i ∈ mc s, m'.mt i = m.mt i := fun s hs i hi =>
    hcell i (hw.mlt s i hi) fun e => hw.mdisj s sid hs i hi (List.mem_of_getLast? e)
  have M : Chains (mlink m') (fun s => (m'.st s).matches_) m'.matches_.size
      (upd mc sid (mc sid ++ [m.matches_.size])) := by
    rw [hsz]
    refine hw.mchains.splice (List.append_nil _).symm (Nat.ne_of_gt hw.mpos) (fun j => ?_)
      (fun s => ?_)
    · show (m'.mt j).link = _
      rw [hmt, apply_ite MMatch.link, apply_ite MMatch.link]; rfl
    · show (m'.st s).matches_ = _
      rw [hst, apply_ite MState.matches_]
  have T := hw.tchains.congr (lnk' := tlink m') (head' := fun s => (m'.st s).sparse)
    (fun _ i _ => congrArg MTrans.link (tr_of_sparse hsp i)) (fun s => (hhd s).1)
    (Nat.le_of_eq (congrArg Array.size hsp).symm)
  have hw' : MemOKW m' tc (upd mc sid (mc sid ++ [m.matches_.size])) := by
    refine ⟨hsp ▸ hw.tpos, by omega, (tr_of_sparse hsp 0).trans hw.tsent, ?_, T.chain, T.lt,
      fun s => ?_, T.disj, M.chain, M.lt, M.nodup, M.disj⟩
    · rw [hmt, if_neg (Nat.ne_of_lt hw.mpos), if_neg (fun e => e.2 e.1.symm)]
      exact hw.msent
    · simpa only [tr_of_sparse hsp] using hw.tsorted s
  have hkv : kv m' = kv m := funext fun i => by unfold kv; rw [tr_of_sparse hsp]
  have hold : ∀ s, (mc s).map (pidOf m') = (mc s).map (pidOf m) :=
    fun s => List.map_congr_left fun i hi => hpid i (hw.mlt s i hi)
  refine ⟨hw', hother, ⟨_, _, hw'⟩, states_size_appCell .., ?_, fun s hs => ?_, ?_, ?_⟩
  · rw [absState_eq hw', absState_eq hw, upd_self, (hhd sid).2, hkv, List.map_append, hold]
    show _ = ({ trans := _, fail := _, matches_ := _ ++ [p] } : CState)
    rw [show [m.matches_.size].map (pidOf m') = [p] by
      show [(m'.mt m.matches_.size).pid] = _
      rw [hmt, if_pos rfl]]
  · rw [absState_eq hw', absState_eq hw, upd_ne _ _ hs, (hhd s).2, hkv, hold]
  · rw [hsp]
  · rw [hsz]
    show _ = _ + ((absState m sid).matches_ ++ [p]).length
    simp only [List.length_append, List.length_singleton]
    omega

/-! ## `add_match` -/

theorem addMatch_eq (m : MemNfa) (sid pid : Nat) :
    m.addMatch sid pid =
      appCell m sid (tailWalk m (m.matches_.size + 1) (m.st sid).matches_) pid := by
  have hnew : m.allocMatch.1.mt m.matches_.size = {} := by
    rw [mt_allocMatch]; exact Array.getD_of_size_le _ _ (Nat.le_refl _)
  have hpush : m.allocMatch.1.setMt m.matches_.size { m.allocMatch.1.mt m.matches_.size with pid := pid }
      = { m with matches_ := m.matches_.push { pid := pid, link := 0 } } := by
    rw [hnew]
    show ({ m with matches_ := (m.matches_.push {}).setIfInBounds m.matches_.size _ } : MemNfa) = _
    rw [Array.setIfInBounds_push_size]
  let link := tailWalk m (m.matches_.size + 1) (m.st sid).matches_
  let F : MemNfa → MemNfa := fun m1 =>
    if link = 0 then m1.setSt sid { m1.st sid with matches_ := m.matches_.size }
    else m1.setMt link { m1.mt link with link := m.matches_.size }
  have e1 : m.addMatch sid pid = F (m.allocMatch.1.setMt m.matches_.size
      { m.allocMatch.1.mt m.matches_.size with pid := pid }) := rfl
  have e2 : appCell m sid link pid =
      F { m with matches_ := m.matches_.push { pid := pid, link := 0 } } := rfl
  rw [e1, hpush]
  exact e2.symm

theorem tailWalk_last {m : MemNfa} {tc mc : Nat → List Nat} (hw : MemOKW m tc mc) (s : Nat) :
    tailWalk m (m.matches_.size + 1) (m.st s).matches_ = (mc s).getLast?.getD 0 :=
  tailWalk_eq m (by rw [hw.msent]) (hw.mchain s) (Nat.le_succ_of_le (hw.mlen s))

theorem addMatch_step {m : MemNfa} (h : MemOK m) {sid : Nat} (hp : sid < m.states.size)
    (pid : Nat) :
    Step m (m.addMatch sid pid) sid
      { absState m sid with matches_ := (absState m sid).matches_ ++ [pid] } := by
  obtain ⟨tc, mc, hw⟩ := h
  rw [addMatch_eq, tailWalk_last hw]
  exact (appCell_step hw hp pid).2.2

/-! ## `copy_matches` -/

theorem copyLoop_succ (dst fuel : Nat) (m : MemNfa) (ld ls : Nat) (h : ls ≠ 0) :
    copyLoop dst (fuel + 1) m ld ls =
      copyLoop dst fuel (appCell m dst ld (m.mt ls).pid) m.matches_.size
        ((appCell m dst ld (m.mt ls).pid).mt ls).link := by
  simp only [copyLoop, if_neg h]
  unfold appCell
  by_cases h0 : ld = 0
  · simp only [if_pos h0]
  · simp only [if_neg h0]

theorem sparse_copyLoop (dst : Nat) :
    ∀ (fuel : Nat) (m : MemNfa) (ld ls : Nat), (copyLoop dst fuel m ld ls).sparse = m.sparse
  | 0, _, _, _ => rfl
  | fuel + 1, m, ld, ls => by
    rw [copyLoop]
    split
    · rfl
    · rw [sparse_copyLoop dst fuel]
      split <;> rfl

theorem sparse_copyMatches (m : MemNfa) (src dst : Nat) : (m.copyMatches src dst).sparse = m.sparse :=
  sparse_copyLoop dst _ m _ _

/-- the copy loop (lines 501-521) appends the rest of the source list behind `ld` -/
theorem copyLoop_step (src dst : Nat) (hsd : src ≠ dst) :
    ∀ (rest : List Nat) (fuel : Nat) (m : MemNfa) (tc mc : Nat → List Nat) (ld ls : Nat),
      MemOKW m tc mc → dst < m.states.size → ld = (mc dst).getLast?.getD 0 →
      (∀ i ∈ rest, i ∈ mc src) → IsChain (mlink m) ls rest → rest.length ≤ fuel →
      Step m (copyLoop dst fuel m ld ls) dst
        { absState m dst with matches_ := (absState m dst).matches_ ++ rest.map (pidOf m) } := by
  intro rest
  induction rest with
  | nil =>
    intro fuel m tc mc ld ls hw hp _ _ hc _
    have : ls = 0 := hc
    subst this
    have : copyLoop dst fuel m ld 0 = m := by cases fuel <;> simp [copyLoop]
    rw [this, List.map_nil, List.append_nil]
    exact Step.refl ⟨_, _, hw⟩ dst
  | cons c rest ih =>
    intro fuel m tc mc ld ls hw hp hld hsub hc hf
    obtain ⟨e, hc0, hrest⟩ := hc
    subst e
    cases fuel with
    | zero => simp at hf
    | succ f =>
      rw [copyLoop_succ _ _ _ _ _ hc0, hld]
      obtain ⟨hw', hother, hs⟩ := appCell_step hw hp (m.mt ls).pid
      -- the source list is another list: its cells are as they were
      have hsame := hother src hsd
      have hpid : rest.map (pidOf (appCell m dst ((mc dst).getLast?.getD 0) (m.mt ls).pid)) =
          rest.map (pidOf m) := List.map_congr_left fun i hi =>
        congrArg MMatch.pid (hsame i (hsub i (List.mem_cons_of_mem _ hi)))
      rw [hsame ls (hsub ls List.mem_cons_self)]
      have hs' := hs.trans <| ih f _ tc _ m.matches_.size (m.mt ls).link hw' (hs.states ▸ hp)
        (by rw [upd_self]; simp)
        (fun i hi => by rw [upd_ne _ _ hsd]; exact hsub i (List.mem_cons_of_mem _ hi))
        (hrest.congr fun i hi => congrArg MMatch.link (hsame i (hsub i (List.mem_cons_of_mem _ hi))))
        (by simpa using hf)
      rw [hs.self, hpid] at hs'
      simpa only [List.append_assoc, List.cons_append, List.nil_append, List.map_cons, pidOf]
        using hs'

/-- for `src ≠ dst`, the only way the compiler calls `copy_matches` -/
theorem copyMatches_step {m : MemNfa} (h : MemOK m) {src dst : Nat} (hp : dst < m.states.size)
    (hsd : src ≠ dst) :
    Step m (m.copyMatches src dst) dst
      { absState m dst with matches_ := (absState m dst).matches_ ++ m.iterMatches src } := by
  obtain ⟨tc, mc, hw⟩ := h
  unfold copyMatches
  simp only
  rw [tailWalk_last hw, iterMatches_eq hw src]
  exact copyLoop_step src dst hsd (mc src) (m.matches_.size + 1) m tc mc _ _ hw hp rfl
    (fun _ hi => hi) (hw.mchain src) (Nat.le_succ_of_le (hw.mlen src))

end AcVerif.MemP
