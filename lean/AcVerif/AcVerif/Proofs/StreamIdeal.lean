import AcVerif.Proofs.StreamRef
import AcVerif.Theorems.C02
import AcVerif.Proofs.Meta
/-!
# Stream search on the ideal standard automaton

Instantiates `StreamRef` (`streamRef_ideal`): the in-memory search `findAt` is `firstMatch`, the
stream's own scan loop run over the whole stream (`findAt_eq_firstMatch`, by `findS_scan`); its
answers are non-empty occurrences of length at most the buffer's `min` (`hyp_ideal`, from
`C02_find`); `ChunkIter.new` succeeds (`new_ok`).  `HasRoom` is the one hypothesis on the buffer.
-/
namespace AcVerif.StreamP
open AcVerif AcVerif.StdP
variable {σ α : Type}

/-! ## generic: `findS` (earliest, unanchored) is the scan loop -/

theorem isMatch_of_dead {A : Aut σ α} (hA : StdLike A) {q : σ} (hq : A.isDead q = true) :
    A.isMatch q = false := by
  rw [hA.isMatch, hA.dead_out q hq]; rfl

theorem scan_dead {A : Aut σ α} (hA : StdLike A) {q : σ} (hq : A.isDead q = true) (k : Nat)
    (w : List α) : A.isMatch (scanBytes A q k w).1 = false := by
  induction w generalizing q k with
  | nil => exact isMatch_of_dead hA hq
  | cons c w ih =>
    have hd := hA.dead_next false q c hq
    simp only [scanBytes, isMatch_of_dead hA hd, Bool.false_eq_true, if_false]
    exact ih hd _

theorem findS_scan {A : Aut σ α} (hA : StdLike A) (s : Nat) (q : σ) (at_ : Nat) (rest : List α)
    (hq : A.isMatch q = false) :
    findS A s false true q at_ none rest =
      if A.isMatch (scanBytes A q 0 rest).1 then
        some (getMatch A (scanBytes A q 0 rest).1 0 (at_ + (scanBytes A q 0 rest).2))
      else none := by
  induction rest generalizing q at_ with
  | nil => simp [findS, scanBytes, hq]
  | cons c rest ih =>
    simp only [findS, scanBytes]
    rw [hA.special]
    rcases Bool.eq_false_or_eq_true (A.isMatch (A.next false q c)) with hm | hm
    · have hd : A.isDead (A.next false q c) = false := by
        rcases Bool.eq_false_or_eq_true (A.isDead (A.next false q c)) with hd | hd
        · rw [isMatch_of_dead hA hd] at hm; cases hm
        · exact hd
      simp [hd, hm]
    · rcases Bool.eq_false_or_eq_true (A.isDead (A.next false q c)) with hd | hd
      · have := scan_dead hA hd (0 + 1) rest
        simp [this, hd, hm]
      · simp only [hd, hm, Bool.or_self, Bool.false_eq_true, if_false]
        rw [ih _ _ hm, scan_shift A _ (0 + 1) rest]
        simp only [Nat.zero_add, Nat.add_assoc]

/-! ## the only fact about the capacity: one byte of room beyond `min` -/

/-- the buffer made by `Buffer.new n spare minFactor defaultCap` has room for one byte beyond its
`min`; C07, C08 and C18 state this hypothesis written out, C07Fold and C19Stream as `HasRoom` -/
def HasRoom (α : Type) (n : Nat) (spare : Option Nat) (minFactor defaultCap : Nat) : Prop :=
  (Buffer.new (α := α) n spare minFactor defaultCap).min <
    (Buffer.new (α := α) n spare minFactor defaultCap).cap

/-- explicit spare room: `min < min + max 1 sp`, whatever the constants -/
theorem hcap_spare (n sp minFactor defaultCap : Nat) :
    HasRoom α n (some sp) minFactor defaultCap := by
  show max 1 n < max 1 n + max 1 sp; omega

/-- production shape `max (min * minFactor) defaultCap` with `minFactor ≥ 2` -/
theorem hcap_factor (n minFactor defaultCap : Nat) (hf : 2 ≤ minFactor) :
    HasRoom α n none minFactor defaultCap := by
  show max 1 n < max (max 1 n * minFactor) defaultCap
  have := Nat.mul_le_mul_left (max 1 n) hf
  omega

/-- the default constants (factor 8, 64 KiB) -/
theorem hcap_default (n : Nat) (spare : Option Nat) :
    (Buffer.new (α := α) n spare).min < (Buffer.new (α := α) n spare).cap := by
  cases spare with
  | none => show max 1 n < max (max 1 n * 8) (64 * 1024); omega
  | some sp => show max 1 n < max 1 n + max 1 sp; omega

/-! ## the ideal standard automaton -/
section Ideal
variable {α : Type} [DecidableEq α]

theorem findAt_isFind (P : List (List α)) (sk : StartKind) (hsk : supportsAnch sk false)
    (data : List α) (r : Nat) (hr : r ≤ data.length + 1) :
    IsFind .std P data r data.length false
      (findAt (ideal .std P sk false) none (whole data) r) := by
  obtain ⟨res, h1, h2⟩ := C02_find P sk (wholeAt data r hr) hsk
  have : findAt (ideal .std P sk false) none (whole data) r = res := by
    unfold findAt
    rw [dif_pos hr]
    simp only [h1]
  rw [this]
  exact h2

theorem findAt_eq_firstMatch (P : List (List α)) (sk : StartKind) (hsk : supportsAnch sk false)
    (hne : ∀ p ∈ P, p ≠ []) (data : List α) (r : Nat) (hr : r ≤ data.length) :
    findAt (ideal .std P sk false) none (whole data) r =
      firstMatch (ideal .std P sk false) (.at []) data r := by
  have hr' : r ≤ data.length + 1 := by omega
  have hd : Input.isDone (wholeAt data r hr') = false := by
    simp only [Input.isDone, decide_eq_false_iff_not]; omega
  have h1 := tryFindFwd_findS (ideal .std P sk false) (wholeAt data r hr')
    (LmP.start_root .std P false hsk)
  rw [hd, LmP.root_not_match .std P hne sk false] at h1
  unfold findAt
  rw [dif_pos hr']
  simp only [h1, Bool.false_eq_true, if_false, List.take_length]
  exact findS_scan (stdLike_ideal P sk) _ _ _ _ (LmP.root_not_match .std P hne sk false)

theorem len_le_maxLen (P : List (List α)) (sk : StartKind) {p : List α} (hp : p ∈ P) :
    p.length ≤ (ideal .std P sk false).maxLen := by
  show p.length ≤ (P.map List.length).foldl max 0
  exact MiscP.le_foldl_max _ 0 _ (List.mem_map_of_mem hp)

theorem hyp_ideal (P : List (List α)) (sk : StartKind) (hsk : supportsAnch sk false)
    (hne : ∀ p ∈ P, p ≠ []) (data : List α) (sched : List Nat) (hs : ∀ x ∈ sched, 1 ≤ x)
    (spare : Option Nat) (minFactor defaultCap : Nat)
    (hcap : HasRoom α (ideal .std P sk false).maxLen spare minFactor defaultCap) :
    Hyp (ideal .std P sk false) (.at []) data sched
      (Buffer.new (α := α) (ideal .std P sk false).maxLen spare minFactor defaultCap).min
      (Buffer.new (α := α) (ideal .std P sk false).maxLen spare minFactor defaultCap).cap where
  m0 := LmP.root_not_match .std P hne sk false
  fok := by
    intro r m hr hf
    rw [← findAt_eq_firstMatch P sk hsk hne data r hr] at hf
    have := findAt_isFind P sk hsk data r (by omega)
    rw [hf] at this
    obtain ⟨⟨⟨p, hp, h1, h2, h3, _⟩, _⟩, _⟩ := this
    have hmem := List.mem_of_getElem? hp
    have h4 : 0 < p.length := List.length_pos_iff.2 (hne p hmem)
    have h5 := len_le_maxLen P sk hmem
    refine ⟨h1, by omega, ?_⟩
    show m.stop ≤ m.start + max 1 (ideal .std P sk false).maxLen
    omega
  lm1 := by show 1 ≤ max 1 _; omega
  lmC := hcap
  sch := hs

theorem new_ok (P : List (List α)) (sk : StartKind) (hsk : supportsAnch sk false)
    (hne : ∀ p ∈ P, p ≠ []) (rdr : Reader α) (spare : Option Nat) (minFactor defaultCap : Nat) :
    ChunkIter.new (ideal .std P sk false) rdr spare minFactor defaultCap =
      .ok { rdr := rdr,
            buf := Buffer.new (ideal .std P sk false).maxLen spare minFactor defaultCap,
            start := .at [], sid := .at [] } := by
  have h1 : ((ideal .std P sk false).kind != .std) = false := rfl
  have h2 : ((ideal .std P sk false).minLen == 0) = false := by
    have : 0 < (ideal .std P sk false).minLen :=
      MiscP.minLen_pos P (a := 18446744073709551615) (by decide) hne
    simp only [beq_eq_false_iff_ne, ne_eq]; omega
  simp only [ChunkIter.new, h1, h2, LmP.start_root .std P false hsk, Bool.false_eq_true, if_false]

/-- No buffer is involved: the constants handed to `hyp_ideal` in the proof are arbitrary. -/
theorem iter_findAt (P : List (List α)) (sk : StartKind) (hsk : supportsAnch sk false)
    (hne : ∀ p ∈ P, p ≠ []) (data : List α) :
    iterSpec (findAt (ideal .std P sk false) none (whole data)) 0 data.length =
      iterSpecAux (firstMatch (ideal .std P sk false) (.at []) data) (data.length + 2 - 0) 0 none :=
  iter_congr (fun r hr => findAt_eq_firstMatch P sk hsk hne data r hr)
    (hyp_ideal P sk hsk hne data [] (fun _ h => nomatch h) none 8 (64 * 1024)
      (hcap_default _ none)).FOK _ 0 none (Nat.zero_le _)

theorem streamRef_ideal (P : List (List α)) (sk : StartKind) (hsk : supportsAnch sk false)
    (hne : ∀ p ∈ P, p ≠ []) (data : List α) (spare : Option Nat) (minFactor defaultCap : Nat)
    (hcap : HasRoom α (ideal .std P sk false).maxLen spare minFactor defaultCap) :
    StreamRef (ideal .std P sk false) (.at []) data spare minFactor defaultCap where
  new rdr := new_ok P sk hsk hne rdr spare minFactor defaultCap
  hyp sched hs := hyp_ideal P sk hsk hne data sched hs spare minFactor defaultCap hcap
  iter := (findIter_whole (LmP.start_root .std P false hsk) data).trans
    (congrArg Except.ok (iter_findAt P sk hsk hne data))

end Ideal

end AcVerif.StreamP
