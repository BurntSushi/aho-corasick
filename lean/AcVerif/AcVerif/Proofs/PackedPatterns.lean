import AcVerif.Packed.Model
import AcVerif.Spec
import AcVerif.Proofs.Meta
/-!
# Packed searchers: the pattern collection (helpers for C06)

`order` enumerates exactly the ids, sorted by the semantic preference `ordR` (ascending id for
leftmost-first; descending length, ties by ascending id, for leftmost-longest), so
`bestAt p hay pos`, the first pattern of `order` verified at offset `pos`, is the best occurrence
starting there (`bestAt_some`).  `Scan p hay lo hi r` – `r` is the first non-`none` `bestAt` of
the offsets `lo ≤ pos < hi` – composes (`scan_one`, `scan_append`, `scan_range`), and a scan of
all offsets where a pattern may fit is `IsFind` (`isFind_of_scan`).

Namespace `PackedP`: facts about the lane-level models of `AcVerif/Packed/Model.lean` – `PPatterns`
(this file), `RabinKarp` (`PackedRK`), `Teddy` (`PackedTeddy`).
-/
namespace AcVerif

/-- `packed::MatchKind` as the crate-level `MatchKind` -/
def PKind.toMatchKind : PKind → MatchKind
  | .lf => .lf
  | .ll => .ll

namespace PackedP

/-! ## `minLen` -/

@[simp] theorem new_byId (kind : PKind) (pats : List PBytes) :
    (PPatterns.new kind pats).byId = pats := rfl

@[simp] theorem new_get (kind : PKind) (pats : List PBytes) (id : Nat) :
    (PPatterns.new kind pats).get id = pats.getD id [] := rfl

theorem new_minLen (kind : PKind) (pats : List PBytes) :
    (PPatterns.new kind pats).minLen = (pats.map List.length).foldl min 18446744073709551615 := rfl

theorem minLen_le (kind : PKind) (pats : List PBytes) (id : Nat) (h : id < pats.length) :
    (PPatterns.new kind pats).minLen ≤ (pats.getD id []).length :=
  MiscP.minLen_le pats _ (List.getD_mem pats id [] h)

theorem minLen_pos (kind : PKind) (pats : List PBytes) (hnz : ∀ p ∈ pats, p ≠ []) :
    0 < (PPatterns.new kind pats).minLen :=
  MiscP.minLen_pos pats (by decide) hnz

/-! ## `order` -/

def lenOf (pats : List PBytes) (id : Nat) : Nat := (pats.getD id []).length

/-- the semantic preference among patterns matching at one offset -/
def ordR : PKind → List PBytes → Nat → Nat → Prop
  | .lf, _, a, b => a < b
  | .ll, pats, a, b => lenOf pats b < lenOf pats a ∨ (lenOf pats a = lenOf pats b ∧ a < b)

theorem mem_insertByLenDesc (byId : List PBytes) (id : Nat) (l : List Nat) (x : Nat) :
    x ∈ insertByLenDesc byId id l ↔ x = id ∨ x ∈ l := by
  induction l with
  | nil => simp [insertByLenDesc]
  | cons y ys ih =>
    unfold insertByLenDesc
    split
    · simp
    · rw [List.mem_cons, ih, List.mem_cons]
      exact or_left_comm

theorem pairwise_insertByLenDesc (pats : List PBytes) (id : Nat) (l : List Nat)
    (hp : l.Pairwise (ordR .ll pats)) (hlt : ∀ x ∈ l, x < id) :
    (insertByLenDesc pats id l).Pairwise (ordR .ll pats) := by
  induction l with
  | nil => simp [insertByLenDesc]
  | cons y ys ih =>
    rw [List.pairwise_cons] at hp
    unfold insertByLenDesc
    split
    · rename_i hlen
      rw [List.pairwise_cons]
      refine ⟨?_, List.pairwise_cons.2 hp⟩
      intro z hz
      rcases List.mem_cons.1 hz with rfl | hz
      · exact Or.inl hlen
      · have := hp.1 z hz
        simp only [ordR, lenOf] at this ⊢
        omega
    · rename_i hlen
      rw [List.pairwise_cons]
      refine ⟨?_, ih hp.2 (fun x hx => hlt x (List.mem_cons_of_mem _ hx))⟩
      intro z hz
      rcases (mem_insertByLenDesc pats id ys z).1 hz with rfl | hz
      · have := hlt y (by simp)
        simp only [ordR, lenOf]
        omega
      · exact hp.1 z hz

theorem foldl_insert_spec (pats : List PBytes) (n : Nat) :
    ((List.range n).foldl (fun acc id => insertByLenDesc pats id acc) []).Pairwise (ordR .ll pats) ∧
    ∀ x, x ∈ (List.range n).foldl (fun acc id => insertByLenDesc pats id acc) [] ↔ x < n := by
  induction n with
  | zero => simp
  | succ n ih =>
    rw [List.range_succ, List.foldl_append]
    simp only [List.foldl_cons, List.foldl_nil]
    refine ⟨pairwise_insertByLenDesc pats n _ ih.1 (fun x hx => (ih.2 x).1 hx), ?_⟩
    intro x
    rw [mem_insertByLenDesc, ih.2]
    omega

theorem order_pairwise (kind : PKind) (pats : List PBytes) :
    (PPatterns.new kind pats).order.Pairwise (ordR kind pats) := by
  cases kind with
  | lf =>
    show (List.range pats.length).Pairwise (fun a b => a < b)
    exact List.pairwise_lt_range
  | ll => exact (foldl_insert_spec pats pats.length).1

theorem mem_order (kind : PKind) (pats : List PBytes) (x : Nat) :
    x ∈ (PPatterns.new kind pats).order ↔ x < pats.length := by
  cases kind with
  | lf => exact List.mem_range
  | ll => exact (foldl_insert_spec pats pats.length).2 x

theorem new_minLen_le (kind : PKind) (pats : List PBytes) :
    ∀ id ∈ (PPatterns.new kind pats).order,
      (PPatterns.new kind pats).minLen ≤ ((PPatterns.new kind pats).get id).length :=
  fun id hid => minLen_le kind pats id ((mem_order kind pats id).1 hid)

/-! ## the first verified pattern at an offset -/

/-- verification of one pattern at one offset (the closure inside `RabinKarp.loop` / `Teddy.verify`) -/
def vf (p : PPatterns) (hay : PBytes) (pos pid : Nat) : Option Mat :=
  if isPrefixAt (p.get pid) hay pos then
    some ({ pid := pid, start := pos, stop := pos + (p.get pid).length } : Mat)
  else none

def bestAt (p : PPatterns) (hay : PBytes) (pos : Nat) : Option Mat :=
  p.order.findSome? (vf p hay pos)

theorem findSome?_pairwise {β : Type} {R : Nat → Nat → Prop} (f : Nat → Option β) (l : List Nat)
    (hp : l.Pairwise R) (v : β) (h : l.findSome? f = some v) :
    ∃ a ∈ l, f a = some v ∧ ∀ x ∈ l, (f x).isSome → x = a ∨ R a x := by
  induction l with
  | nil => cases h
  | cons y ys ih =>
    rw [List.pairwise_cons] at hp
    rw [List.findSome?_cons] at h
    cases hy : f y with
    | some w =>
      rw [hy] at h
      exact ⟨y, List.mem_cons_self, hy.trans h, fun x hx _ => (List.mem_cons.1 hx).imp_right (hp.1 x)⟩
    | none =>
      rw [hy] at h
      obtain ⟨a, ha, h1, h3⟩ := ih hp.2 h
      refine ⟨a, List.mem_cons_of_mem _ ha, h1, fun x hx hsome => ?_⟩
      rcases List.mem_cons.1 hx with rfl | hx
      · rw [hy] at hsome; cases hsome
      · exact h3 x hx hsome

/-! ## occurrences at an offset -/

theorem isPrefixAt_take_iff (pat hay : PBytes) (en pos : Nat) :
    isPrefixAt pat (hay.take en) pos = true ↔ pat <+: hay.drop pos ∧ pat.length ≤ en - pos := by
  unfold isPrefixAt
  rw [List.isPrefixOf_iff_prefix, List.drop_take, List.prefix_take_iff]

theorem vf_eq_some (p : PPatterns) (hay : PBytes) (pos pid : Nat) (m : Mat) :
    vf p hay pos pid = some m ↔
      isPrefixAt (p.get pid) hay pos = true ∧ m = ⟨pid, pos, pos + (p.get pid).length⟩ := by
  unfold vf
  split
  · rename_i h; simp [h, eq_comm]
  · rename_i h; simp [h]

theorem bestAt_start (p : PPatterns) (hay : PBytes) (pos : Nat) (m : Mat)
    (h : bestAt p hay pos = some m) : m.start = pos := by
  obtain ⟨a, _, ha⟩ := List.exists_of_findSome?_eq_some h
  rw [((vf_eq_some _ _ _ _ _).1 ha).2]

variable (kind : PKind) (pats : List PBytes)

theorem occ_iff_vf (hnz : ∀ p ∈ pats, p ≠ []) (hay : PBytes) (st en : Nat) (m : Mat) :
    IsOcc pats hay st en m ↔
      m.pid < pats.length ∧ st ≤ m.start ∧
        vf (PPatterns.new kind pats) (hay.take en) m.start m.pid = some m := by
  rw [vf_eq_some, new_get, isPrefixAt_take_iff]
  constructor
  · rintro ⟨p, h1, h2, h3, h4, h5⟩
    obtain ⟨hlt, rfl⟩ := List.getElem?_eq_some_iff.1 h1
    rw [List.getD_of_lt _ _ _ hlt, ← h3]
    exact ⟨hlt, h2, ⟨h5, by omega⟩, rfl⟩
  · rintro ⟨hlt, h2, ⟨h3, h4⟩, h5⟩
    have hpos : 0 < (pats.getD m.pid []).length := by
      rw [List.getD_of_lt _ _ _ hlt]; exact List.length_pos_iff.2 (hnz _ (List.getElem_mem hlt))
    have hstop : m.stop = m.start + (pats.getD m.pid []).length := congrArg Mat.stop h5
    refine ⟨pats.getD m.pid [], ?_, h2, hstop, by rw [hstop]; omega, h3⟩
    rw [List.getD_of_lt _ _ _ hlt, List.getElem?_eq_getElem hlt]

theorem bestAt_none (hnz : ∀ p ∈ pats, p ≠ []) (hay : PBytes) (st en pos : Nat)
    (h : bestAt (PPatterns.new kind pats) (hay.take en) pos = none) (m : Mat)
    (hm : IsOcc pats hay st en m) : m.start ≠ pos := by
  rintro rfl
  obtain ⟨h1, _, h3⟩ := (occ_iff_vf kind pats hnz hay st en m).1 hm
  rw [List.findSome?_eq_none_iff.1 h m.pid ((mem_order kind pats _).2 h1)] at h3
  cases h3

theorem bestAt_some (hnz : ∀ p ∈ pats, p ≠ []) (hay : PBytes) (st en pos : Nat) (hst : st ≤ pos)
    (m : Mat) (h : bestAt (PPatterns.new kind pats) (hay.take en) pos = some m) :
    IsOcc pats hay st en m ∧
      ∀ m', IsOcc pats hay st en m' → m'.start = pos → better kind.toMatchKind m m' := by
  obtain ⟨a, ha, h1, h3⟩ := findSome?_pairwise _ _ (order_pairwise kind pats) m h
  obtain rfl := ((vf_eq_some _ _ _ _ _).1 h1).2
  refine ⟨(occ_iff_vf kind pats hnz hay st en _).2 ⟨(mem_order kind pats a).1 ha, hst, h1⟩, ?_⟩
  intro m' hm' hs'
  obtain ⟨g1, _, g3⟩ := (occ_iff_vf kind pats hnz hay st en m').1 hm'
  rw [hs'] at g3
  have hr := h3 m'.pid ((mem_order kind pats _).2 g1) (by rw [g3]; rfl)
  rw [((vf_eq_some _ _ _ _ _).1 g3).2, new_get, new_get]
  cases kind with
  | lf =>
    simp only [PKind.toMatchKind, better, betterLF, ordR, true_and] at hr ⊢
    omega
  | ll =>
    rcases hr with hr | hr
    · rw [hr]
      simp [PKind.toMatchKind, better, betterLL]
    · simp only [PKind.toMatchKind, better, betterLL, ordR, lenOf, true_and] at hr ⊢
      omega

/-! ## left-to-right scans -/

/-- `r` is the outcome of trying the offsets `lo ≤ pos < hi` of `hay` in increasing order and
reporting the first verified pattern of the first offset that has one (for a match the upper
end plays no role) -/
def Scan (p : PPatterns) (hay : PBytes) (lo hi : Nat) (r : Option Mat) : Prop :=
  match r with
  | none => ∀ pos, lo ≤ pos → pos < hi → bestAt p hay pos = none
  | some m => lo ≤ m.start ∧ bestAt p hay m.start = some m ∧
      ∀ pos, lo ≤ pos → pos < m.start → bestAt p hay pos = none

theorem scan_one (p : PPatterns) (hay : PBytes) (lo : Nat) :
    Scan p hay lo (lo + 1) (bestAt p hay lo) := by
  cases hb : bestAt p hay lo with
  | none =>
    intro pos h1 h2
    rw [show pos = lo by omega]; exact hb
  | some m =>
    have hs := bestAt_start _ _ _ _ hb
    exact ⟨by omega, by rw [hs]; exact hb, fun pos h1 h2 => by omega⟩

theorem scan_append {p : PPatterns} {hay : PBytes} {lo mid hi : Nat} {r : Option Mat}
    (hle : lo ≤ mid) (h1 : Scan p hay lo mid none) (h2 : Scan p hay mid hi r) :
    Scan p hay lo hi r := by
  have hcase : ∀ pos, lo ≤ pos → (mid ≤ pos → bestAt p hay pos = none) →
      bestAt p hay pos = none := fun pos g1 g2 =>
    (Nat.lt_or_ge pos mid).elim (h1 pos g1) g2
  cases r with
  | none => exact fun pos g1 g2 => hcase pos g1 (fun g => h2 pos g g2)
  | some m =>
    exact ⟨Nat.le_trans hle h2.1, h2.2.1, fun pos g1 g2 => hcase pos g1 (fun g => h2.2.2 pos g g2)⟩

theorem scan_none_mono {p : PPatterns} {hay : PBytes} {lo hi hi' : Nat} (hle : hi' ≤ hi)
    (h : Scan p hay lo hi none) : Scan p hay lo hi' none :=
  fun pos g1 g2 => h pos g1 (Nat.lt_of_lt_of_le g2 hle)

theorem scan_range (p : PPatterns) (hay : PBytes) (base w : Nat) :
    Scan p hay base (base + w) ((List.range w).findSome? fun j => bestAt p hay (base + j)) := by
  induction w with
  | zero => exact fun pos h1 h2 => by omega
  | succ w ih =>
    rw [List.range_succ, List.findSome?_append, List.findSome?_singleton]
    generalize (List.range w).findSome? (fun j => bestAt p hay (base + j)) = r at ih ⊢
    cases r with
    | some m => exact ih
    | none => exact scan_append (Nat.le_add_right _ _) ih (scan_one p hay (base + w))

theorem isFind_of_scan (hnz : ∀ p ∈ pats, p ≠ []) (hay : PBytes) (st en k : Nat)
    (hk : k ≤ (PPatterns.new kind pats).minLen) (r : Option Mat)
    (h : Scan (PPatterns.new kind pats) (hay.take en) st (en + 1 - k) r) :
    IsFind kind.toMatchKind pats hay st en false r := by
  cases r with
  | none =>
    intro m hm
    obtain ⟨p, h1, h2, h3, h4, _⟩ := hm.1
    obtain ⟨hlt, rfl⟩ := List.getElem?_eq_some_iff.1 h1
    have hlen := minLen_le kind pats m.pid hlt
    rw [List.getD_of_lt _ _ _ hlt] at hlen
    exact bestAt_none kind pats hnz hay st en m.start (h m.start h2 (by omega)) m hm.1 rfl
  | some m =>
    obtain ⟨h1, h2, h3⟩ := h
    obtain ⟨g1, g3⟩ := bestAt_some kind pats hnz hay st en m.start h1 m h2
    refine ⟨⟨g1, fun hh => by cases hh⟩, ?_⟩
    intro m' hm'
    have hst' : st ≤ m'.start := by
      obtain ⟨_, _, h2, _⟩ := hm'.1; exact h2
    rcases Nat.lt_trichotomy m'.start m.start with hlt | heq | hgt
    · exact absurd rfl (bestAt_none kind pats hnz hay st en m'.start (h3 _ hst' hlt) m' hm'.1)
    · exact g3 m' hm'.1 heq
    · cases kind <;> exact Or.inl hgt

end PackedP
end AcVerif
