import AcVerif.Proofs.NfaMemMatch
/-!
# The compiler's in-place rewrites of `next`
(`add_unanchored_start_state_loop`, `close_start_state_loop_for_leftmost`,
`set_anchored_start_state`), and `states[sid].fail = f`

The walks with `next_link` only overwrite `next` fields, so they are first described cell by cell
(`replaceNextGo_tr`, `copyNextGo_tr`, no invariant needed beyond the chain that is walked);
`MemOKW.step_next` turns that into the invariant and the step on the abstract state.
-/
-- `(absState m s).trans` is `m.iterTrans s` by unfolding `absState`; unfolding the iterator instead is slow
attribute [local irreducible] AcVerif.MemNfa.iterTrans AcVerif.MemNfa.iterMatches

namespace AcVerif.MemP
open AcVerif MemNfa

/-- the link `next_link` looks at -/
def curLink (m : MemNfa) (sid : Nat) (prev : Option Nat) : Nat :=
  match prev with
  | none => (m.st sid).sparse
  | some p => (m.tr p).link

theorem nextLink_eq (m : MemNfa) (sid : Nat) (prev : Option Nat) :
    m.nextLink sid prev = if curLink m sid prev = 0 then none else some (curLink m sid prev) := by
  unfold nextLink curLink
  cases prev <;> rfl

/-- after the write to cell `c` the walk goes on from the link `c` had -/
theorem curLink_setNext (m : MemNfa) (sid c a t : Nat) :
    curLink (setNext m a t) sid (some c) = tlink m c :=
  (link_byte_setNext m a t c).1

theorem replaceNextGo_tr (sid old new : Nat) :
    ∀ (rest : List Nat) (fuel : Nat) (m : MemNfa) (prevLink : Option Nat),
      IsChain (tlink m) (curLink m sid prevLink) rest → rest.Nodup →
      (∀ i ∈ rest, i < m.sparse.size) → rest.length ≤ fuel →
      (replaceNextGo sid old new fuel m prevLink).states = m.states ∧
      (replaceNextGo sid old new fuel m prevLink).matches_ = m.matches_ ∧
      (replaceNextGo sid old new fuel m prevLink).sparse.size = m.sparse.size ∧
      ∀ i, (replaceNextGo sid old new fuel m prevLink).tr i =
        if i ∈ rest then { m.tr i with next := if (m.tr i).next = old then new else (m.tr i).next }
        else m.tr i := by
  intro rest
  induction rest with
  | nil =>
    intro fuel m prevLink hc _ _ _
    have hc0 : curLink m sid prevLink = 0 := hc
    have : replaceNextGo sid old new fuel m prevLink = m := by
      cases fuel with
      | zero => rfl
      | succ f => simp only [replaceNextGo, nextLink_eq, hc0, if_true]
    rw [this]
    exact ⟨rfl, rfl, rfl, fun i => (if_neg List.not_mem_nil).symm⟩
  | cons c rest ih =>
    intro fuel m prevLink hc hnd hlt hf
    obtain ⟨e, hc0, hrest⟩ := hc
    have hcs : c < m.sparse.size := hlt c List.mem_cons_self
    have hnd' := List.nodup_cons.1 hnd
    cases fuel with
    | zero => simp at hf
    | succ f =>
      simp only [replaceNextGo, nextLink_eq, e, if_neg hc0]
      -- the conditional write is a write of the new value in both cases
      have hm1 : (if (m.tr c).next = old then m.setTr c { m.tr c with next := new } else m) =
          setNext m c (if (m.tr c).next = old then new else (m.tr c).next) := by
        by_cases hn : (m.tr c).next = old
        · rw [if_pos hn, if_pos hn]; rfl
        · rw [if_neg hn, if_neg hn]; exact (setTr_tr m c).symm
      rw [hm1]
      generalize hv : (if (m.tr c).next = old then new else (m.tr c).next) = v
      obtain ⟨i1, i2, i3, i4⟩ := ih f (setNext m c v) (some c)
        (by rw [curLink_setNext, tlink_setNext]; exact hrest) hnd'.2
        (fun i hi => by rw [show (setNext m c v).sparse.size = _ from sparse_size_setTr ..]
                        exact hlt i (List.mem_cons_of_mem _ hi)) (by simpa using hf)
      refine ⟨i1, i2, i3.trans (sparse_size_setTr ..), fun i => ?_⟩
      rw [i4, tr_setNext m hcs]
      by_cases hic : i = c
      · rw [hic, if_neg hnd'.1, if_pos rfl, if_pos List.mem_cons_self, hv]
      · rw [if_neg hic]
        by_cases hir : i ∈ rest
        · rw [if_pos hir, if_pos (List.mem_cons_of_mem _ hir)]
        · rw [if_neg hir, if_neg (fun h => (List.mem_cons.1 h).elim hic hir)]

/-- **the `next`-rewriting loops**: every `next == old` of the list of `sid` becomes `new` -/
theorem replaceNext_step {m : MemNfa} (h : MemOK m) (sid old new : Nat) :
    Step m (replaceNextGo sid old new (m.sparse.size + 1) m none) sid
      { absState m sid with
        trans := (absState m sid).trans.map fun x => (x.1, if x.2 = old then new else x.2) } := by
  obtain ⟨tc, mc, hw⟩ := h
  obtain ⟨i1, i2, i3, i4⟩ := replaceNextGo_tr sid old new (tc sid) (m.sparse.size + 1) m none
    (hw.tchain sid) (hw.tnodup sid) (hw.tlt sid) (Nat.le_succ_of_le (hw.tlen sid))
  have hs := (hw.step_next sid i1 i2 i3 (fun i => by rw [i4]; split <;> exact ⟨rfl, rfl⟩)
    (fun i hi => by rw [i4, if_neg hi])).2
  rw [absState_eq hw, List.map_map]
  rw [absState_eq hw] at hs
  rw [show (tc sid).map ((fun x : UInt8 × Nat => (x.1, if x.2 = old then new else x.2)) ∘ kv m) =
    (tc sid).map (kv (replaceNextGo sid old new (m.sparse.size + 1) m none)) from
      List.map_congr_left fun i hi => by unfold kv; rw [i4, if_pos hi]; rfl]
  exact hs

/-! ## the lock-step loop of `set_anchored_start_state` -/

theorem copyNextGo_tr (su sa : Nat) :
    ∀ (ar ur : List Nat) (fuel : Nat) (m : MemNfa) (up ap : Option Nat),
      IsChain (tlink m) (curLink m su up) ur → IsChain (tlink m) (curLink m sa ap) ar →
      ar.Nodup → (∀ i ∈ ur, i ∉ ar) → (∀ i ∈ ar, i < m.sparse.size) →
      ur.length = ar.length → ar.length ≤ fuel →
      ∃ r, copyNextGo su sa fuel m up ap = some r ∧ r.states = m.states ∧
        r.matches_ = m.matches_ ∧ r.sparse.size = m.sparse.size ∧
        (∀ i, (r.tr i).link = (m.tr i).link ∧ (r.tr i).byte = (m.tr i).byte) ∧
        (∀ i, i ∉ ar → r.tr i = m.tr i) ∧
        ar.map (fun a => (r.tr a).next) = ur.map fun u => (m.tr u).next := by
  intro ar
  induction ar with
  | nil =>
    intro ur fuel m up ap hcu hca _ _ _ hlen _
    have : ur = [] := List.eq_nil_of_length_eq_zero hlen
    subst this
    have hu0 : curLink m su up = 0 := hcu
    have ha0 : curLink m sa ap = 0 := hca
    refine ⟨m, ?_, rfl, rfl, rfl, fun _ => ⟨rfl, rfl⟩, fun _ _ => rfl, rfl⟩
    cases fuel with
    | zero => rfl
    | succ f => simp only [copyNextGo, nextLink_eq, hu0, ha0, if_true]
  | cons a ar ih =>
    intro ur fuel m up ap hcu hca hnd hdisj hlt hlen hf
    cases ur with
    | nil => simp at hlen
    | cons u ur =>
      obtain ⟨eu, hu0, hurest⟩ := hcu
      obtain ⟨ea, ha0, harest⟩ := hca
      have has : a < m.sparse.size := hlt a List.mem_cons_self
      have hnd' := List.nodup_cons.1 hnd
      cases fuel with
      | zero => simp at hf
      | succ f =>
        simp only [copyNextGo, nextLink_eq, eu, ea, if_neg hu0, if_neg ha0]
        obtain ⟨r, j1, j2, j3, j4, j5, j6, j7⟩ := ih ur f (setNext m a (m.tr u).next) (some u) (some a)
          (by rw [curLink_setNext, tlink_setNext]; exact hurest)
          (by rw [curLink_setNext, tlink_setNext]; exact harest) hnd'.2
          (fun i hi hm => hdisj i (List.mem_cons_of_mem _ hi) (List.mem_cons_of_mem _ hm))
          (fun i hi => by rw [show (setNext m a _).sparse.size = _ from sparse_size_setTr ..]
                          exact hlt i (List.mem_cons_of_mem _ hi))
          (by simpa using hlen) (by simpa using hf)
        have htr1 := tr_setNext m has (m.tr u).next
        refine ⟨r, j1, j2, j3, j4.trans (sparse_size_setTr ..), fun i => ?_, fun i hi => ?_, ?_⟩
        · rw [(j5 i).1, (j5 i).2]; exact link_byte_setNext ..
        · rw [j6 i fun h => hi (List.mem_cons_of_mem _ h), htr1,
            if_neg fun (h : i = a) => hi (h ▸ List.mem_cons_self)]
        · rw [List.map_cons, List.map_cons, j6 a hnd'.1, htr1, if_pos rfl, j7]
          congr 1
          -- the cells still to be read are other cells than `a`
          refine List.map_congr_left fun i hi => ?_
          rw [htr1, if_neg fun (h : i = a) =>
            hdisj i (List.mem_cons_of_mem _ hi) (h ▸ List.mem_cons_self)]

/-- the lock-step loop: with the same bytes in both lists (both start states are fully
initialised), the anchored start gets the transition list of the unanchored start; in particular
the `unreachable!()` is not reached -/
theorem copyNext_step {m : MemNfa} (h : MemOK m) {su sa : Nat} (hne : su ≠ sa)
    (hbytes : (m.iterTrans sa).map Prod.fst = (m.iterTrans su).map Prod.fst) :
    ∃ r, copyNextGo su sa (m.sparse.size + 1) m none none = some r ∧
      Step m r sa { absState m sa with trans := m.iterTrans su } := by
  obtain ⟨tc, mc, hw⟩ := h
  rw [iterTrans_eq hw, iterTrans_eq hw, List.map_map, List.map_map] at hbytes
  obtain ⟨r, j1, j2, j3, j4, j5, j6, j7⟩ := copyNextGo_tr su sa (tc sa) (tc su)
    (m.sparse.size + 1) m none none (hw.tchain su) (hw.tchain sa) (hw.tnodup sa)
    (fun i hi => hw.tdisj su sa hne i hi) (hw.tlt sa)
    (by simpa using (congrArg List.length hbytes).symm) (Nat.le_succ_of_le (hw.tlen sa))
  refine ⟨r, j1, ?_⟩
  have hs := (hw.step_next sa j2 j3 j4 j5 j6).2
  rw [show (tc sa).map (kv r) = m.iterTrans su by
    rw [iterTrans_eq hw]
    show (tc sa).map (fun a => ((r.tr a).byte, (r.tr a).next)) =
      (tc su).map fun u => ((m.tr u).byte, (m.tr u).next)
    rw [← List.zip_map', ← List.zip_map', j7,
      List.map_congr_left (g := Prod.fst ∘ kv m) fun i _ => (j5 i).2]
    exact congrArg (List.zip · _) hbytes] at hs
  exact hs

/-! ## `states[sid].fail = f` -/

theorem setFail_step {m : MemNfa} (h : MemOK m) {sid : Nat} (hp : sid < m.states.size) (f : Nat) :
    Step m (m.setFail sid f) sid { absState m sid with fail := f } := by
  have hst : ∀ s, (m.setFail sid f).st s =
      if s = sid then { m.st sid with fail := f } else m.st s := by
    intro s
    rw [show (m.setFail sid f).st s = _ from st_setSt m sid _ s]
    by_cases e : s = sid
    · rw [if_pos ⟨e, hp⟩, if_pos e]
    · rw [if_neg (fun h => e h.1), if_neg e]
  have hheads : ∀ s, ((m.setFail sid f).st s).sparse = (m.st s).sparse ∧
      ((m.setFail sid f).st s).matches_ = (m.st s).matches_ := by
    intro s; rw [hst]; split
    · rename_i e; rw [e]; exact ⟨rfl, rfl⟩
    · exact ⟨rfl, rfl⟩
  have ht : ∀ s, (m.setFail sid f).iterTrans s = m.iterTrans s :=
    fun s => iterTrans_congr (m := m) (m' := m.setFail sid f) rfl (hheads s).1
  have hm : ∀ s, (m.setFail sid f).iterMatches s = m.iterMatches s :=
    fun s => iterMatches_congr (m := m) (m' := m.setFail sid f) rfl (hheads s).2
  obtain ⟨tc, mc, hw⟩ := h
  refine ⟨⟨tc, mc, hw.congr rfl rfl (fun _ => ⟨rfl, rfl⟩) hw.tsent hheads⟩,
    states_size_setSt .., ?_, fun s hs => ?_, rfl, rfl⟩
  · unfold absState
    rw [ht, hm, hst, if_pos rfl]
  · unfold absState
    rw [ht, hm, hst, if_neg hs]

/-! ## `set_anchored_start_state` -/

/-- **`set_anchored_start_state`**: the anchored start gets the transitions of the unanchored
start, its matches behind its own, and the failure link `DEAD` -/
theorem setAnchoredStartState_step {m : MemNfa} (h : MemOK m) {su sa : Nat}
    (hp : sa < m.states.size) (hne : su ≠ sa)
    (hbytes : (m.iterTrans sa).map Prod.fst = (m.iterTrans su).map Prod.fst) :
    ∃ r, m.setAnchoredStartState su sa = some r ∧
      Step m r sa { trans := m.iterTrans su, fail := DEAD,
                    matches_ := m.iterMatches sa ++ m.iterMatches su } := by
  obtain ⟨r1, a1, s1⟩ := copyNext_step h hne hbytes
  have s2 := copyMatches_step s1.ok (s1.states ▸ hp) hne
  have s3 := setFail_step s2.ok (s2.states.trans s1.states ▸ hp) DEAD
  refine ⟨(r1.copyMatches su sa).setFail sa DEAD, ?_, ?_⟩
  · unfold setAnchoredStartState
    rw [a1]; rfl
  · have hsu : r1.iterMatches su = m.iterMatches su :=
      congrArg CState.matches_ (s1.frame su hne)
    have := (s1.trans s2).trans s3
    rw [s2.self, s1.self, hsu] at this
    exact this

end AcVerif.MemP
