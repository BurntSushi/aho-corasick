import AcVerif.Proofs.SpecBase
/-!
# Span = sub-slice, at the level of the specification

The occurrences, the admissible occurrences and the `IsFind` answers for the span `[st, e - s]` of
the sub-slice `hay[s..e)` are, translated by `s`, those for the span `[st + s, e]` of `hay`
(`occ_slice_at`, `occA_slice_at`, `find_slice_at`; `st = 0` is the whole sub-slice), and all of
them only read `hay[s..e)` (`occ_frame`, `occA_frame`, `find_frame`).

`EngP`: lemmas about the specification (`AcVerif/Spec.lean`) and the generic search engine
(`AcVerif/Engine/`) rather than about one automaton construction: the specification under slicing
(here), the best member and the sorted enumeration of a set of matches and the orders on
occurrences (`SpecBase`), the transfer of every search result along observational equivalence
(`Transfer`), and the statement that joins the standard and the leftmost development of the
searches on the ideal automaton (`EngFind`).
-/
namespace AcVerif
variable {α : Type}

def Mat.shift (m : Mat) (d : Nat) : Mat := { m with start := m.start + d, stop := m.stop + d }

@[simp] theorem Mat.shift_pid (m : Mat) (d : Nat) : (m.shift d).pid = m.pid := rfl
@[simp] theorem Mat.shift_start (m : Mat) (d : Nat) : (m.shift d).start = m.start + d := rfl
@[simp] theorem Mat.shift_stop (m : Mat) (d : Nat) : (m.shift d).stop = m.stop + d := rfl

namespace EngP
variable (P : List (List α)) (hay : List α) (s e : Nat)

theorem shift_inj {a b : Mat} {d : Nat} (h : a.shift d = b.shift d) : a = b := by
  cases a; cases b
  simp only [Mat.shift, Mat.mk.injEq] at h ⊢
  omega

theorem better_shift (k : MatchKind) (a b : Mat) (d : Nat) :
    better k (a.shift d) (b.shift d) ↔ better k a b := by
  cases k <;>
    simp only [better, betterStd, betterLF, betterLL, Mat.shift_pid, Mat.shift_start,
      Mat.shift_stop, Nat.add_lt_add_iff_right, Nat.add_right_cancel_iff]

theorem ovlBefore_shift (a b : Mat) (d : Nat) :
    ovlBefore (a.shift d) (b.shift d) ↔ ovlBefore a b := by
  simp only [ovlBefore, Mat.shift_pid, Mat.shift_start, Mat.shift_stop,
    Nat.add_lt_add_iff_right, Nat.add_right_cancel_iff]

theorem prefix_drop_take_iff (p hay : List α) (e st : Nat) (h : st + p.length ≤ e) :
    p <+: (hay.take e).drop st ↔ p <+: hay.drop st := by
  rw [List.drop_take, List.prefix_take_iff]
  constructor
  · exact fun h => h.1
  · exact fun h' => ⟨h', by omega⟩

theorem isOcc_iff_slice (m : Mat) :
    IsOcc P hay s e m ↔ ∃ p, P[m.pid]? = some p ∧ s ≤ m.start ∧ m.stop = m.start + p.length ∧
      m.stop ≤ e ∧ p <+: ((hay.take e).drop s).drop (m.start - s) := by
  refine exists_congr fun p => and_congr_right fun _ => and_congr_right fun h2 =>
    and_congr_right fun h3 => and_congr_right fun h4 => ?_
  rw [List.drop_drop, Nat.add_sub_cancel' h2, prefix_drop_take_iff _ _ _ _ (h3 ▸ h4)]

theorem occ_slice_at (P : List (List α)) (hay : List α) (s e st : Nat) (hse : s ≤ e) (m : Mat) :
    IsOcc P ((hay.take e).drop s) st (e - s) m ↔ IsOcc P hay (st + s) e (m.shift s) := by
  simp only [IsOcc, Mat.shift_pid, Mat.shift_start, Mat.shift_stop, List.drop_drop,
    Nat.add_comm s m.start]
  refine exists_congr fun p => and_congr_right fun _ => ?_
  constructor
  · rintro ⟨h2, h3, h4, h5⟩
    exact ⟨by omega, by omega, by omega, (prefix_drop_take_iff p hay e _ (by omega)).1 h5⟩
  · rintro ⟨h2, h3, h4, h5⟩
    exact ⟨by omega, by omega, by omega, (prefix_drop_take_iff p hay e _ (by omega)).2 h5⟩

theorem occ_inside (m : Mat)
    (h : IsOcc P hay s e m) : s ≤ m.start ∧ m.start ≤ m.stop ∧ m.stop ≤ e := by
  obtain ⟨p, _, h2, h3, h4, _⟩ := h
  omega

theorem not_occ_of_lt {P : List (List α)} {hay : List α} {s e : Nat} (h : e < s) (m : Mat) :
    ¬ IsOcc P hay s e m :=
  fun hm => by have := occ_inside P hay s e m hm; omega

theorem shift_surj_of_le (m : Mat) (s : Nat) (h1 : s ≤ m.start) (h2 : m.start ≤ m.stop) :
    ∃ m' : Mat, m = m'.shift s := by
  refine ⟨⟨m.pid, m.start - s, m.stop - s⟩, ?_⟩
  cases m
  simp only [Mat.shift, Mat.mk.injEq, true_and] at h1 h2 ⊢
  omega

theorem occ_frame (P : List (List α)) (hay hay' : List α) (s e : Nat)
    (hsame : (hay.take e).drop s = (hay'.take e).drop s) (m : Mat) :
    IsOcc P hay s e m ↔ IsOcc P hay' s e m := by
  rw [isOcc_iff_slice, isOcc_iff_slice, hsame]

/-! ### admissible occurrences -/

theorem occA_slice_at (P : List (List α)) (hay : List α) (s e st : Nat) (hse : s ≤ e)
    (anch : Bool) (m : Mat) :
    IsOccA P ((hay.take e).drop s) st (e - s) anch m ↔
      IsOccA P hay (st + s) e anch (m.shift s) := by
  unfold IsOccA
  rw [occ_slice_at P hay s e st hse m, Mat.shift_start]
  constructor
  · rintro ⟨h1, h2⟩; exact ⟨h1, fun h => by have := h2 h; omega⟩
  · rintro ⟨h1, h2⟩; exact ⟨h1, fun h => by have := h2 h; omega⟩

theorem occA_slice_at_surj (P : List (List α)) (hay : List α) (s e st : Nat) (anch : Bool)
    (m : Mat) (h : IsOccA P hay (st + s) e anch m) : ∃ m' : Mat, m = m'.shift s := by
  have := occ_inside P hay (st + s) e m h.1
  exact shift_surj_of_le m s (by omega) this.2.1

theorem occA_frame (P : List (List α)) (hay hay' : List α) (s e : Nat)
    (hsame : (hay.take e).drop s = (hay'.take e).drop s) (anch : Bool) (m : Mat) :
    IsOccA P hay s e anch m ↔ IsOccA P hay' s e anch m := by
  unfold IsOccA
  rw [occ_frame P hay hay' s e hsame m]

/-! ### the `IsFind` answers -/

theorem find_slice_at (k : MatchKind) (P : List (List α)) (hay : List α) (s e st : Nat)
    (hse : s ≤ e) (anch : Bool) (r : Option Mat) :
    IsFind k P ((hay.take e).drop s) st (e - s) anch r ↔
      IsFind k P hay (st + s) e anch (r.map (·.shift s)) :=
  isFind_iff_best.trans <| (IsBest.map (·.shift s) (occA_slice_at P hay s e st hse anch)
    (occA_slice_at_surj P hay s e st anch) (fun a b => better_shift k a b s) r).trans
    isFind_iff_best.symm

theorem find_frame (k : MatchKind) (P : List (List α)) (hay hay' : List α) (s e : Nat)
    (hsame : (hay.take e).drop s = (hay'.take e).drop s) (anch : Bool) (r : Option Mat) :
    IsFind k P hay s e anch r ↔ IsFind k P hay' s e anch r :=
  isFind_iff_best.trans <| (IsBest.congr (occA_frame P hay hay' s e hsame anch) r).trans
    isFind_iff_best.symm

end EngP
end AcVerif
