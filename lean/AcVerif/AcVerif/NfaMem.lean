/-!
# L1c-mem: the linked-list memory layer of the noncontiguous NFA

`AcVerif/Compiler.lean` transcribes the noncontiguous NFA compiler over an
abstract state (`CState`: a sorted association list of transitions and a list
of pattern ids).  The Rust `NFA` (`src/nfa/noncontiguous.rs`) stores both as
*linked lists inside shared vectors*:

* `State { sparse, dense, matches, fail, depth }` (lines 712-750): `sparse` is
  the head link into `nfa.sparse`, `matches` the head link into `nfa.matches`;
* `nfa.sparse : Vec<Transition { byte, next, link }>` (lines 773-777);
* `nfa.matches : Vec<Match { pid, link }>` (lines 810-813);
* index 0 of both side vectors is a dummy (`Compiler::compile`, lines 972-973),
  so `link == 0` ends a list.

This file transcribes that layer: same walk order, same early exits, same
writes.  Loops are fuel bounded with `fuel = vector size + 1`.

Transcribed: `alloc_state`, `alloc_transition`, `alloc_match`, `iter_trans`,
`iter_matches`, `next_link`, `follow_transition_sparse`, `add_transition`,
`init_full_state`, `add_match`, `copy_matches`, `State::is_match`, and the three
places where the compiler itself walks a list and writes `next` in place
(`add_unanchored_start_state_loop`, `close_start_state_loop_for_leftmost`,
`set_anchored_start_state`), plus the preamble of `Compiler::compile`.
The refinement theorems are in `AcVerif/Theorems/L1cMem.lean` and the
`AcVerif/Proofs/NfaMem*.lean` files that its table names.

Not modelled (and why):
* `StateID::new(len)` overflow errors in `alloc_*` / `copy_matches`: ids are `Nat`;
* the `dense` table (`State::dense`, lines 387-391 of `add_transition`):
  `add_transition` and `init_full_state` only run before `densify`, when every
  `dense` is zero;
* out-of-bounds panics of `self.sparse[i]` / `self.matches[i]`: reads use `getD`
  with the `Default` value, writes are `setIfInBounds`.  Under the representation
  invariant `MemOK` (`AcVerif/Proofs/NfaMemStep.lean`, described in
  `AcVerif/Theorems/L1cMem.lean`) every access is in bounds.
-/
namespace AcVerif

/-- `State` (lines 712-750) without `dense` -/
structure MState where
  sparse : Nat := 0
  matches_ : Nat := 0
  fail : Nat := 0
  depth : Nat := 0
deriving Repr, Inhabited, DecidableEq

/-- `Transition` (lines 773-777); the default is `Transition::default()` -/
structure MTrans where
  byte : UInt8 := 0
  next : Nat := 0
  link : Nat := 0
deriving Repr, Inhabited, DecidableEq

/-- `Match` (lines 810-813); the default is `Match::default()` -/
structure MMatch where
  pid : Nat := 0
  link : Nat := 0
deriving Repr, Inhabited, DecidableEq

structure MemNfa where
  states : Array MState
  sparse : Array MTrans
  matches_ : Array MMatch
deriving Repr, Inhabited, DecidableEq

namespace MemNfa

/-- `NFA::FAIL` (line 221) -/
def FAIL : Nat := 1

/-- the `NFA` value of `Compiler::new` (lines 948-960) after the two dummy pushes
`self.nfa.sparse.push(Transition::default())`, `self.nfa.matches.push(Match::default())`
of `Compiler::compile` (lines 972-973) -/
def empty : MemNfa := { states := #[], sparse := #[{}], matches_ := #[{}] }

/-- `self.states[i]` -/
def st (m : MemNfa) (i : Nat) : MState := m.states.getD i {}
/-- `self.sparse[i]` -/
def tr (m : MemNfa) (i : Nat) : MTrans := m.sparse.getD i {}
/-- `self.matches[i]` -/
def mt (m : MemNfa) (i : Nat) : MMatch := m.matches_.getD i {}

/-- `self.sparse[i] = t` -/
def setTr (m : MemNfa) (i : Nat) (t : MTrans) : MemNfa :=
  { m with sparse := m.sparse.setIfInBounds i t }
/-- `self.matches[i] = x` -/
def setMt (m : MemNfa) (i : Nat) (x : MMatch) : MemNfa :=
  { m with matches_ := m.matches_.setIfInBounds i x }
/-- `self.states[i] = s` -/
def setSt (m : MemNfa) (i : Nat) (s : MState) : MemNfa :=
  { m with states := m.states.setIfInBounds i s }

/-- `alloc_state` (lines 568-585); `fail` is the value of
`self.special.start_unanchored_id` at the time of the call (which is still `0` for
the first three states, see `Compiler::compile` lines 979-987) -/
def allocState (m : MemNfa) (depth fail : Nat) : MemNfa × Nat :=
  ({ m with states := m.states.push { sparse := 0, matches_ := 0, fail := fail, depth := depth } },
    m.states.size)

/-- `alloc_transition` (lines 527-533) -/
def allocTransition (m : MemNfa) : MemNfa × Nat :=
  ({ m with sparse := m.sparse.push {} }, m.sparse.size)

/-- `alloc_match` (lines 537-543) -/
def allocMatch (m : MemNfa) : MemNfa × Nat :=
  ({ m with matches_ := m.matches_.push {} }, m.matches_.size)

/-! ## iteration -/

/-- the closure of `iter_trans` (lines 286-293): `link` is its captured variable -/
def iterTransGo (m : MemNfa) : Nat → Nat → List (UInt8 × Nat)
  | 0, _ => []
  | fuel + 1, link =>
    if link = 0 then []
    else
      let t := m.tr link
      (t.byte, t.next) :: iterTransGo m fuel t.link

/-- `iter_trans(sid)` (lines 281-294), as the list of `(byte, next)` it yields -/
def iterTrans (m : MemNfa) (sid : Nat) : List (UInt8 × Nat) :=
  iterTransGo m (m.sparse.size + 1) (m.st sid).sparse

/-- the closure of `iter_matches` (lines 302-309) -/
def iterMatchesGo (m : MemNfa) : Nat → Nat → List Nat
  | 0, _ => []
  | fuel + 1, link =>
    if link = 0 then []
    else
      let x := m.mt link
      x.pid :: iterMatchesGo m fuel x.link

/-- `iter_matches(sid)` (lines 297-310), as the list of pattern ids it yields -/
def iterMatches (m : MemNfa) (sid : Nat) : List Nat :=
  iterMatchesGo m (m.matches_.size + 1) (m.st sid).matches_

/-! ## `follow_transition_sparse` -/

/-- the `for t in self.iter_trans(sid)` loop of `follow_transition_sparse`
(lines 365-373): leaves the loop at the first `t` with `byte <= t.byte` -/
def followGo (m : MemNfa) (byte : UInt8) : Nat → Nat → Nat
  | 0, _ => FAIL
  | fuel + 1, link =>
    if link = 0 then FAIL
    else
      let t := m.tr link
      if byte ≤ t.byte then
        if byte = t.byte then t.next else FAIL
      else followGo m byte fuel t.link

/-- `follow_transition_sparse(sid, byte)` (lines 364-374) -/
def followTransitionSparse (m : MemNfa) (sid : Nat) (byte : UInt8) : Nat :=
  followGo m byte (m.sparse.size + 1) (m.st sid).sparse

/-! ## `add_transition` -/

/-- the `while link_next != 0 && byte > self.sparse[link_next].byte` loop
(lines 409-413); returns `(link_prev, link_next)` -/
def addTransWalk (m : MemNfa) (byte : UInt8) : Nat → Nat → Nat → Nat × Nat
  | 0, lp, ln => (lp, ln)
  | fuel + 1, lp, ln =>
    if ln ≠ 0 ∧ (m.tr ln).byte < byte then addTransWalk m byte fuel ln (m.tr ln).link
    else (lp, ln)

/-- `add_transition(prev, byte, next)` (lines 381-423), minus the `dense` update
(lines 387-391).  The `assert_eq!` of line 419 cannot fail: the loop left with
`link_next != 0`, `!(byte > b)` and the `if` with `!(byte < b)`. -/
def addTransition (m : MemNfa) (prev : Nat) (byte : UInt8) (next : Nat) : MemNfa :=
  let head := (m.st prev).sparse                                             -- 393
  if head = 0 ∨ byte < (m.tr head).byte then                                 -- 394
    let (m, newLink) := m.allocTransition                                    -- 395
    let m := m.setTr newLink { byte := byte, next := next, link := head }    -- 396
    m.setSt prev { m.st prev with sparse := newLink }                        -- 397
  else if byte = (m.tr head).byte then                                       -- 399
    m.setTr head { m.tr head with next := next }                             -- 400
  else
    let (lp, ln) := addTransWalk m byte (m.sparse.size + 1) head (m.tr head).link  -- 408-413
    if ln = 0 ∨ byte < (m.tr ln).byte then                                   -- 414
      let (m, link) := m.allocTransition                                     -- 415
      let m := m.setTr link { byte := byte, next := next, link := ln }       -- 416
      m.setTr lp { m.tr lp with link := link }                               -- 417
    else
      m.setTr ln { m.tr ln with next := next }                               -- 420

/-! ## `init_full_state` -/

/-- one round of the `for byte in 0..=255` loop (lines 451-461); the accumulator is
`(nfa, prev_link)` -/
def initFullStep (prev next : Nat) (acc : MemNfa × Nat) (byte : Nat) : MemNfa × Nat :=
  let (m, prevLink) := acc
  let (m, newLink) := m.allocTransition                                          -- 452
  let m := m.setTr newLink { byte := byte.toUInt8, next := next, link := 0 }     -- 453-454
  let m :=
    if prevLink = 0 then m.setSt prev { m.st prev with sparse := newLink }       -- 456
    else m.setTr prevLink { m.tr prevLink with link := newLink }                 -- 458
  (m, newLink)                                                                   -- 460

/-- `init_full_state(prev, next)` (lines 435-463).  The two `assert_eq!`s (lines
440-449: not dense, `self.states[prev].sparse == 0`) are preconditions of the
theorems; `initFullState?` checks the second one. -/
def initFullState (m : MemNfa) (prev next : Nat) : MemNfa :=
  ((List.range 256).foldl (initFullStep prev next) (m, 0)).1

/-- `init_full_state` with the assertion of lines 445-449 (`none` = panic) -/
def initFullState? (m : MemNfa) (prev next : Nat) : Option MemNfa :=
  if (m.st prev).sparse = 0 then some (m.initFullState prev next) else none

/-! ## `add_match`, `copy_matches` -/

/-- `while self.matches[link].link != 0 { link = self.matches[link].link }`
(lines 473-475 and 497-499).  Started at `link = 0` it reads the dummy entry
`self.matches[0]`, whose link is `0`, and stays at `0`. -/
def tailWalk (m : MemNfa) : Nat → Nat → Nat
  | 0, link => link
  | fuel + 1, link =>
    if (m.mt link).link ≠ 0 then tailWalk m fuel (m.mt link).link else link

/-- `add_match(sid, pid)` (lines 466-484) -/
def addMatch (m : MemNfa) (sid pid : Nat) : MemNfa :=
  let head := (m.st sid).matches_                                          -- 471
  let link := tailWalk m (m.matches_.size + 1) head                        -- 472-475
  let (m, newLink) := m.allocMatch                                         -- 476
  let m := m.setMt newLink { m.mt newLink with pid := pid }                -- 477
  if link = 0 then m.setSt sid { m.st sid with matches_ := newLink }       -- 479
  else m.setMt link { m.mt link with link := newLink }                     -- 481

/-- the `while link_src != 0` loop of `copy_matches` (lines 501-521); the loop
variables are `(nfa, link_dst, link_src)` -/
def copyLoop (dst : Nat) : Nat → MemNfa → Nat → Nat → MemNfa
  | 0, m, _, _ => m
  | fuel + 1, m, linkDst, linkSrc =>
    if linkSrc = 0 then m
    else
      let newLink := m.matches_.size                                               -- 502-508
      let m := { m with matches_ := m.matches_.push { pid := (m.mt linkSrc).pid, link := 0 } }  -- 509-512
      let m :=
        if linkDst = 0 then m.setSt dst { m.st dst with matches_ := newLink }      -- 514
        else m.setMt linkDst { m.mt linkDst with link := newLink }                 -- 516
      copyLoop dst fuel m newLink (m.mt linkSrc).link                              -- 519-520

/-- `copy_matches(src, dst)` (lines 490-523).  The fuel of the copy loop is taken
from the vector *before* the loop: the source list lives in that part.  (With
`src == dst` and a non-empty list the Rust loop chases its own tail and only stops
at the `StateID` overflow error; the compiler never calls it that way.) -/
def copyMatches (m : MemNfa) (src dst : Nat) : MemNfa :=
  let headDst := (m.st dst).matches_                                       -- 495
  let linkDst := tailWalk m (m.matches_.size + 1) headDst                  -- 496-499
  copyLoop dst (m.matches_.size + 1) m linkDst (m.st src).matches_         -- 500-521

/-- `State::is_match` (lines 754-756) -/
def isMatch (m : MemNfa) (sid : Nat) : Bool := (m.st sid).matches_ != 0

/-! ## the compiler's in-place rewrites of `next` (they walk the lists with `next_link`) -/

/-- `NFA::DEAD` (line 214) -/
def DEAD : Nat := 0

/-- `next_link(sid, prev)` (lines 322-334) -/
def nextLink (m : MemNfa) (sid : Nat) (prev : Option Nat) : Option Nat :=
  let link := match prev with
    | none => (m.st sid).sparse
    | some p => (m.tr p).link
  if link = 0 then none else some link

/-- `while let Some(link) = self.nfa.next_link(sid, prev_link) { prev_link = Some(link);
if self.nfa.sparse[link].next() == old { self.nfa.sparse[link].next = new; } }`:
the loops of `add_unanchored_start_state_loop` (lines 1610-1616) and of
`close_start_state_loop_for_leftmost` (lines 1636-1647, without the `dense` write) -/
def replaceNextGo (sid old new : Nat) : Nat → MemNfa → Option Nat → MemNfa
  | 0, m, _ => m
  | fuel + 1, m, prevLink =>
    match m.nextLink sid prevLink with
    | none => m
    | some link =>
      let m := if (m.tr link).next = old then m.setTr link { m.tr link with next := new } else m
      replaceNextGo sid old new fuel m (some link)

/-- `add_unanchored_start_state_loop` (lines 1608-1617) -/
def addUnanchoredStartStateLoop (m : MemNfa) (startUid : Nat) : MemNfa :=
  replaceNextGo startUid FAIL startUid (m.sparse.size + 1) m none

/-- `close_start_state_loop_for_leftmost` (lines 1631-1649); `leftmost` is
`self.builder.match_kind.is_leftmost()` -/
def closeStartStateLoopForLeftmost (m : MemNfa) (startUid : Nat) (leftmost : Bool) : MemNfa :=
  if leftmost && m.isMatch startUid then
    replaceNextGo startUid startUid DEAD (m.sparse.size + 1) m none
  else m

/-- the lock-step loop of `set_anchored_start_state` (lines 1576-1587); `none` is the
`unreachable!()` of line 1582 (the two lists have different lengths) -/
def copyNextGo (startUid startAid : Nat) : Nat → MemNfa → Option Nat → Option Nat → Option MemNfa
  | 0, m, _, _ => some m
  | fuel + 1, m, uprev, aprev =>
    match m.nextLink startUid uprev, m.nextLink startAid aprev with
    | some ulink, some alink =>
      copyNextGo startUid startAid fuel
        (m.setTr alink { m.tr alink with next := (m.tr ulink).next }) (some ulink) (some alink)
    | none, none => some m
    | _, _ => none

/-- `set_anchored_start_state` (lines 1572-1597) -/
def setAnchoredStartState (m : MemNfa) (startUid startAid : Nat) : Option MemNfa :=
  match copyNextGo startUid startAid (m.sparse.size + 1) m none none with
  | none => none
  | some m =>
    let m := m.copyMatches startUid startAid                               -- 1588
    some (m.setSt startAid { m.st startAid with fail := DEAD })            -- 1595

/-- `self.nfa.states[sid].fail = f` (lines 1316, 1372, 1380) -/
def setFail (m : MemNfa) (sid f : Nat) : MemNfa := m.setSt sid { m.st sid with fail := f }

/-! ## the preamble of `Compiler::compile` (lines 972-994) -/

/-- the four `alloc_state(0)` calls (lines 979-987), `init_unanchored_start_state`
(lines 1560-1566) and `add_dead_state_loop` (lines 1654-1657) -/
def init : MemNfa :=
  let m := empty
  let m := (m.allocState 0 0).1      -- DEAD; `special.start_unanchored_id` is still 0
  let m := (m.allocState 0 0).1      -- FAIL
  let m := (m.allocState 0 0).1      -- unanchored start = 2 (assigned after the call)
  let m := (m.allocState 0 2).1      -- anchored start = 3
  let m := m.initFullState 2 FAIL
  let m := m.initFullState 3 FAIL
  m.initFullState 0 0

end MemNfa
end AcVerif
