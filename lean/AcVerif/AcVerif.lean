import AcVerif.Alphabet
import AcVerif.Aut
import AcVerif.Basic
import AcVerif.BuildChecked
import AcVerif.Cert
import AcVerif.Codec
import AcVerif.Compiler
import AcVerif.ContigChecked
import AcVerif.ContigModel
import AcVerif.Cost
import AcVerif.CostOverlap
import AcVerif.CostOverlapIter
import AcVerif.DenseModel
import AcVerif.DfaIds
import AcVerif.DfaModel
import AcVerif.Driver
import AcVerif.Engine.Find
import AcVerif.Engine.Gates
import AcVerif.Engine.History
import AcVerif.Engine.Iter
import AcVerif.Engine.Overlap
import AcVerif.Engine.Recipe
import AcVerif.Engine.Replace
import AcVerif.Engine.Stream
import AcVerif.Fold
import AcVerif.Ideal
import AcVerif.MemUsage
import AcVerif.NfaIds
import AcVerif.NfaMem
import AcVerif.NfaMemCompile
import AcVerif.Packed.Model
import AcVerif.Packed.Vector
import AcVerif.Pre.Builder
import AcVerif.PreScan
import AcVerif.Proofs.AlphabetClasses
import AcVerif.Proofs.AlphabetCompile
import AcVerif.Proofs.AlphabetTrie
import AcVerif.Proofs.BuildCheckedBase
import AcVerif.Proofs.BuildCheckedContig
import AcVerif.Proofs.BuildCheckedLoop
import AcVerif.Proofs.BuildCheckedMatches
import AcVerif.Proofs.BuildCheckedTop
import AcVerif.Proofs.BuildCheckedWf
import AcVerif.Proofs.Comap
import AcVerif.Proofs.Common
import AcVerif.Proofs.CompilerBase
import AcVerif.Proofs.CompilerBfs
import AcVerif.Proofs.CompilerFail
import AcVerif.Proofs.CompilerFinal
import AcVerif.Proofs.CompilerMath
import AcVerif.Proofs.CompilerQueue
import AcVerif.Proofs.CompilerRun
import AcVerif.Proofs.CompilerStart
import AcVerif.Proofs.CompilerTrie
import AcVerif.Proofs.ContigBase
import AcVerif.Proofs.ContigDecode
import AcVerif.Proofs.ContigDefs
import AcVerif.Proofs.ContigIds
import AcVerif.Proofs.ContigLayout
import AcVerif.Proofs.ContigOut
import AcVerif.Proofs.ContigRun
import AcVerif.Proofs.ContigSafeDecode
import AcVerif.Proofs.ContigSafeStep
import AcVerif.Proofs.ContigScan
import AcVerif.Proofs.Contract
import AcVerif.Proofs.ContigSim
import AcVerif.Proofs.ContigSpec
import AcVerif.Proofs.ContigStep
import AcVerif.Proofs.ContigWrite
import AcVerif.Proofs.CostBounds
import AcVerif.Proofs.CostTotal
import AcVerif.Proofs.DenseRows
import AcVerif.Proofs.DfaBase
import AcVerif.Proofs.DfaBoth
import AcVerif.Proofs.DfaBothRows
import AcVerif.Proofs.DfaIdsAll
import AcVerif.Proofs.DfaIdsBoth
import AcVerif.Proofs.DfaIdsBothSim
import AcVerif.Proofs.DfaIdsOne
import AcVerif.Proofs.DfaIdsSim
import AcVerif.Proofs.DfaIxSim
import AcVerif.Proofs.DfaOne
import AcVerif.Proofs.DfaRow
import AcVerif.Proofs.Earliest
import AcVerif.Proofs.EngFind
import AcVerif.Proofs.EngSpan
import AcVerif.Proofs.FoldFacts
import AcVerif.Proofs.IterFacts
import AcVerif.Proofs.Layers
import AcVerif.Proofs.Leftmost
import AcVerif.Proofs.LeftmostAnch
import AcVerif.Proofs.LfReduce
import AcVerif.Proofs.ListArray
import AcVerif.Proofs.LmBasic
import AcVerif.Proofs.LmTop
import AcVerif.Proofs.Meta
import AcVerif.Proofs.NfaIdsBase
import AcVerif.Proofs.NfaIdsDense
import AcVerif.Proofs.NfaIdsRemapper
import AcVerif.Proofs.NfaIdsSim
import AcVerif.Proofs.NfaLive
import AcVerif.Proofs.NfaMemChain
import AcVerif.Proofs.NfaMemCompileAbs
import AcVerif.Proofs.NfaMemCompileBfs
import AcVerif.Proofs.NfaMemCompileFill
import AcVerif.Proofs.NfaMemCompileRel
import AcVerif.Proofs.NfaMemCompileTop
import AcVerif.Proofs.NfaMemCompileTrie
import AcVerif.Proofs.NfaMemFull
import AcVerif.Proofs.NfaMemInv
import AcVerif.Proofs.NfaMemMatch
import AcVerif.Proofs.NfaMemRewrite
import AcVerif.Proofs.NfaMemStep
import AcVerif.Proofs.NfaMemTrans
import AcVerif.Proofs.OvlScanBounds
import AcVerif.Proofs.OvlScanSingle
import AcVerif.Proofs.PackedPatterns
import AcVerif.Proofs.PackedRK
import AcVerif.Proofs.PackedTeddy
import AcVerif.Proofs.PreBuilderFacts
import AcVerif.Proofs.PreLoop
import AcVerif.Proofs.PreResumed
import AcVerif.Proofs.PreResumedCex
import AcVerif.Proofs.PreResumedIdeal
import AcVerif.Proofs.PreScanBounds
import AcVerif.Proofs.PreSound
import AcVerif.Proofs.PreTransparent
import AcVerif.Proofs.Renum
import AcVerif.Proofs.ScanMove
import AcVerif.Proofs.ShuffleDefs
import AcVerif.Proofs.ShuffleFlags
import AcVerif.Proofs.ShufflePerm
import AcVerif.Proofs.SearchEquiv
import AcVerif.Proofs.SpanSpec
import AcVerif.Proofs.SpecBase
import AcVerif.Proofs.Splice
import AcVerif.Proofs.Sweep
import AcVerif.Proofs.SweepLoops
import AcVerif.Proofs.Std
import AcVerif.Proofs.StdEngine
import AcVerif.Proofs.StdIdeal
import AcVerif.Proofs.StreamBase
import AcVerif.Proofs.StreamFold
import AcVerif.Proofs.StreamIdeal
import AcVerif.Proofs.StreamInv
import AcVerif.Proofs.StreamRef
import AcVerif.Proofs.StreamResume
import AcVerif.Proofs.StreamResumeCalls
import AcVerif.Proofs.StreamResumeRun
import AcVerif.Proofs.StreamSpec
import AcVerif.Proofs.StreamStep
import AcVerif.Proofs.StreamTransfer
import AcVerif.Proofs.Struct
import AcVerif.Proofs.TableEval
import AcVerif.Proofs.TopLevel2Reject
import AcVerif.Proofs.TopLevel2Span
import AcVerif.Proofs.TopLevel2Stream
import AcVerif.Proofs.TopLevelApi
import AcVerif.Proofs.TopLevelAut
import AcVerif.Proofs.TopLevelEval
import AcVerif.Proofs.TopLevelPre
import AcVerif.Proofs.TopLevelPreEarliest
import AcVerif.Proofs.TopLevelRef
import AcVerif.Proofs.Transfer
import AcVerif.Proofs.TrieRule
import AcVerif.Proofs.VecFind
import AcVerif.Proofs.VecMask
import AcVerif.Proofs.VecMembers
import AcVerif.Proofs.VecOps
import AcVerif.Proofs.VecVerify
import AcVerif.Spec
import AcVerif.StreamCost
import AcVerif.StreamResume
import AcVerif.Table
import AcVerif.Theorems.C01
import AcVerif.Theorems.C01Iter
import AcVerif.Theorems.C02
import AcVerif.Theorems.C02Iter
import AcVerif.Theorems.C03
import AcVerif.Theorems.C04
import AcVerif.Theorems.C04Kinds
import AcVerif.Theorems.C05
import AcVerif.Theorems.C05Resumed
import AcVerif.Theorems.C06
import AcVerif.Theorems.C06Vector
import AcVerif.Theorems.C07
import AcVerif.Theorems.C07Fold
import AcVerif.Theorems.C07Transfer
import AcVerif.Theorems.C08
import AcVerif.Theorems.C09
import AcVerif.Theorems.C10
import AcVerif.Theorems.C11
import AcVerif.Theorems.C11Leftmost
import AcVerif.Theorems.C12
import AcVerif.Theorems.C12Append
import AcVerif.Theorems.C13
import AcVerif.Theorems.C14
import AcVerif.Theorems.C15
import AcVerif.Theorems.C16
import AcVerif.Theorems.C16All
import AcVerif.Theorems.C17
import AcVerif.Theorems.C18
import AcVerif.Theorems.C18Resume
import AcVerif.Theorems.C19
import AcVerif.Theorems.C19OvlScan
import AcVerif.Theorems.C19OvlScanTied
import AcVerif.Theorems.C19Scan
import AcVerif.Theorems.C19Stream
import AcVerif.Theorems.C19Total
import AcVerif.Theorems.C20
import AcVerif.Theorems.C20Build
import AcVerif.Theorems.L1Alphabet
import AcVerif.Theorems.L1c
import AcVerif.Theorems.L1cDense
import AcVerif.Theorems.L1cFold
import AcVerif.Theorems.L1cIds
import AcVerif.Theorems.L1cMem
import AcVerif.Theorems.L1cMemCompile
import AcVerif.Theorems.L1cMemCompileDump
import AcVerif.Theorems.L1d
import AcVerif.Theorems.L1dFold
import AcVerif.Theorems.L1dIds
import AcVerif.Theorems.L1dIdsFold
import AcVerif.Theorems.L1e
import AcVerif.Theorems.L1eFold
import AcVerif.Theorems.L1eSafe
import AcVerif.Theorems.SpecUnique
import AcVerif.Theorems.TopLevel
import AcVerif.Theorems.TopLevel2
import AcVerif.Theorems.TopLevel2Examples
import AcVerif.Theorems.TopLevelExamples
import AcVerif.Theorems.TopLevelPre
import AcVerif.TopLevel
import AcVerif.TopLevel2
